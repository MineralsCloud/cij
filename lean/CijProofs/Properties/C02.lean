/-
  C02 — the adiabatic − isothermal gap is T·V·(∂P_ph/∂T)²/(9 e_i e_j C_V); zero at T = 0 and for shear.

  Subject: `isoToAdiaAt`, `valueAdiabatic…At` and the `calculate` loop of `CijModel/NonShear.lean` at ℝ
  (setting and notation as in `Properties/C01.lean`).  P_ph(T,V) = −∂F_ph/∂V (`Pof (Fph h k T w S) V`), and
  ∂P_ph/∂T is the `deriv` of T ↦ P_ph(T,V): the mixed derivative −∂²F_ph/∂T∂V of the same spectrum.
  C_V is whatever the QHA layer supplies (a parameter `cv ≠ 0`).
-/
import CijProofs.Lemmas.NonShearCalculus
import CijProofs.Lemmas.NonShearSource
import Generated.AdapterSpec
import CijProofs.Lemmas.ShearSource
import CijProofs.Lemmas.TasksSource
import CijProofs.Lemmas.QhaGlueSource

namespace Cij.C02

open Cij.NonShear

/-! #### one mode -/

/-- ∂/∂T of the thermal pressure (kT/V) γ Q₁(hω/kT) of one mode is (k/V) γ Q₂, at every T > 0 -/
theorem c02_mode_dPdT (k hdk T : ℝ) (hhdk : 0 < hdk) (hT : 0 < T) (m : Mode) (hm : m.Good) (V : ℝ) (hV : 0 < V) :
    let Q := fun T' => hdk * (m.ω V / T')
    HasDerivAt (fun T' => k * T' / V * m.γ V * (Q T' / (Real.exp (Q T') - 1)))
      (k / V * m.γ V * (Q T ^ 2 * Real.exp (Q T) / (Real.exp (Q T) - 1) ^ 2)) T := by
  intro Q
  have := hasDerivAt_pth_T k hdk T hhdk hT m hm V hV
  have hq : Q T ≠ 0 := (Qm_pos m hm hV hhdk hT).ne'
  simp only [pth, dpth, Qm, q1_real] at this
  rw [q2_eq_classic _ hq] at this
  exact this

/-! #### the gap formula -/

section Spectrum
variable (h k hdk : ℝ) (na : ℕ) (S : List (List Mode)) (w : List ℝ)
variable (hh : 0 < h) (hk : 0 < k) (hhdk : hdk = h / k)
variable (hna : na ≠ 0) (hlen : ∀ row ∈ S, row.length = 3 * na) (hw : sumL w ≠ 0) (hS : GoodS S)

/-- (∂P_ph/∂T)_V = −∂²F_ph/∂T∂V of the spectrum -/
noncomputable def dPdT (T V : ℝ) : ℝ := deriv (fun T' => Pof (Fph h k T' w S) V) T

include hh hk hhdk hna hlen hw hS in
/-- **C02, longitudinal class** (strain pair (e_i, e_j); the code passes (e_i, e_i)):
isothermal_to_adiabatic = T·V·(∂P_ph/∂T)²/(9 e_i e_j C_V) at every T ≥ 0, V > 0, C_V ≠ 0. -/
theorem c02_gap_longitudinal (T V ei ej pst cv : ℝ) (hT : 0 ≤ T) (hV : 0 < V) (_hei : ei ≠ 0) (_hej : ej ≠ 0)
    (_hcv : cv ≠ 0) :
    isoToAdiaAt k hdk na T V cv (mgLong (sliceOf S V ei ej pst)) (freqOf S V) w
      = T * V * (dPdT h k S w T V) ^ 2 / (9 * (ei * ej) * cv) :=
  isoToAdia_eq_deriv h k hdk na S w hh hk hhdk hna hlen hw hS (prefactorsLong ei ej) T V ei ej cv
    (prefactorsLong_p1 ei ej).1 (prefactorsLong_p1 ei ej).2 hT hV

include hh hk hhdk hna hlen hw hS in
/-- **C02, off-diagonal class**: the same formula with the two different strain fractions -/
theorem c02_gap_offdiagonal (T V ei ej pst cv : ℝ) (hT : 0 ≤ T) (hV : 0 < V) (_hei : ei ≠ 0) (_hej : ej ≠ 0)
    (_hcv : cv ≠ 0) :
    isoToAdiaAt k hdk na T V cv (mgOff (sliceOf S V ei ej pst)) (freqOf S V) w
      = T * V * (dPdT h k S w T V) ^ 2 / (9 * (ei * ej) * cv) :=
  isoToAdia_eq_deriv h k hdk na S w hh hk hhdk hna hlen hw hS (prefactorsOff ei ej) T V ei ej cv
    (prefactorsOff_p1 ei ej).1 (prefactorsOff_p1 ei ej).2 hT hV

include hh hk hhdk hna hlen hw hS in
/-- adiabatic − isothermal of c_ii and of c_ij, as the code computes `value_adiabatic` -/
theorem c02_adiabatic_minus_isothermal (T V ei ej P pst cv : ℝ) (hT : 0 ≤ T) (hV : 0 < V) (hei : ei ≠ 0)
    (hej : ej ≠ 0) (hcv : cv ≠ 0) :
    let c : Consts ℝ := { h := h, k := k, hdk := hdk, na := na }
    valueAdiabaticLongAt c w T cv (sliceOf S V ei ei pst) - valueIsothermalLongAt c w T (sliceOf S V ei ei pst)
      = T * V * (dPdT h k S w T V) ^ 2 / (9 * (ei * ei) * cv) ∧
    valueAdiabaticOffAt c w T P cv (sliceOf S V ei ej pst) - valueIsothermalOffAt c w T P (sliceOf S V ei ej pst)
      = T * V * (dPdT h k S w T V) ^ 2 / (9 * (ei * ej) * cv) := by
  intro c
  constructor
  · unfold valueAdiabaticLongAt
    rw [add_sub_cancel_left]
    exact c02_gap_longitudinal h k hdk na S w hh hk hhdk hna hlen hw hS T V ei ei pst cv hT hV hei hei hcv
  · unfold valueAdiabaticOffAt
    rw [add_sub_cancel_left]
    exact c02_gap_offdiagonal h k hdk na S w hh hk hhdk hna hlen hw hS T V ei ej pst cv hT hV hei hej hcv

end Spectrum

/-! #### sign and T = 0 — for arbitrary arrays (no hypothesis on the spectrum) -/

/-- on the diagonal (both strain fractions equal) the gap is ≥ 0 whenever C_V > 0, T ≥ 0, V > 0 -/
theorem c02_diag_nonneg (k hdk : ℝ) (na : ℕ) (T V cv e pst : ℝ) (freq mg0 mg1 mg2 : List (List ℝ)) (w : List ℝ)
    (hT : 0 ≤ T) (hV : 0 < V) (hcv : 0 < cv) :
    let s : VolSlice ℝ := { V := V, e0 := e, e1 := e, pstatic := pst, freq := freq, mg0 := mg0, mg1 := mg1, mg2 := mg2 }
    0 ≤ isoToAdiaAt k hdk na T V cv (mgLong s) s.freq w := by
  intro s
  unfold isoToAdiaAt
  by_cases h0 : T = 0
  · simp [h0]
  · simp only [isZero_real, h0, decide_false, Bool.false_eq_true, if_false]
    have hg : (mgLong s).g10 = (mgLong s).g11 := by
      simp [mgLong, modeGamma, prefactorsLong, prefactors, Generated.prefLong, s]
    rw [hg]
    have h1 : 0 ≤ T / V / cv := by positivity
    set a := averageOverModes (zw2 (· * ·) (Q2arr hdk T s.freq) (mgLong s).g11) w
    have : T / V / cv * a * a * (nat 3 * k * nat na * (nat 3 * k * nat na))
        = T / V / cv * ((a * (nat 3 * k * nat na)) * (a * (nat 3 * k * nat na))) := by ring
    rw [this]
    exact mul_nonneg h1 (mul_self_nonneg _)

/-- in the formula itself: T·V·x²/(9e²C_V) ≥ 0 -/
theorem c02_formula_nonneg (T V x e cv : ℝ) (hT : 0 ≤ T) (hV : 0 < V) (he : 0 < e) (hcv : 0 < cv) :
    0 ≤ T * V * x ^ 2 / (9 * (e * e) * cv) := by positivity

/-- rows with T = 0: the gap is exactly 0 and value_adiabatic = value_isothermal, for both classes -/
theorem c02_T0 (c : Consts ℝ) (w : List ℝ) (P cv : ℝ) (s : VolSlice ℝ) (g : ModeGamma ℝ) :
    isoToAdiaAt c.k c.hdk c.na 0 s.V cv g s.freq w = 0 ∧
    valueAdiabaticLongAt c w 0 cv s = valueIsothermalLongAt c w 0 s ∧
    valueAdiabaticOffAt c w 0 P cv s = valueIsothermalOffAt c w 0 P s := by
  simp [isoToAdiaAt, valueAdiabaticLongAt, valueAdiabaticOffAt]

/-! #### components carrying a Voigt index 4–6 -/

/-- shear.py: `value_adiabatic` *is* `value_isothermal` -/
theorem c02_shear_value_equal {κ β : Type} (target : Store κ β → β) (isoStore : Store κ β) :
    shearValueAdiabatic target isoStore = shearValueIsothermal target isoStore := rfl

/-- after `PhononContributionTaskList.calculate` over *any* task list (any order, any number of tasks, any
shear target functions), every shear key holds the same value in the adiabatic and the isothermal store -/
theorem c02_shear_equal {κ β : Type} [DecidableEq κ] (isShear : κ → Bool) (tasks : List (Task κ β))
    (hwf : ∀ t ∈ tasks, t.WF isShear) (key : κ) (hkey : isShear key = true) :
    (calculate tasks).1 key = (calculate tasks).2 key :=
  foldl_step_preserves isShear tasks hwf _ (fun _ _ => rfl) key hkey

/-! #### non-vacuity -/

/-- the hypotheses of the gap theorems are satisfiable (spectrum of `Properties/C01`), and for that spectrum
at h = k = 1, T = V = 1, e = 1/3, C_V = 1 the gap is a strictly positive number -/
example : GoodS [List.replicate 6 (invMode 100)] := goodS_replicate 6 100 (by norm_num)

example : 0 < isoToAdiaAt 1 1 2 1 1 1 (mgLong (sliceOf [List.replicate 6 (invMode 100)] 1 (1/3) (1/3) 0))
    (freqOf [List.replicate 6 (invMode 100)] 1) [2] := by
  rw [show mgLong (sliceOf [List.replicate 6 (invMode 100)] 1 (1/3) (1/3) 0)
      = modeGamma (prefactorsLong (1/3) (1/3)) (mg0Of [List.replicate 6 (invMode 100)] 1)
          (mg1Of [List.replicate 6 (invMode 100)] 1) (mg2Of [List.replicate 6 (invMode 100)] 1) from rfl]
  rw [isoToAdia_eq 1 1 2 [List.replicate 6 (invMode 100)] [2] 1 1 (1/3) (1/3) (by norm_num) (by simp) (by simp)
    (prefactorsLong (1/3) (1/3)) (prefactorsLong_p1 _ _).1 (prefactorsLong_p1 _ _).2 1 (by norm_num) (by norm_num)]
  have hq : 0 < q2 (100 : ℝ) := by
    rw [q2_eq_classic 100 (by norm_num)]
    have : Real.exp 100 - 1 ≠ 0 := exp_sub_one_ne (by norm_num)
    positivity
  have : dPth 1 1 1 [2] [List.replicate 6 (invMode 100)] 1 = 3 * q2 100 := by
    simp [dPth, wsum, dropΓ, List.replicate, dpth, Qm, invMode]; ring
  rw [this]; positivity

/-- a task list with a non-shear and a shear task, the shear one reading the isothermal store -/
example : (calculate (κ := Nat) (β := Int)
    [.nonShear 11 5 7, .shear 44 (fun st => (st 11).getD 0 + 1)]).2 44 = some 6 := by
  decide

/-! #### the model IS the source (bodies of `isothermal_to_adiabatic` and `value_adiabatic` re-extracted from nonshear.py
on this run; see the corresponding section of `Properties/C01.lean`) -/

open Cij.NSExpr in
theorem c02_model_is_source (c : Consts ℝ) (w : List ℝ) (T P cv : ℝ) (s : VolSlice ℝ) (g : ModeGamma ℝ) (a b d e : ℝ) :
    isoToAdiaAt c.k c.hdk c.na T s.V cv g s.freq w = evalBody (envAt c w T P cv s g a b d e) Generated.nsGapLong ∧
    isoToAdiaAt c.k c.hdk c.na T s.V cv g s.freq w = evalBody (envAt c w T P cv s g a b d e) Generated.nsGapOff ∧
    valueAdiabaticLongAt c w T cv s = evalBody (envAt c w T P cv s (mgLong s) a b (valueIsothermalLongAt c w T s)
        (isoToAdiaAt c.k c.hdk c.na T s.V cv (mgLong s) s.freq w)) Generated.nsAdiaLong ∧
    valueAdiabaticOffAt c w T P cv s = evalBody (envAt c w T P cv s (mgOff s) a b (valueIsothermalOffAt c w T P s)
        (isoToAdiaAt c.k c.hdk c.na T s.V cv (mgOff s) s.freq w)) Generated.nsAdiaOff :=
  ⟨isoToAdiaLong_is_source c w T P cv s g a b d e, isoToAdiaOff_is_source c w T P cv s g a b d e,
    valueAdiabaticLong_is_source c w T P cv s a b, valueAdiabaticOff_is_source c w T P cv s a b⟩

/-! #### the heat capacity handed over is the (T,V) field -/

/-- qha's (T,V)-grid fields and (T,P)-grid fields (its naming: `…_tv…` / `…_tp…`), and the grid arrays; `""` in `gridArrays` is
`Generated/AdapterSpec.lean`'s entry for a property that raises NotImplementedError (`entropies`) -/
def tvFields : List String := ["g_tv_ry", "f_tv_ry", "h_tv_ry", "u_tv_ry", "p_tv_au", "p_tv_gpa", "alpha_tv", "bt_tv_au", "bs_tv_au", "cv_tv_au", "s_tv_j"]
def tpFields : List String := ["g_tp_ry", "f_tp_ry", "h_tp_ry", "u_tp_ry", "v_tp_bohr3", "v_tp_ang3", "alpha_tp", "bt_tp_au", "bs_tp_au",
  "cv_tp_au", "cp_tp_au", "gamma_tp", "btp_tp"]
def gridArrays : List String := ["finer_volumes_bohr3", "desired_pressures", "temperature_array", "temperature_sample_array", ""]

/-- **adapter-is-source**: as translated from `qha_adapter.py` on this run, `QHAVolumeBaseInterface.heat_capacity` is qha's
`cv_tv_au` (C_V on the (T,V) grid, the field the formula divides by) and `.pressures` is `p_tv_au`; every array the volume
interface hands over is a (T,V) field or a grid array, never a (T,P) field; symmetrically for the pressure interface
(`volumes = v_tp_bohr3`, `p_array = desired_pressures`); `read_input` passes the file's fields unchanged.  A one-token slip
between the two interfaces changes the generated tables and this theorem stops checking. -/
theorem qha_adapter_fields_are_source :
    Generated.qhaVolumeBaseAttrs.lookup "heat_capacity" = some "cv_tv_au" ∧
    Generated.qhaVolumeBaseAttrs.lookup "pressures" = some "p_tv_au" ∧
    Generated.qhaPressureBaseAttrs.lookup "volumes" = some "v_tp_bohr3" ∧
    Generated.qhaPressureBaseAttrs.lookup "p_array" = some "desired_pressures" ∧
    (∀ e ∈ Generated.qhaVolumeBaseAttrs, e.2 ∈ tvFields ++ gridArrays) ∧
    (∀ e ∈ Generated.qhaPressureBaseAttrs, e.2 ∈ tpFields ++ gridArrays) ∧
    (∀ a ∈ tvFields, a ∉ tpFields) ∧
    Generated.qhaReadInputCanonical = true := by
  decide +kernel

/-! #### the glue IS the source: `cij/core/qha_adapter.py` and `cij/util/units.py` translated completely (tools/gens/qha_src.py →
Generated/QhaGlue.lean; meaning in CijModel/QhaGlue.lean, lemmas in Lemmas/QhaGlueSource.lean).  Which C_V, which pressure, on which
grid, in which units the gap T·V·(∂P/∂T)²/(9 e_i e_j C_V) is evaluated — re-read from the files on every run. -/

open Cij.QhaGlue in
/-- **inventory**: all 38 defs of qha_adapter.py and all 10 defs of units.py are translated as data (every statement inside the
grammar; `desired_pressure_status` by adapter_guard.py), none defined twice; classes, bases and module-level statements by kind
(imports, logger, classes; docstring, `_T`, the default `pint.UnitRegistry()`, `__all__`, defs) — nothing else is in the files -/
theorem c02_glue_is_source_inventory : AdapterInventory ∧ UnitsInventory :=
  ⟨adapter_inventory, units_inventory⟩

open Cij.QhaGlue Generated.QhaGlue in
/-- **the fields of the gap formula are the (T,V) fields on the adapter's own volume grid**.  Reading through the translated
properties and `__init__`s (abstract object graph): the adapter's `v_array` and `volume_base.v_array` are the same attribute
`finer_volumes_bohr3` of the ONE qha calculator `_load_qha_calculator` returns; `volume_base.heat_capacity` is its `cv_tv_au`,
`volume_base.pressures` its `p_tv_au`, `t_array` its `temperature_array` (not the sample array), `ntv = len(v_array)` -/
theorem c02_glue_is_source_fields :
    readChain adapterModule adapterObj ["v_array"] = some (.attr qhaObj "finer_volumes_bohr3") ∧
    readChain adapterModule adapterObj ["volume_base", "v_array"] = some (.attr qhaObj "finer_volumes_bohr3") ∧
    readChain adapterModule adapterObj ["volume_base", "heat_capacity"] = some (.attr qhaObj "cv_tv_au") ∧
    readChain adapterModule adapterObj ["volume_base", "pressures"] = some (.attr qhaObj "p_tv_au") ∧
    readChain adapterModule adapterObj ["t_array"] = some (.attr qhaObj "temperature_array") ∧
    readChain adapterModule adapterObj ["t_sample_array"] = some (.attr qhaObj "temperature_sample_array") ∧
    readChain adapterModule adapterObj ["ntv"] = some (.len (.attr qhaObj "finer_volumes_bohr3")) ∧
    GapFields := by
  obtain ⟨-, hv, hvv, hcv, hp, ht, -, -, hts, hntv, -, -⟩ := object_graph_facts.1
  exact ⟨hv, hvv, hcv, hp, ht, hts, hntv, object_graph_facts.1⟩

open Cij.QhaGlue in
/-- **objects and tables**: `calculator`, `volume_base_results`, `pressure_base_results` are assigned once, in `__init__` (every read of
`volume_base` / `pressure_base` returns the object made at construction; `v2p` is `pass`); the property → attribute tables of
`gen_adapter_spec` agree row by row with the object-graph reading -/
theorem c02_glue_is_source_objects : ObjectsStable ∧ TablesAgree := ⟨objects_stable, object_graph_facts.2.1⟩

open Cij.QhaGlue in
/-- **which grid**: `_load_qha_calculator` calls `read_input(qha_input)` → `refine_grid()` → `desired_pressure_status()` on the calculator
it returns (this translation and adapter_guard.py's agree), so the fields are those of the refined grid; cij's `Calculator` defines no
`v_array` / `t_array` and delegates unknown attributes to `qha_calculator` (calc_src.py), and the non-shear classes read
`self.calculator.v_array`, `.t_array`, `.qha_calculator` (nonshear_src.py) -/
theorem c02_glue_is_source_grid :
    loadCalls = Generated.adapterLoadCalls ∧
    loadCalls = [("read_input", "qha_input"), ("refine_grid", ""), ("desired_pressure_status", "")] ∧ Delegation :=
  ⟨load_calls_agree.1, load_calls_agree.2, delegation⟩

open Cij.QhaGlue in
/-- **`read_input`** (every ordered scalar type, `Float` included): the translated statements hand qha the file's five fields
unchanged when `qha.tools.is_monotonic_decreasing(volumes)`, and raise RuntimeError otherwise -/
theorem c02_glue_is_source_read_input {α : Type} [Sub α] [LE α] [DecidableLE α] [OfNat α 0] (vols : List α) :
    runReadInput vols readInputBody [] =
      some (if isMonotonicDecreasing vols then .ok fiveFields else .error "RuntimeError") :=
  read_input_is_source vols

open Cij.QhaGlue in
/-- **volume blocks not in decreasing order are rejected** (the source's behaviour behind C13's "or is rejected"): over ℝ, ℚ, ℤ — any
linearly ordered additive group — a list of volumes is accepted iff every volume is ≤ its predecessor, and one increase anywhere
raises RuntimeError before anything is computed -/
theorem c02_glue_is_source_volume_order {α : Type} [AddCommGroup α] [LinearOrder α] [IsOrderedAddMonoid α] (vols : List α) :
    (runReadInput vols readInputBody [] = some (.ok fiveFields) ↔ ∀ i (h : i + 1 < vols.length), vols[i + 1] ≤ vols[i]) ∧
    ((∃ i, ∃ h : i + 1 < vols.length, vols[i] < vols[i + 1]) → runReadInput vols readInputBody [] = some (.error "RuntimeError")) :=
  read_input_accepts_iff vols

open Cij.QhaGlue Generated.QhaGlue in
/-- **`convert_unit`**: value form = `conv uFrom uTo v`, curried form = the function `conv uFrom uTo` (first argument the source unit),
for every unit type and every `conv` standing for pint's `Quantity(x, u).to(u').magnitude` -/
theorem c02_glue_is_source_convert_unit {U α : Type} (conv : U → U → α → α) (uFrom uTo : U) :
    (∀ v : α, convertUnit.meaning conv uFrom uTo (some v) = some (.value (conv uFrom uTo v))) ∧
    convertUnit.meaning conv uFrom uTo none = some (.function (conv uFrom uTo)) :=
  convert_unit_is_source conv uFrom uTo

open Cij.QhaGlue in
/-- **the unit helpers**: the nine `_to_*` / `_from_*` convert between units of one SI dimension (ℤ-exponent vectors); the four
`_from_x` are `_to_x` with source and target exchanged; C18's table of helpers is a sub-table of this one -/
theorem c02_glue_is_source_helpers :
    HelpersDimensional ∧ helperPairs.all pairInverse = true ∧ (∀ h ∈ Generated.staticUnitHelpers, h ∈ Generated.QhaGlue.unitHelpers) :=
  ⟨helpers_dimensional, pairs_inverse, helpers_agree_with_static⟩

open Cij.QhaGlue Cij.StaticSrc in
/-- **`_to_gpa ∘ _from_gpa = id`** (and the three other pairs, both ways), for every value and whatever non-zero values pint gives
the unit names -/
theorem c02_glue_is_source_roundtrip (base : String → ℝ) (p : String × String) (hp : p ∈ helperPairs) (a b : UnitHelper)
    (ha : helper? p.1 = some a) (hb : helper? p.2 = some b) (h1 : a.src.val base ≠ 0) (h2 : a.dst.val base ≠ 0) (v : ℝ) :
    v * a.factor base * b.factor base = v ∧ v * b.factor base * a.factor base = v :=
  pair_roundtrip base p hp a b ha hb h1 h2 v

open Cij.QhaGlue in
/-- **atomic units, consistently**: with `T` in K, `V` in bohr³, `C_V` in Ry/K, `P` in Ry/bohr³ (units of the qha fields the translated
adapter hands over) and `k_B`, `h` in the target units of their translated conversions (Ry/K, Ry·cm; ω in cm⁻¹), the translated body
of `isothermal_to_adiabatic` — and T·V·(∂P/∂T)²/C_V — is Ry/bohr³ as a monomial and M·L⁻¹·T⁻² as a dimension vector, the unit of
`pressures` and the source unit of `_to_gpa`; so are `value_adiabatic`, `value_isothermal`, the zero-point and thermal bodies -/
theorem c02_glue_is_source_units : GapUnits ∧ BodiesUnits := ⟨gap_units, object_graph_facts.2.2.2.1⟩

open Cij.QhaGlue Cij.NSGlue in
/-- **ħ and k_B**: `Q = (h/k_B)·ω/T` is dimensionless with `h_div_k` in K·cm, ω in cm⁻¹, `T` in K (monomials), every conversion of
nonshear.py is between like dimensions, `k` is `_k` from eV/K to Ry/K, `h` is `_h` from J·m to Ry·cm; and as numbers: the translated
`Q` does not change under a change of the units K and cm -/
theorem c02_glue_is_source_hbar_kB (lam : String → ℝ) (hK : lam "K" ≠ 0) (hc : lam "cm" ≠ 0) (hdk T f : ℝ) :
    QUnits ∧
    evalQDef (Mono2.val lam (hdkUnit.getD []) * hdk) (Mono2.val lam ((chainUnit ["t_array"]).getD []) * T)
        (Mono2.val lam freqUnit * f) Generated.NonShearGlue.qDef
      = evalQDef hdk T f Generated.NonShearGlue.qDef :=
  ⟨q_units, q_invariant lam hK hc hdk T f⟩

open Cij.QhaGlue Cij.NSExpr in
/-- **the bookkeeping as a statement about numbers**: change the units K, bohr, rydberg by any non-zero factors — `T`, `V`, `C_V`, `k_B`
change by the values of the units the sources give them — and the translated gap changes by the value of Ry/bohr³, for every
environment (spectrum, weights, grid point) -/
theorem c02_glue_is_source_covariant (lam : String → ℝ) (hK : lam "K" ≠ 0) (hb : lam "bohr" ≠ 0) (hr : lam "rydberg" ≠ 0)
    (e : SEnv ℝ) :
    evalS (rescale lam "isothermal_to_adiabatic" e) Generated.nsGapLong.expr
      = Mono2.val lam pressureAu * evalS e Generated.nsGapLong.expr ∧
    evalS (rescale lam "isothermal_to_adiabatic" e) Generated.nsGapOff.expr
      = Mono2.val lam pressureAu * evalS e Generated.nsGapOff.expr :=
  gap_covariant lam hK hb hr e

open Cij.QhaGlue in
/-- non-vacuity: a decreasing list is accepted with the five fields, an increase is rejected; a helper pair exists -/
example : runReadInput ([9, 7, 7, 4] : List Int) readInputBody [] = some (.ok fiveFields) ∧
    runReadInput ([9, 7, 8, 4] : List Int) readInputBody [] = some (.error "RuntimeError") ∧
    (∃ a b, helper? "_to_gpa" = some a ∧ helper? "_from_gpa" = some b) := by
  refine ⟨by decide +kernel, by decide +kernel, _, _, rfl, rfl⟩

/-! #### ties shared with other properties

The statement of this property also rests on code whose translation is owned by another property's file; the theorems are restated
here so that this property's obligations are re-checked against those files too (a change there breaks THIS check's proof as well). -/

/-- the arithmetic of the shear solver in `shear.py` as translated on this run: the target formula of the model is the translated one -/
theorem c02_shear_target_is_source {α : Type} [Add α] [Sub α] [Mul α] [Div α] [NatCast α]
    (key : Cij.Modulus) (e : Cij.Shear.Mat3 α) (eRot eOrig : α) :
    Cij.Shear.targetModulus key e eRot eOrig =
      Cij.ShExpr.eval (Cij.ShExpr.envOf eRot (e (Cij.Shear.idx key.i.i) (Cij.Shear.idx key.i.j)) (e (Cij.Shear.idx key.j.i) (Cij.Shear.idx key.j.j))
        eRot eOrig ((key.multiplicity : Nat) : α)) Generated.shearTarget :=
  Cij.ShExpr.target_is_source key e eRot eOrig

/-- `cij/core/tasks.py` as translated on this run: a non-shear task is identified by the two strain columns the source names,
task equality is at rounding level (`_STRAIN_RTOL ≤ 1e-9`, `atol = 0`), and `calculate()` feeds a shear task from the isothermal store -/
theorem c02_tasks_are_source {α : Type} [Add α] [Div α] (strain : Cij.Tasks.SField α) (key : Cij.Modulus) :
    (match Generated.makeParamCols with
     | [c0, c1] => Cij.Tasks.create strain key =
        if key.isShear then .shear strain key
        else .nonshear key.calcType (Cij.Tasks.component strain (Cij.Tasks.colOf key c0)) (Cij.Tasks.component strain (Cij.Tasks.colOf key c1))
     | _ => False) ∧
    (0 < Generated.strainRtol.1 ∧ Generated.strainRtol.1 * 1000000000 ≤ Generated.strainRtol.2) ∧
    Generated.tasksWiringCanonical = true :=
  ⟨Cij.Tasks.create_is_source strain key, Cij.Tasks.strain_rtol_tight, rfl⟩

end Cij.C02
