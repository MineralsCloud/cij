/-
  C17 — input files round-trip (record / line level).

  Statements are about `CijModel/QhaInput.lean` and `CijModel/ElastDat.lean` (the functions the driver runs
  against the real `read_energy` / `write_energy` / `read_elast_data` / `cij fill`).  Numbers are abstract:
  every theorem holds for ANY number type and ANY formatter/parser pair with `parse (fmt k x) = some (round k x)`
  (`NumFmt.Lawful`).  For the instance the driver and the correspondence run use — exact decimals over `Rat`,
  `Lex.ratFmt` — the law is itself a theorem, proved at character level (`rat_parse_fmt`, from
  `CijProofs/Lemmas/DecimalFmt.lean`), so the `…_rat` corollaries below carry no formatter hypothesis.
  That Python's `printf`/`float()`, `strip`/`split` and pandas' `to_string` behave as `Lex.ratFmt` / the token
  lists do is outside the model (tested through the real functions by `harness/c17.py`).

  Last section (`readers_model_is_source_…`): the two models are tied to the SOURCE of `cij/io/traditional` as it says on
  this run — regex literals (re-parsed by `Regex.parse`, matched by the Lean matcher `Regex.search`, proved equal to the
  model's regex-free recognisers), conversions, loop counts, field positions, sentinels, format specifications, labels,
  column naming, package re-exports: all `Generated.Readers.*`, regenerated by `tools/gens/readers_src.py`.
-/
import CijProofs.Lemmas.QhaInput
import CijProofs.Lemmas.ElastDat
import CijProofs.Lemmas.DecimalFmt
import CijProofs.Lemmas.ReadersSource
import CijProofs.Lemmas.FillSource

namespace Cij.C17
open Cij Cij.Lex Cij.QhaInput Cij.ElastDat
open Cij.ReadersSource Generated

variable {Num : Type}

/-! ### phonon data: read ∘ write -/

/-- Writing a well-formed data set and reading it back gives the same counts, the same order of volumes,
q-points, modes and weights (weights paired with their q-points), every number rounded to its printed
precision (6 decimals; 4 for the q-coordinates inside the volume blocks). `comment` is any line that is not
itself five integers. -/
theorem read_write_energy (F : NumFmt Num) (hF : F.Lawful) (d : Data Num) (hd : WellFormed d)
    (comment : Line) (hc : matchInfo comment = none) :
    ∃ ls, writeEnergy F d comment = some ls ∧ readEnergy F ls = some (roundAll F d) := by
  obtain ⟨wl, hwl, hrw⟩ := readWeights_write F hF d.weights hd.w3
  refine ⟨[comment, [], headerNames, infoLine d, []] ++ d.volumes.flatMap (volumeLines F) ++ [[], ["weight"]] ++ wl, ?_, ?_⟩
  · simp [writeEnergy, hwl]
  · have hv := readVolumes_write F hF d.nq d.np d.volumes hd.nq_eq hd.np_eq ([] :: ["weight"] :: wl)
    rw [hd.nv_eq] at hv
    rw [hd.nw_eq] at hrw
    unfold readEnergy
    simp only [List.cons_append, List.nil_append, List.append_assoc]
    rw [findInfo_header d comment hc]
    cases hvs : d.volumes with
    | nil =>
      have hnv : d.nv = 0 := by rw [← hd.nv_eq, hvs]; rfl
      simp [hnv, readVolumes, scanWeight, hrw, roundAll, hvs]
    | cons v vs =>
      have hnv : d.nv = vs.length + 1 := by rw [← hd.nv_eq, hvs]; rfl
      rw [hvs, hnv] at hv
      simp only [hnv, Option.bind_eq_bind, Option.bind_some]
      rw [readVolumes_blank, hv]
      simp only [Option.bind_some, scanWeight_marker, hrw]
      simp [roundAll, hvs, hnv]

/-- the round trip preserves the declared counts and every list length (corollary, spelled out) -/
theorem read_write_counts (F : NumFmt Num) (hF : F.Lawful) (d : Data Num) (hd : WellFormed d)
    (comment : Line) (hc : matchInfo comment = none) :
    ∃ ls r, writeEnergy F d comment = some ls ∧ readEnergy F ls = some r ∧
      (r.nv, r.nq, r.np, r.nm, r.na) = (d.nv, d.nq, d.np, d.nm, d.na) ∧
      r.volumes.length = d.nv ∧ r.weights.length = d.nq ∧
      (∀ v ∈ r.volumes, v.qPoints.length = d.nq ∧ ∀ q ∈ v.qPoints, q.modes.length = d.np) := by
  obtain ⟨ls, h1, h2⟩ := read_write_energy F hF d hd comment hc
  refine ⟨ls, roundAll F d, h1, h2, rfl, ?_, ?_, ?_⟩
  · simp [roundAll, hd.nv_eq]
  · simp [roundAll, hd.nw_eq]
  · intro v hv
    simp only [roundAll, List.mem_map] at hv
    obtain ⟨v0, hv0, rfl⟩ := hv
    refine ⟨by simp [roundVolume, hd.nq_eq v0 hv0], ?_⟩
    intro q hq
    simp only [roundVolume, List.mem_map] at hq
    obtain ⟨q0, hq0, rfl⟩ := hq
    simp [roundQPoint, hd.np_eq v0 hv0 q0 hq0]

/-- the default comment is admissible -/
theorem default_comment_ok : matchInfo ["QHA", "Input", "data"] = none := by decide

/-- a comment that is itself five integers hijacks the header (why the hypothesis is there) -/
example : (findInfo [["1", "2", "3", "4", "5"], [], headerNames, ["7", "7", "7", "7", "7"]]).map (·.1) = some (1, 2, 3, 4, 5) := by
  decide

/-! ### static table: read_elast_data -/

/-- Exact read, no lattice block (end of file or a blank line after the rows): reference volume, count, cell mass,
every volume and every component in place; with distinct canonical keys each row's dictionary is exactly
column key ↦ value in that row. -/
theorem read_elast_exact (F : NumFmt Num) (t : TableFile Num) (kv : Key) (keys : List Key) (h : t.Ok F kv keys)
    (hnd : keys.Nodup) (tail : List Line) (hblank : tail.headD [] = []) :
    readElastData F (t.lines ++ tail) = some
      { vref := t.vref.2, nv := t.rows.length, cellmass := t.mass.2,
        volumes := t.rows.map fun r => ⟨r.1.2, keys.zip (r.2.map Prod.snd)⟩, lattice := [] } := by
  rw [read_elast_core F t kv keys h tail]
  have hb : tail.head?.getD [] = [] := by simpa using hblank
  simp [readTail, hb, Row.volume, dictOfZip_nodup keys _ hnd]

/-- Exact read with lattice block: one non-blank separator line, then as many lattice rows as volumes -/
theorem read_elast_exact_lattice (F : NumFmt Num) (t : TableFile Num) (kv : Key) (keys : List Key) (h : t.Ok F kv keys)
    (hnd : keys.Nodup) (sep : Line) (hsep : sep ≠ []) (lat : List (List (Cell Num)))
    (hlat : ∀ r ∈ lat, cellsOk F r) (hlen : lat.length = t.rows.length) (more : List Line) :
    readElastData F (t.lines ++ (sep :: lat.map (·.map Prod.fst) ++ more)) = some
      { vref := t.vref.2, nv := t.rows.length, cellmass := t.mass.2,
        volumes := t.rows.map fun r => ⟨r.1.2, keys.zip (r.2.map Prod.snd)⟩,
        lattice := lat.map (·.map Prod.snd) } := by
  rw [read_elast_core F t kv keys h]
  have := readLattice_cells F lat hlat more
  rw [hlen] at this
  simp [readTail, hsep, this, Row.volume, dictOfZip_nodup keys _ hnd]

/-- without the distinctness hypothesis the reader still returns, per row, Python's `dict(zip(keys, values))`
(a repeated canonical key — e.g. columns `c12` and `c21` — keeps the LAST value) -/
example : dictOfZip [Key.raw "a", Key.raw "b", Key.raw "a"] [1, 2, 3] = [(Key.raw "a", 3), (Key.raw "b", 2)] := by decide

/-! #### canonical key whatever the prefix or letter case -/

/-- any digit-free prefix (`c`, `C`, `C_`, `c_`, empty, …) + the two Voigt digits ↦ the canonical key of that pair -/
theorem key_any_prefix_voigt (pre : String) (hpre : ∀ c ∈ pre.toList, c.isDigit = false) :
    ∀ p ∈ allPairs, findModulusKey (pre ++ pairStr p) = (Modulus.fromVoigt p.1 p.2).map Key.mod := by
  intro p hp
  rw [findModulusKey_prefix pre _ hpre (digits_pairStr p hp).1 (digits_pairStr p hp).2, create_pairStr p hp]

/-- the same for the four standard indices (`c1111`, `C_2323`, …) -/
theorem key_any_prefix_standard (pre : String) (hpre : ∀ c ∈ pre.toList, c.isDigit = false) :
    ∀ t ∈ allTuples, findModulusKey (pre ++ tupleStr t)
      = (Modulus.fromStandard t.1 t.2.1 t.2.2.1 t.2.2.2).map Key.mod := by
  intro t ht
  rw [findModulusKey_prefix pre _ hpre (digits_tupleStr t ht).1 (digits_tupleStr t ht).2, create_tupleStr t ht]

/-- every in-range spelling lands on one of the 21 canonical keys; transposed and 4-index spellings on the same one -/
theorem key_canonical : ∀ p ∈ allPairs, ∃ q ∈ keys21,
    Modulus.fromVoigt p.1 p.2 = some (keyOfVoigt q) ∧ Modulus.fromVoigt p.2 p.1 = some (keyOfVoigt q) := by
  decide +kernel

/-- a name without trailing digits is kept as it is (the volume column); a name `c_` rejects makes the read fail -/
example : findModulusKey "V" = some (.raw "V") ∧ findModulusKey "1c1" = some (.raw "1c1") ∧
    findModulusKey "c1" = none ∧ findModulusKey "c123" = none ∧ findModulusKey "c77" = none ∧ findModulusKey "V0" = none := by
  decide +kernel

example : findModulusKey "C_11" = findModulusKey "c1111" ∧ findModulusKey "c21" = findModulusKey "C12" ∧
    findModulusKey "c44" = findModulusKey "c_3223" ∧ (findModulusKey "c44").isSome := by
  decide +kernel

/-! ### `cij fill`: the output is a table, its parse is the filled parse of the input -/

/-- rows of the filled frame (volume first) as printed cells -/
def frameRows (P : NumFmt Num) (k : Nat) (rows : List (Num × List Num)) : List (Row Num) :=
  rows.map fun r => ((P.fmt k r.1, P.round k r.1), r.2.map fun x => (P.fmt k x, P.round k x))

/-- Input: a static table `t` followed by anything (`tail`: nothing, a blank line, or
separator + lattice block).  If `fill_cij` maps the frame pandas reads to a frame with the same number of rows,
a volume column `vname'` in front and column names acceptable to `c_`, then the command's output
  * starts with the two header lines unchanged,
  * parses (by `read_elast_data`) to the same vref / nv / cellmass,
  * has exactly the rows of the filled frame (to the printed precision) under the canonical keys of its names,
  * and exactly the lattice block the input parse has (`readTail` of the same `tail`, cf. `read_elast_core`). -/
theorem fill_cmd_reparse (F P : NumFmt Num) (k : Nat) (hP : ∀ x, F.parse (P.fmt k x) = some (P.round k x))
    (fill : Table Num → Option (Table Num))
    (t : TableFile Num) (kv : Key) (keys : List Key) (h : t.Ok F kv keys)
    (hw : ∀ r ∈ t.rows, r.2.length = t.names.length) (tail : List Line)
    (vname' : Token) (names' : List Token) (rows' : List (Num × List Num)) (kv' : Key) (keys' : List Key)
    (hfill : fill t.frame = some ⟨vname' :: names', rows'.map fun r => r.1 :: r.2⟩)
    (hrows : rows'.length = t.rows.length)
    (hkv : findModulusKey vname' = some kv') (hkeys : names'.mapM findModulusKey = some keys') :
    ∃ out, fillCmd F P k fill (t.lines ++ tail) = some out ∧
      out.take 2 = [t.title, t.header2] ∧
      readElastData F out = (readTail F t.rows.length tail).map fun lat =>
        { vref := t.vref.2, nv := t.rows.length, cellmass := t.mass.2,
          volumes := rows'.map (fun r => ⟨P.round k r.1, dictOfZip keys' (r.2.map (P.round k))⟩), lattice := lat } := by
  have hlen : t.tableLines.length = t.rows.length + 1 := by simp [TableFile.tableLines]
  have htake : (t.tableLines ++ tail).take (t.rows.length + 1) = t.tableLines := by rw [← hlen]; simp
  have hdrop : (t.tableLines ++ tail).drop (t.rows.length + 1) = tail := by rw [← hlen]; simp
  have hcnt : ((t.rows.length : Int) + 1).toNat = t.rows.length + 1 := by omega
  refine ⟨t.title :: t.header2 ::
      (printTable P k ⟨vname' :: names', rows'.map fun r => r.1 :: r.2⟩ ++ tail), ?_, rfl, ?_⟩
  · simp only [TableFile.lines, List.cons_append, fillCmd]
    simp [TableFile.header2, h.nv, hcnt, htake, hdrop, parseTable_frame F t h.rows hw, hfill]
  · let t' : TableFile Num := ⟨t.title, t.vref, t.nvTok, t.mass, t.extra, vname', names', frameRows P k rows'⟩
    have hlenr : (frameRows P k rows').length = t.rows.length := by simp [frameRows, hrows]
    have hok : t'.Ok F kv' keys' := by
      refine ⟨h.vref, h.mass, by simpa [t', hlenr] using h.nv, hkv, hkeys, ?_⟩
      intro r hr
      simp only [t', frameRows, List.mem_map] at hr
      obtain ⟨r0, _, rfl⟩ := hr
      refine ⟨hP _, ?_⟩
      intro c hc
      simp only [List.mem_map] at hc
      obtain ⟨x, _, rfl⟩ := hc
      exact hP x
    have hlines : t.title :: t.header2 ::
        (printTable P k ⟨vname' :: names', rows'.map fun r => r.1 :: r.2⟩ ++ tail) = t'.lines ++ tail := by
      simp [TableFile.lines, TableFile.header2, TableFile.tableLines, t', printTable, frameRows, Row.line, Function.comp_def]
    rw [hlines, read_elast_core F t' kv' keys' hok tail]
    simp only [t', hlenr]
    congr 1
    funext lat
    simp [frameRows, Row.volume, Function.comp_def]

/-- The fill command's output is a table whose parse is the symmetry-filled parse of its INPUT.
`fill` is `fill_cij(·, **options)` (owned by C08/C09), a parameter.  The two code paths hand it different frames:
the command the frame of the file (volume column in front, the file's column names), `apply_symetry_on_elast_data`
the frame rebuilt from the parse (canonical names `cIJ`, no volume column).  Hypotheses `hfile`/`hcanon`/`hkeys`/
`hkeys2` say that `fill` treats the two alike: same filled numbers `R` under the same canonical keys, volume column
untouched and in front (true of `fill_cij` for names `cIJ`/`CIJ`; measured by the harness on every case).  Then:
header lines, vref, nv, cell mass, volumes (to pandas' printed precision) and the lattice block are preserved and the
components are exactly the filled ones. -/
theorem fill_output_is_table (F P : NumFmt Num) (k : Nat) (hP : ∀ x, F.parse (P.fmt k x) = some (P.round k x))
    (fill : Table Num → Option (Table Num))
    (t : TableFile Num) (kv : Key) (keys : List Key) (h : t.Ok F kv keys)
    (hw : ∀ r ∈ t.rows, r.2.length = t.names.length) (hne : t.rows ≠ []) (hnd : keys.Nodup) (tail : List Line)
    (cn : List Token) (hcn : keys.mapM canonName = some cn)
    (vname' : Token) (names' : List Token) (kv' : Key) (keys' : List Key) (R : List (List Num))
    (hR : R.length = t.rows.length)
    (hfile : fill t.frame = some ⟨vname' :: names', List.zipWith (fun r x => r.1.2 :: x) t.rows R⟩)
    (cn' : List Token) (hcanon : fill ⟨cn, t.rows.map fun r => r.2.map Prod.snd⟩ = some ⟨cn', R⟩)
    (hkv : findModulusKey vname' = some kv') (hkeys : names'.mapM findModulusKey = some keys')
    (hkeys2 : cn'.mapM keyOfName = some keys') :
    ∃ out, fillCmd F P k fill (t.lines ++ tail) = some out ∧
      out.take 2 = [t.title, t.header2] ∧
      readElastData F out = ((readElastData F (t.lines ++ tail)).bind (applySymmetry fill)).map (roundData P k) := by
  have hklen : keys.length = t.names.length := length_of_mapM _ _ _ h.keys
  -- the filled frame of the file path, as (volume, components) rows
  let rows' : List (Num × List Num) := (t.rows.map fun r => r.1.2).zip R
  have hrows' : rows'.map (fun r => r.1 :: r.2) = List.zipWith (fun r x => r.1.2 :: x) t.rows R := by
    exact map_cons_zip _ _ _
  have hlen' : rows'.length = t.rows.length := by simp [rows', hR]
  obtain ⟨out, hout, htake, hparse⟩ := fill_cmd_reparse F P k hP fill t kv keys h hw tail vname' names' rows' kv' keys'
    (by rw [hrows']; exact hfile) hlen' hkv hkeys
  refine ⟨out, hout, htake, ?_⟩
  rw [hparse, read_elast_core F t kv keys h tail]
  cases readTail F t.rows.length tail with
  | none => rfl
  | some lat =>
    -- the parse of the input, explicitly
    have hvol : ∀ r ∈ t.rows, Row.volume (kv :: keys) r = ⟨r.1.2, keys.zip (r.2.map Prod.snd)⟩ := by
      intro r _; simp [Row.volume, dictOfZip_nodup keys _ hnd]
    have hvols : t.rows.map (Row.volume (kv :: keys)) = t.rows.map fun r => ⟨r.1.2, keys.zip (r.2.map Prod.snd)⟩ :=
      List.map_congr_left hvol
    obtain ⟨r0, rs, hrs⟩ := List.exists_cons_of_ne_nil hne
    have hr0 : (r0.2.map Prod.snd).length = keys.length := by
      simp [hklen, hw r0 (by simp [hrs])]
    have hvals : (t.rows.map fun r => (keys.zip (r.2.map Prod.snd)).map Prod.snd) = t.rows.map fun r => r.2.map Prod.snd := by
      apply List.map_congr_left
      intro r hr
      exact List.map_snd_zip (by simp [hklen, hw r hr])
    simp only [Option.map_some, Option.bind_some, applySymmetry, hvols]
    have hkeys0 : ((List.map (fun r : Row Num => (⟨r.1.2, keys.zip (r.2.map Prod.snd)⟩ : ElastVolume Num)) t.rows).headD
        ⟨t.vref.2, []⟩).moduli.map (·.1) = keys := by
      rw [hrs]; simp only [List.map_cons, List.headD_cons]
      exact List.map_fst_zip (Nat.le_of_eq hr0.symm)
    rw [hkeys0]
    simp only [Option.bind_eq_bind, hcn, Option.bind_some, List.map_map, Function.comp_def, hvals, hcanon, hkeys2]
    have hlt : ¬ (R.length < (List.map (fun r : Row Num => (⟨r.1.2, keys.zip (r.2.map Prod.snd)⟩ : ElastVolume Num)) t.rows).length) := by
      simp [hR]
    simp only [hlt, if_false, Option.pure_def, Option.map_some, roundData, Option.some.injEq, ElastData.mk.injEq, true_and, and_true]
    simp only [rows', List.zip_map_left, List.map_map]
    apply List.map_congr_left
    intro e _
    simp [Function.comp_def, dictOfZip_map]

/-! ### non-vacuity: concrete instances with the driver's exact decimal arithmetic (`Lex.ratFmt`) -/

/-- 2 volumes × 2 q-points × 3 modes, values of either sign, more digits than are printed -/
def sample : Data Rat :=
  { nv := 2, nq := 2, np := 3, nm := 7, na := 1,
    weights := [⟨[0, 0, 0], 1⟩, ⟨[mkRat 1 2, mkRat (-1) 4, mkRat 1 128], mkRat 12345678 1000⟩],
    volumes := [
      ⟨-100000, mkRat 5860199612345 10000000000, mkRat (-1) 3,
        [⟨[0, 0, 0], [mkRat (-5) 10, 0, mkRat 99999999999 1000000]⟩, ⟨[mkRat 1 3, mkRat (-2) 3, 100000], [1, 2, 3]⟩]⟩,
      ⟨100000, 500, mkRat 1 128,
        [⟨[0, 0, 0], [4, 5, 6]⟩, ⟨[mkRat 1 3, mkRat (-2) 3, 100000], [7, 8, mkRat (-1) 10000000]⟩]⟩] }

example : WellFormed sample := by
  refine ⟨rfl, ?_, ?_, rfl, ?_⟩ <;> decide +kernel

/-- the conclusion of `read_write_energy` on the sample, computed (the law `Lawful` is not assumed here) -/
example : (writeEnergy ratFmt sample).bind (readEnergy ratFmt) = some (roundAll ratFmt sample) := by
  decide +kernel

/-- rounding is visible: the round trip is NOT the identity on data with more digits than printed -/
example : roundAll ratFmt sample ≠ sample := by decide +kernel

/-- the law on instances: ties to even (1/128 = 0.0078125), a negative number rounding to zero, the range boundary -/
example : ∀ x ∈ [mkRat 1 128, mkRat 3 128, mkRat (-1) 10000000, -100000, mkRat 99999999999 1000000, 0],
    ∀ k ∈ [4, 6], ratFmt.parse (ratFmt.fmt k x) = some (ratFmt.round k x) := by
  decide +kernel

example : ratFmt.fmt 6 (mkRat 1 128) = "0.007812" ∧ ratFmt.fmt 6 (mkRat 3 128) = "0.023438" ∧
    ratFmt.fmt 6 (mkRat (-1) 10000000) = "-0.000000" ∧ ratFmt.fmt 4 (-100000) = "-100000.0000" := by
  decide +kernel

/-- a static table with mixed spellings and a lattice block, read by the model as the theorems say -/
def sampleTable : List Line :=
  [["title", "line"], ["586.01996", "2", "200.782", "extra"], ["V", "C_11", "c1122", "44"],
   ["617.47767", "399.2", "124.3", "88.35"], ["586.01996", "460.9", "156.2", "112.35"],
   ["lattice_a", "lattice_b", "lattice_c"], ["1.0", "0.8", "2.9"], ["0.9", "0.8", "2.8"]]

example : (readElastData ratFmt sampleTable).map (fun d => (d.nv, d.volumes.length, d.lattice.length,
      d.volumes.map fun v => v.moduli.map (·.1))) =
    some (2, 2, 2, [[.mod (keyOfVoigt (1, 1)), .mod (keyOfVoigt (1, 2)), .mod (keyOfVoigt (4, 4))],
                    [.mod (keyOfVoigt (1, 1)), .mod (keyOfVoigt (1, 2)), .mod (keyOfVoigt (4, 4))]]) := by
  decide +kernel

/-- `cij fill` on it with a `fill` that appends a column: header lines and lattice survive, the table is replaced -/
example : (fillCmd ratFmt ratFmt 6 (fun t => some ⟨t.names ++ ["c55"], t.rows.map fun r => r ++ [r.getD 3 0]⟩) sampleTable).bind
      (fun out => (readElastData ratFmt out).map fun d => (out.take 2, d.lattice, d.volumes.map fun v => v.moduli.length)) =
    some (sampleTable.take 2, [[1, mkRat 4 5, mkRat 29 10], [mkRat 9 10, mkRat 4 5, mkRat 14 5]], [4, 4]) := by
  decide +kernel

/-! ### the driver's instance `Lex.ratFmt`: the formatter law is a theorem, the corollaries are hypothesis-free -/

/-- The law, character level, for every precision and every rational (no sign / `k = 0` / zero corner excluded):
parsing the characters `"%.{k}f"` prints gives the value rounded half-even to `k` decimals. -/
theorem rat_parse_fmt (k : Nat) (q : Rat) : ratParse (ratFmtStr k q) = some (ratRound k q) :=
  Lex.ratParse_ratFmtStr k q

/-- the same, as the `Lawful` predicate the generic theorems ask for -/
theorem rat_lawful : ratFmt.Lawful := Lex.ratFmt_lawful

/-- `read_write_energy` for the driver's numbers: no hypothesis on the formatter is left -/
theorem read_write_energy_rat (d : Data Rat) (hd : WellFormed d) (comment : Line) (hc : matchInfo comment = none) :
    ∃ ls, writeEnergy ratFmt d comment = some ls ∧ readEnergy ratFmt ls = some (roundAll ratFmt d) :=
  read_write_energy ratFmt rat_lawful d hd comment hc

/-- `read_write_counts` for the driver's numbers -/
theorem read_write_counts_rat (d : Data Rat) (hd : WellFormed d) (comment : Line) (hc : matchInfo comment = none) :
    ∃ ls r, writeEnergy ratFmt d comment = some ls ∧ readEnergy ratFmt ls = some r ∧
      (r.nv, r.nq, r.np, r.nm, r.na) = (d.nv, d.nq, d.np, d.nm, d.na) ∧
      r.volumes.length = d.nv ∧ r.weights.length = d.nq ∧
      (∀ v ∈ r.volumes, v.qPoints.length = d.nq ∧ ∀ q ∈ v.qPoints, q.modes.length = d.np) :=
  read_write_counts ratFmt rat_lawful d hd comment hc

/-- `fill_cmd_reparse` with reader and printer both the exact-decimal instance, any printed precision `k`:
the hypothesis `hP` is discharged by `rat_parse_fmt` -/
theorem fill_cmd_reparse_rat (k : Nat) (fill : Table Rat → Option (Table Rat))
    (t : TableFile Rat) (kv : Key) (keys : List Key) (h : t.Ok ratFmt kv keys)
    (hw : ∀ r ∈ t.rows, r.2.length = t.names.length) (tail : List Line)
    (vname' : Token) (names' : List Token) (rows' : List (Rat × List Rat)) (kv' : Key) (keys' : List Key)
    (hfill : fill t.frame = some ⟨vname' :: names', rows'.map fun r => r.1 :: r.2⟩)
    (hrows : rows'.length = t.rows.length)
    (hkv : findModulusKey vname' = some kv') (hkeys : names'.mapM findModulusKey = some keys') :
    ∃ out, fillCmd ratFmt ratFmt k fill (t.lines ++ tail) = some out ∧
      out.take 2 = [t.title, t.header2] ∧
      readElastData ratFmt out = (readTail ratFmt t.rows.length tail).map fun lat =>
        { vref := t.vref.2, nv := t.rows.length, cellmass := t.mass.2,
          volumes := rows'.map (fun r => ⟨ratRound k r.1, dictOfZip keys' (r.2.map (ratRound k))⟩), lattice := lat } :=
  fill_cmd_reparse ratFmt ratFmt k (rat_lawful k) fill t kv keys h hw tail vname' names' rows' kv' keys'
    hfill hrows hkv hkeys

/-- `fill_output_is_table` with reader and printer both the exact-decimal instance (`hP` discharged) -/
theorem fill_output_is_table_rat (k : Nat) (fill : Table Rat → Option (Table Rat))
    (t : TableFile Rat) (kv : Key) (keys : List Key) (h : t.Ok ratFmt kv keys)
    (hw : ∀ r ∈ t.rows, r.2.length = t.names.length) (hne : t.rows ≠ []) (hnd : keys.Nodup) (tail : List Line)
    (cn : List Token) (hcn : keys.mapM canonName = some cn)
    (vname' : Token) (names' : List Token) (kv' : Key) (keys' : List Key) (R : List (List Rat))
    (hR : R.length = t.rows.length)
    (hfile : fill t.frame = some ⟨vname' :: names', List.zipWith (fun r x => r.1.2 :: x) t.rows R⟩)
    (cn' : List Token) (hcanon : fill ⟨cn, t.rows.map fun r => r.2.map Prod.snd⟩ = some ⟨cn', R⟩)
    (hkv : findModulusKey vname' = some kv') (hkeys : names'.mapM findModulusKey = some keys')
    (hkeys2 : cn'.mapM keyOfName = some keys') :
    ∃ out, fillCmd ratFmt ratFmt k fill (t.lines ++ tail) = some out ∧
      out.take 2 = [t.title, t.header2] ∧
      readElastData ratFmt out
        = ((readElastData ratFmt (t.lines ++ tail)).bind (applySymmetry fill)).map (roundData ratFmt k) :=
  fill_output_is_table ratFmt ratFmt k (rat_lawful k) fill t kv keys h hw hne hnd tail cn hcn
    vname' names' kv' keys' R hR hfile cn' hcanon hkv hkeys hkeys2

/-! #### what "rounded to the printed precision" means for the driver's numbers -/

/-- the surviving value is within half a unit of the last printed decimal of the original -/
theorem rat_round_error (k : Nat) (q : Rat) : |ratRound k q - q| ≤ 1 / (2 * (10 : Rat) ^ k) := Lex.ratRound_err k q

/-- rounding is idempotent: a value that has been through the file once is not changed by a second pass -/
theorem rat_round_idem (k : Nat) (q : Rat) : ratRound k (ratRound k q) = ratRound k q := Lex.ratRound_idem k q

/-- rounding preserves order (so sorted grids stay sorted through the file) -/
theorem rat_round_mono (k : Nat) {p q : Rat} (h : p ≤ q) : ratRound k p ≤ ratRound k q := Lex.ratRound_mono k h

/-- every multiple of 10^-k is read back exactly -/
theorem rat_round_grid (k : Nat) (n : Int) : ratRound k (mkRat n (pow10 k)) = mkRat n (pow10 k) := Lex.ratRound_of_grid k n

/-- hence the data set that survives one round trip is a fixed point of the rounding … -/
theorem roundAll_idem_rat (d : Data Rat) : roundAll ratFmt (roundAll ratFmt d) = roundAll ratFmt d := by
  have h : ∀ k q, ratFmt.round k (ratFmt.round k q) = ratFmt.round k q := rat_round_idem
  simp [roundAll, roundVolume, roundQPoint, roundWeight, Function.comp_def, h]

/-- … and the second write/read round trip is EXACT: what was read from a file written by `write_energy`
is reproduced digit for digit by writing and reading it again -/
theorem read_write_energy_rat_fixed (d : Data Rat) (hd : WellFormed d) (comment : Line) (hc : matchInfo comment = none) :
    ∃ ls, writeEnergy ratFmt (roundAll ratFmt d) comment = some ls ∧ readEnergy ratFmt ls = some (roundAll ratFmt d) := by
  have hwf : WellFormed (roundAll ratFmt d) := by
    refine ⟨by simp [roundAll, hd.nv_eq], ?_, ?_, by simp [roundAll, hd.nw_eq], ?_⟩
    · intro v hv
      simp only [roundAll, List.mem_map] at hv
      obtain ⟨v0, hv0, rfl⟩ := hv
      simp [roundVolume, roundAll, hd.nq_eq v0 hv0]
    · intro v hv q hq
      simp only [roundAll, List.mem_map] at hv
      obtain ⟨v0, hv0, rfl⟩ := hv
      simp only [roundVolume, List.mem_map] at hq
      obtain ⟨q0, hq0, rfl⟩ := hq
      simp [roundQPoint, roundAll, hd.np_eq v0 hv0 q0 hq0]
    · intro w hw
      simp only [roundAll, List.mem_map] at hw
      obtain ⟨w0, hw0, rfl⟩ := hw
      simp [roundWeight, hd.w3 w0 hw0]
  have := read_write_energy_rat (roundAll ratFmt d) hwf comment hc
  rwa [roundAll_idem_rat] at this

/-- non-vacuity of the `_rat` corollaries, end to end on text: one volume, one q-point, two modes; a tie
(1/128 → "0.007812"), a negative value rounding to zero (prints "-0.000000", reads back as 0), a negative energy -/
def tiny : Data Rat :=
  { nv := 1, nq := 1, np := 2, nm := 3, na := 1,
    weights := [⟨[0, mkRat 1 2, mkRat (-1) 3], 2⟩],
    volumes := [⟨mkRat (-1) 10000000, mkRat 1 128, mkRat (-22) 7, [⟨[mkRat 1 3, 0, mkRat (-1) 2], [mkRat 3 128, 100]⟩]⟩] }

example : WellFormed tiny := by
  refine ⟨rfl, ?_, ?_, rfl, ?_⟩ <;> decide +kernel

example : writeEnergy ratFmt tiny = some
    [["QHA", "Input", "data"], [], ["nv", "nq", "np", "nm", "na"], ["1", "1", "2", "3", "1"], [],
     ["P=", "-0.000000", "V=", "0.007812", "E=", "-3.142857"],
     ["0.3333", "0.0000", "-0.5000"], ["0.023438"], ["100.000000"],
     [], ["weight"], ["0.000000", "0.500000", "-0.333333", "2.000000"]] := by
  decide +kernel

example : (writeEnergy ratFmt tiny).bind (readEnergy ratFmt) = some
    { nv := 1, nq := 1, np := 2, nm := 3, na := 1,
      weights := [⟨[0, mkRat 1 2, mkRat (-333333) 1000000], 2⟩],
      volumes := [⟨0, mkRat 7812 1000000, mkRat (-3142857) 1000000,
        [⟨[mkRat 3333 10000, 0, mkRat (-1) 2], [mkRat 23438 1000000, 100]⟩]⟩] } := by
  decide +kernel

/-! ### the models are the source as it says (`tools/gens/readers_src.py` → `Generated.Readers`) -/

/-- The instruction lists the translator emitted are what the Lean parser reads off the characters of the
source literals (final binding per name), and the Lean matcher (`Regex.search`: greedy, backtracking, leftmost, Python's
`$`) on them IS the model's regex-free recogniser: for every word without a newline (`REGEX_MODULUS`), every stripped
line (`REGEX_INFO_START`: exactly five all-digit words), every line whatsoever (`REGEX_PVE`: leftmost word ending in
`X=` followed by value, `Y=`, value, `Z=`, value). -/
theorem readers_model_is_source_regex :
    (Regex.parse Readers.regexInfoStartSrc = some Readers.regexInfoStart ∧
     Regex.parse Readers.regexPVESrc = some Readers.regexPVE ∧
     Regex.parse Readers.regexModulusSrc = some Readers.regexModulus) ∧
    (∀ cs : List Char, (∀ c ∈ cs, c ≠ '\n') → Regex.search Readers.regexModulus cs = Regex.recogModulus cs) ∧
    (∀ cs : List Char, Regex.Stripped cs → Regex.search Readers.regexInfoStart cs = Regex.recogInfo cs) ∧
    (∀ cs : List Char, Regex.search Readers.regexPVE cs = Regex.recogPVE cs) :=
  ⟨regex_sources_parse, search_modulus_generated, search_info_generated, search_pve_generated⟩

/-- The token-level functions of the model are the generated regexes + the conversions the source NAMES:
`matchInfo` on the words of a stripped line = `re.search(REGEX_INFO_START, ·)` then `map(int, groups)`;
`matchPVE` on the words of any line = `re.search(REGEX_PVE, ·).groups()`;
`findModulusKey` = `c_(res.group(1))` of `re.search(REGEX_MODULUS, ·)`, the name itself when there is no match. -/
theorem readers_model_is_source_matchers :
    (∀ cs : List Char, Regex.Stripped cs →
      matchInfo (tokens cs) = (Regex.search Readers.regexInfoStart cs).bind fun gs =>
        match gs.map String.ofList with
        | [a, b, c, d, e] => do
            let a ← convNat Readers.headerConv a
            let b ← convNat Readers.headerConv b
            let c ← convNat Readers.headerConv c
            let d ← convNat Readers.headerConv d
            let e ← convNat Readers.headerConv e
            pure (a, b, c, d, e)
        | _ => none) ∧
    (∀ cs : List Char,
      matchPVE (tokens cs) = (Regex.search Readers.regexPVE cs).bind fun gs =>
        match gs with
        | [a, b, c] => some (String.ofList a, String.ofList b, String.ofList c)
        | _ => none) ∧
    (∀ t : Token, (∀ c ∈ t.toList, c ≠ '\n') →
      findModulusKey t = match Regex.search Readers.regexModulus t.toList with
        | some gs => (Modulus.create [.str (String.ofList (gs.getD (Readers.modulusGroup - 1) []))]).map Key.mod
        | none => some (Key.raw t)) :=
  ⟨matchInfo_is_regex, matchPVE_is_regex, findModulusKey_is_regex⟩

/-- the key canonicalisation of `key_any_prefix_voigt` goes through the generated regex: any digit-free, newline-free
prefix followed by the two Voigt digits matches with exactly the digits as group -/
theorem key_through_generated_regex (pre : String) (hpre : ∀ c ∈ pre.toList, c.isDigit = false ∧ c ≠ '\n') :
    ∀ p ∈ allPairs, Regex.search Readers.regexModulus (pre ++ pairStr p).toList = some [(pairStr p).toList] := by
  intro p hp
  have hd := digits_pairStr p hp
  have hnl : ∀ c ∈ (pre ++ pairStr p).toList, c ≠ '\n' := by
    intro c hc
    rw [String.toList_append] at hc
    rcases List.mem_append.1 hc with h | h
    · exact (hpre c h).2
    · exact Regex.digit_ne_newline (List.all_eq_true.1 hd.1 c h)
  rw [search_modulus_generated _ hnl, String.toList_append]
  unfold Regex.recogModulus
  rw [dropWhile_prefix _ _ (fun c h => (hpre c h).1) hd.1 hd.2]
  have : (pairStr p).toList.isEmpty = false := by
    cases h : (pairStr p).toList with
    | nil => exact absurd h hd.2
    | cons a l => rfl
  simp [this, hd.1]

/-- Read side of `qha_input.py`: which header count drives which loop and which field, the weight-section sentinels, the
conversion of every number, the regex group → field order (P, V, E), `words[0:3]` / `words[3]` — each defining
equation of the model with the literal replaced by the generated datum. -/
theorem readers_model_is_source_read_energy (F : NumFmt Num) :
    (∀ file, readEnergy F file = (findInfo file).bind fun (h, rest) =>
      let g : List Nat := [h.1, h.2.1, h.2.2.1, h.2.2.2.1, h.2.2.2.2]
      (readVolumes F (pick Readers.loopCounts g "qpoints") (pick Readers.loopCounts g "modes")
          (pick Readers.loopCounts g "volumes") rest).bind fun (vols, rest') =>
        (readWeights F (pick Readers.loopCounts g "weights") (scanWeight rest')).bind fun ws =>
          some { nv := pick Readers.countFields g "nv", nq := pick Readers.countFields g "nq",
                 np := pick Readers.countFields g "np", nm := pick Readers.countFields g "nm",
                 na := pick Readers.countFields g "na", weights := ws, volumes := vols }) ∧
    (∀ l ls, scanWeight (l :: ls)
      = if Readers.weightSentinels.any (fun w => l = litTokens w) = true then ls else scanWeight ls) ∧
    (∀ n t ls, readModes F (n + 1) ([t] :: ls) = (convNum F Readers.modeConv t).bind fun x =>
      (readModes F n ls).bind fun (xs, r) => some (x :: xs, r)) ∧
    (∀ np n l ls, readQPoints F np (n + 1) (l :: ls) = (l.mapM (convNum F Readers.coordConv)).bind fun coord =>
      (readModes F np ls).bind fun (modes, r) =>
        (readQPoints F np n r).bind fun (qs, r') => some (⟨coord, modes⟩ :: qs, r')) ∧
    (∀ nq np n ls, readVolumes F nq np (n + 1) ls =
      match skipBlank ls with
      | [] => none
      | l :: rest => (matchPVE l).bind fun (a, b, c) =>
          let g : List Token := [a, b, c]
          let fld := fun (k : String) => g.getD ((Readers.pveFields.lookup k).getD 99) ""
          (convNum F Readers.pveConv (fld "pressure")).bind fun p =>
          (convNum F Readers.pveConv (fld "volume")).bind fun v =>
          (convNum F Readers.pveConv (fld "energy")).bind fun e =>
          (readQPoints F np nq rest).bind fun (qs, r) =>
          (readVolumes F nq np n r).bind fun (vs, r') => some (⟨p, v, e, qs⟩ :: vs, r')) ∧
    (∀ n l ls, readWeights F (n + 1) (l :: ls) = (l[Readers.weightIndex]?).bind fun w =>
      (((l.drop Readers.weightCoordSlice.1).take (Readers.weightCoordSlice.2 - Readers.weightCoordSlice.1)).mapM
          (convNum F Readers.weightCoordConv)).bind fun coord =>
        (convNum F Readers.weightConv w).bind fun w =>
          (readWeights F n ls).bind fun ws => some (⟨coord, w⟩ :: ws)) :=
  ⟨readEnergy_is_source F, scanWeight_is_source, readModes_is_source F, readQPoints_is_source F,
   readVolumes_is_source F, readWeights_is_source F⟩

/-- Write side of `qha_input.py`: every number is printed through the format specification the source holds
(fixed-point, explicit precision; `fmtLine` = words of the literal pieces + the number with the piece's precision),
the labels `P=`/`V=`/`E=`, header words, marker line and default comment are the source's, and the marker the writer
prints is one of the sentinels the reader looks for. -/
theorem readers_model_is_source_write_energy (F : NumFmt Num) :
    (∀ s ∈ Readers.fmtPVE ++ Readers.fmtMode ++ Readers.fmtCoord ++ Readers.fmtWeight,
        s.2.2.2 = 'f' ∧ s.2.2.1.isSome = true) ∧
    (∀ p v e, pveLine F p v e = fmtLine F Readers.fmtPVE [p, v, e]) ∧
    (∀ m, modeLine F m = fmtLine F Readers.fmtMode [m]) ∧
    (∀ c, coordLine F c = c.flatMap fun x => fmtLine F Readers.fmtCoord [x]) ∧
    (∀ w : QPointWeight Num, weightLine F w = if w.coord.length + 1 = Readers.fmtWeight.length
        then some (fmtLine F Readers.fmtWeight (w.coord ++ [w.weight])) else none) ∧
    (∀ (d : Data Num) comment, writeEnergy F d comment = (d.weights.mapM (weightLine F)).bind fun ws =>
        some ([comment, [], Readers.headerWords, infoLine d, []] ++ d.volumes.flatMap (volumeLines F)
          ++ [[], litTokens Readers.markerLine] ++ ws)) ∧
    ((["QHA", "Input", "data"] : Line) = litTokens Readers.defaultComment) ∧
    Readers.markerLine ∈ Readers.weightSentinels ∧
    (∀ d : Data Num, roundAll F d = roundAllS F d) :=
  ⟨number_formats_fixed_point, pveLine_is_source F, modeLine_is_source F, coordLine_is_source F, weightLine_is_source F,
   writeEnergy_is_source F, header_words_is_source.2.2, marker_is_sentinel, roundAll_is_source F⟩

/-- `read_write_energy` in terms of the formats the file specifies: what is read back is the data set rounded to the
precisions of the generated format specifications (`roundAllS`: `fmtPVE`, `fmtMode`, `fmtCoord`, `fmtWeight`). -/
theorem read_write_energy_source (F : NumFmt Num) (hF : F.Lawful) (d : Data Num) (hd : WellFormed d)
    (comment : Line) (hc : matchInfo comment = none) :
    ∃ ls, writeEnergy F d comment = some ls ∧ readEnergy F ls = some (roundAllS F d) := by
  rw [← roundAll_is_source]
  exact read_write_energy F hF d hd comment hc

/-- the same for the driver's exact decimals, no formatter hypothesis -/
theorem read_write_energy_source_rat (d : Data Rat) (hd : WellFormed d) (comment : Line) (hc : matchInfo comment = none) :
    ∃ ls, writeEnergy ratFmt d comment = some ls ∧ readEnergy ratFmt ls = some (roundAllS ratFmt d) :=
  read_write_energy_source ratFmt rat_lawful d hd comment hc

/-- `elast_dat.py`: header field positions and conversions (`fields[0]` → vref float, `[1]` → nv int, `[2]` → cellmass
float), the key line through `findModulusKey`, a row = `fields[0]` + `zip(keys[1:], fields[1:])` all through `float`,
the lattice rows; `"c%s%s" % key.v` on the way into `fill_cij`, `c_(key[1:])` on the way back, `fill_cij(df, **symmetry)`
with the caller's dictionary untouched. -/
theorem readers_model_is_source_elast (F : NumFmt Num) :
    (∀ l1 l2 l3 rest, readElastData F (l1 :: l2 :: l3 :: rest) =
      ((l2[hdrIdx "vref"]?).bind (convNum F (hdrConv "vref"))).bind fun vref =>
      ((l2[hdrIdx "nv"]?).bind (convInt (hdrConv "nv"))).bind fun nv =>
      ((l2[hdrIdx "cellmass"]?).bind (convNum F (hdrConv "cellmass"))).bind fun cellmass =>
      (l3.mapM findModulusKey).bind fun keys =>
      (readRows F keys nv.toNat rest).bind fun (vols, rest') =>
      (if rest'.headD [] ≠ [] then readLattice F nv.toNat rest'.tail else some []).bind fun lattice =>
        some { vref, nv, cellmass, volumes := vols, lattice }) ∧
    (∀ keys n ls, readRows F keys (n + 1) ls = ((ls.headD []).mapM (convNum F Readers.rowConv)).bind fun fields =>
      (fields[Readers.rowVolumeIndex]?).bind fun v =>
        (readRows F keys n ls.tail).bind fun (vs, r) =>
          some (⟨v, dictOfZip (keys.drop Readers.rowKeySlice) (fields.drop Readers.rowValueSlice)⟩ :: vs, r)) ∧
    (∀ n ls, readLattice F (n + 1) ls = ((ls.headD []).mapM (convNum F Readers.latticeConv)).bind fun fields =>
      (readLattice F n ls.tail).bind fun rest => some (fields :: rest)) ∧
    (∀ m : Modulus, canonName (.mod m) = m.voigt.map fun (a, b) =>
      Readers.columnLiterals.getD 0 "?" ++ toString a ++ Readers.columnLiterals.getD 1 "?" ++ toString b) ∧
    (∀ t : Token, keyOfName t = (Modulus.create [.str (String.ofList (t.toList.drop Readers.backSlice))]).map Key.mod) ∧
    (Readers.fillPositional = 1 ∧ Readers.fillKeywords = ["**<symmetry>"]) :=
  ⟨readElastData_is_source F, readRows_is_source F, readLattice_is_source F, canonName_is_source, keyOfName_is_source,
   fill_call_is_source⟩

/-- Package glue: `cij.io.traditional.read_energy` / `read_elast_data` are the sub-modules' functions themselves, imported
under their own names — `__init__.py` and `models.py` hold relative imports and `__all__` only (no caching wrapper) -/
theorem readers_model_is_source_glue :
    ("read_energy", "qha_input", "read_energy") ∈ Readers.packageImports ∧
    ("read_elast_data", "elast_dat", "read_elast_data") ∈ Readers.packageImports ∧
    (∀ e ∈ Readers.packageImports, e.1 = e.2.2) ∧ (∀ e ∈ Readers.modelsImports, e.1 = e.2.2) ∧
    Readers.readerCallSites.length = 7 :=
  readers_reexported_directly

/-- non-vacuity: the Lean matcher on the generated patterns, on concrete text (lower-triangle label, exponent notation,
context around the P/V/E labels, tabs in the header line, a `$` before a final newline) -/
example : Regex.search Readers.regexModulus "C_51".toList = some ["51".toList] ∧
    Regex.search Readers.regexModulus "x15".toList = some ["15".toList] ∧
    Regex.search Readers.regexModulus "1c1".toList = none ∧
    Regex.search Readers.regexModulus "c12\n".toList = some ["12".toList] ∧
    Regex.search Readers.regexPVE " data P=  1.5e3 V= -2. E= .5E-2 x".toList = some ["1.5e3".toList, "-2.".toList, ".5E-2".toList] ∧
    Regex.search Readers.regexPVE "P=1.5 V= 2 E= 3".toList = none ∧
    Regex.search Readers.regexInfoStart "12\t3  4 5 6".toList = some ["12".toList, "3".toList, "4".toList, "5".toList, "6".toList] ∧
    Regex.search Readers.regexInfoStart "1 2 3 4 5 6".toList = none := by
  decide +kernel

/-- non-vacuity: exponent notation goes through the model's reader with its exponent (not the mantissa only) -/
example : ratFmt.parse "1.5e3" = some 1500 ∧ ratFmt.parse "-2.5E-1" = some (mkRat (-1) 4) ∧ ratFmt.parse ".5e+1" = some 5 := by
  decide +kernel

/-- non-vacuity: the precisions the round trip rounds to are the generated ones -/
example : roundAllS ratFmt tiny = roundAll ratFmt tiny ∧ precAt Readers.fmtCoord 0 = 4 ∧ precAt Readers.fmtPVE 2 = 6 := by
  decide +kernel

/-! #### ties shared with other properties -/

/-- `cij fill` as translated on this run (cij/cli/fill.py, owned by C09's file): every click option hands its value to the `fill_cij` keyword of
its own name and declares the LIBRARY's default for it (in particular `--drop-atol` defaults to `drop_atol`'s 1e-8, so what the command
prints is what `fill_cij(table, system)` returns), and the table is printed without an index column -/
theorem c17_fill_cli_is_source :
    (∀ o ∈ Generated.cliOptions, o.kwarg ∈ Generated.fillParams.tail ∧ Cij.FillSource.lookupDefault o.kwarg = some o.default) ∧
    Generated.cliPrintIndex = false :=
  ⟨fun o ho => ⟨(Cij.FillSource.cli_is_source.1 o ho).2.1, (Cij.FillSource.cli_is_source.1 o ho).2.2⟩,
   Cij.FillSource.cli_is_source.2.2.2.2.2⟩

end Cij.C17
