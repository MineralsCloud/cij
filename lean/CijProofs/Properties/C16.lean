/-
  C16 — effective configuration = user settings over packaged defaults; invalid configurations rejected.

  Model: `CijModel/Config.lean` (`updateConfig`, `applyDefaultConfig`, `parserFor`) and `CijModel/Schema.lean`
  (`validate`), applied to `Generated.configSchema`, `Generated.defaultSettings`, `Generated.exampleSettings`
  (all three re-translated from /repo on every run).

  MERGE.  Every clause is proved for ALL nested dictionaries `u`, `d` and every iteration order `ord` of the
  key set (`OrdOK ord`: `ord l` is a permutation of `l`).  The call returns for all dictionaries
  (`c16_defined`); `c16_effective_config` bundles all clauses.  Where the user has a dictionary and the default a
  non-dictionary value the user's dictionary is taken whole (`c16_merge_spec_taken`) — this is the behaviour of
  /repo since fix a3016c4; before it the code raised AttributeError there (regression theorem
  `c16_user_dict_over_default_list_kept`; the harness still reports an AttributeError
  at such a point under the site `update_config:user-dict-over-non-dict-default`).
  "Leaves both inputs unmodified" is trivially true of the model (a pure function); the harness deep-compares
  both inputs before/after the real call, and section 5 ties it to the source: the only dict `update_config` stores into is
  the one it created as `{}`.

  VALIDATION.  Field-by-field theorems quantify over every configuration; the documented constraints
  (`documented`, typed from the documentation/property text) are tied to the translated schema by a kernel
  evaluation (`c16_documented_checked`).  No claim is made about unknown root-level keys (the schema's
  root-level "additionalProperties" sits inside "properties", where it is a property name).
  YAML/JSON parsers are not modelled (tested by the harness through the real `read_config`); only the choice of
  parser by suffix is (`c16_parser_by_suffix`).

  Section 4.  `c16_valid_user_merges`: for every user configuration that VALIDATES the effective configuration exists
  and has all the properties; `c16_valid_user_dict_over_leaf_only_free_form`: in such a configuration a user
  dictionary can replace a non-dictionary default only at the four leaves the schema leaves untyped.

  Section 5 (source).  `Generated.ConfigSrc` is PRINTED on every run from the abstract syntax of `config.py` / `validate.py` /
  `__init__.py` (`tools/gens/config_src.py`).  `update_config_is_source`: the printed `update_config` equals the model
  for all values and all iteration orders, so every merge theorem of section 1 is a theorem about the function as it is
  written now (`c16_source_effective_config`); `apply_default_config`, the suffix chain and the validate-then-return
  flow of `read_config`, and `validate_config` likewise; module-level state, decorators, validator extensions: none.
-/
import CijProofs.Lemmas.Config
import CijProofs.Lemmas.Schema
import CijProofs.Lemmas.ConfigSource
import Generated.ExampleSettings

namespace Cij.C16
open Cij Cij.Config Cij.Schema

/-! ## 1. merge: `update_config` / `apply_default_config` -/

/-- "the user does not specify `p`": following `p` in the user's dict runs into a missing key
(not into a leaf on the way, and `p` is not itself a key path of the user) -/
abbrev Unspecified (u : J) (p : List String) : Prop := walk u p = .fellOff

/-- complete specification (1): on every key path the result shows what the user has there, unless the user's
walk fell off a dict, in which case it shows what the default has there -/
theorem c16_merge_spec {ord : List String → List String} (hord : OrdOK ord) {u d r : J}
    (h : updateConfig ord u d = .ok r) (p : List String) (hp : ¬ TakenWhole u d p) :
    walk r p = (walk u p).over (walk d p) :=
  walk_update hord p h hp

/-- complete specification (2): below a place where the user has a dictionary and the default a non-dictionary value
the user's dictionary is taken whole -/
theorem c16_merge_spec_taken {ord : List String → List String} (hord : OrdOK ord) {u d r : J}
    (h : updateConfig ord u d = .ok r) (p : List String) (hp : TakenWhole u d p) : walk r p = walk u p :=
  walk_update_taken hord p h hp

/-- the two cases combined, in the only direction that loses nothing: whatever the user's walk shows (other than
"fell off") is what the result shows -/
theorem c16_user_walk_wins {ord : List String → List String} (hord : OrdOK ord) {u d r : J}
    (h : updateConfig ord u d = .ok r) (p : List String) (hu : walk u p ≠ .fellOff) : walk r p = walk u p :=
  (walk_update_cases hord h p).resolve_right fun h' => hu h'.1

/-- every user-specified leaf value is kept, at any depth -/
theorem c16_leaf_user_kept {ord : List String → List String} (hord : OrdOK ord) {u d r : J}
    (h : updateConfig ord u d = .ok r) {p : List String} {v : J} (hu : get u p = some v) (hv : isObj v = false) :
    get r p = some v := by
  have hw : walk u p = .leafAt v := walk_eq_leafAt.2 ⟨hu, hv⟩
  have := c16_user_walk_wins hord h p (by rw [hw]; exact fun e => by cases e)
  rw [hw] at this
  exact (walk_eq_leafAt.1 this).1

/-- every leaf the user does not specify is taken from the default -/
theorem c16_leaf_default_filled {ord : List String → List String} (hord : OrdOK ord) {u d r : J}
    (h : updateConfig ord u d = .ok r) {p : List String} {v : J} (hd : get d p = some v) (hv : isObj v = false)
    (hun : Unspecified u p) : get r p = some v := by
  have hw : walk d p = .leafAt v := walk_eq_leafAt.2 ⟨hd, hv⟩
  have hnt : ¬ TakenWhole u d p := not_takenWhole_of_leaf hw (by rw [hun]; exact fun e => by cases e)
  have := walk_update hord p h hnt
  rw [hun, hw] at this
  exact (walk_eq_leafAt.1 this).1

/-- the result contains no other keys: every key path of the result is a key path of the user or of the default -/
theorem c16_no_other_keys {ord : List String → List String} (hord : OrdOK ord) {u d r : J}
    (h : updateConfig ord u d = .ok r) {p : List String} (hr : (get r p).isSome = true) :
    (get u p).isSome = true ∨ (get d p).isSome = true := by
  rw [get_isSome_iff] at hr ⊢
  rw [get_isSome_iff]
  rcases walk_update_cases hord h p with e | ⟨_, e⟩
  · exact Or.inl (e ▸ hr)
  · exact Or.inr (e ▸ hr)

/-- the result contains no other values: a leaf of the result is the user's leaf there, or the default's leaf at a path the
user does not specify -/
theorem c16_no_other_values {ord : List String → List String} (hord : OrdOK ord) {u d r : J}
    (h : updateConfig ord u d = .ok r) {p : List String} {x : J} (hr : get r p = some x) (hx : isObj x = false) :
    get u p = some x ∨ (Unspecified u p ∧ get d p = some x) := by
  have hw : walk r p = .leafAt x := walk_eq_leafAt.2 ⟨hr, hx⟩
  rcases walk_update_cases hord h p with e | ⟨hu, e⟩
  · exact Or.inl (walk_eq_leafAt.1 (e ▸ hw)).1
  · exact Or.inr ⟨hu, (walk_eq_leafAt.1 (e ▸ hw)).1⟩

/-- the call returns for all dictionaries (and only for dictionaries: `.keys()` of anything else raises) -/
theorem c16_defined {ord : List String → List String} (hord : OrdOK ord) (u d : J) :
    (∃ r, updateConfig ord u d = .ok r) ↔ (isObj u = true ∧ isObj d = true) := ok_iff hord u d

theorem c16_only_attributeError {ord : List String → List String} (hord : OrdOK ord) (u d : J) (e : Err)
    (h : updateConfig ord u d = .error e) : e = .attributeError := error_is_attributeError hord u d e h

/-- idempotent: merging the result with the same default again changes nothing (as a map) -/
theorem c16_idempotent {ord : List String → List String} (hord : OrdOK ord) {u d r : J}
    (h : updateConfig ord u d = .ok r) : ∃ r', updateConfig ord r d = .ok r' ∧ MapEq r' r := by
  obtain ⟨ukv, dkv, rkv, rfl, rfl, rfl, _⟩ := ok_shape h
  obtain ⟨r', hr'⟩ := ok_of_obj hord (.obj rkv) (.obj dkv) rfl rfl
  refine ⟨r', hr', fun p => ?_⟩
  by_cases ht' : TakenWhole (.obj rkv) (.obj dkv) p
  · exact walk_update_taken hord p hr' ht'
  rw [walk_update hord p hr' ht']
  cases hw : walk (.obj rkv) p with
  | leafAt v => rfl
  | dictAt => rfl
  | shadowed => rfl
  | fellOff =>
    -- the result fell off: then so did the default (and the user), so nothing is added
    simp only [Walk.over]
    by_cases ht : TakenWhole (.obj ukv) (.obj dkv) p
    · exfalso
      obtain ⟨q, s, v, hp, hu, hd⟩ := ht
      apply ht'
      refine ⟨q, s, v, hp, ?_, hd⟩
      rw [walk_update_taken hord q h ⟨q, [], v, by simp, hu, hd⟩]; exact hu
    · have := walk_update hord p h ht
      rw [hw] at this
      exact (over_eq_fellOff this.symm).2

/-- the order in which the key set is iterated is irrelevant: whether the call returns, and what it returns
as a map -/
theorem c16_order_free {ord₁ ord₂ : List String → List String} (h₁ : OrdOK ord₁) (h₂ : OrdOK ord₂) {u d r₁ : J}
    (h : updateConfig ord₁ u d = .ok r₁) : ∃ r₂, updateConfig ord₂ u d = .ok r₂ ∧ MapEq r₁ r₂ := by
  obtain ⟨r₂, hr₂⟩ := (ok_iff h₂ u d).2 ((ok_iff h₁ u d).1 ⟨r₁, h⟩)
  refine ⟨r₂, hr₂, fun p => ?_⟩
  by_cases ht : TakenWhole u d p
  · rw [walk_update_taken h₁ p h ht, walk_update_taken h₂ p hr₂ ht]
  · rw [walk_update h₁ p h ht, walk_update h₂ p hr₂ ht]

/-- **The merge clause, for ALL nested dictionaries** and every iteration order: the effective configuration
exists, keeps the user's leaves, fills the unspecified ones from the default, has no other keys, and is
idempotent. -/
theorem c16_effective_config {ord : List String → List String} (hord : OrdOK ord) (u d : J)
    (hu : isObj u = true) (hd : isObj d = true) :
    ∃ r, updateConfig ord u d = .ok r ∧
      (∀ p v, get u p = some v → isObj v = false → get r p = some v) ∧
      (∀ p v, get d p = some v → isObj v = false → Unspecified u p → get r p = some v) ∧
      (∀ p, (get r p).isSome = true → (get u p).isSome = true ∨ (get d p).isSome = true) ∧
      (∃ r', updateConfig ord r d = .ok r' ∧ MapEq r' r) := by
  obtain ⟨r, h⟩ := ok_of_obj hord u d hu hd
  exact ⟨r, h, fun _ _ h1 h2 => c16_leaf_user_kept hord h h1 h2,
    fun _ _ h1 h2 h3 => c16_leaf_default_filled hord h h1 h2 h3,
    fun _ h1 => c16_no_other_keys hord h h1, c16_idempotent hord h⟩

/-- a user dictionary where the packaged default has a list (the input on which the code raised AttributeError
before fix a3016c4) -/
def witnessUser : J := .obj [("output", .obj [("pressure_base", .obj [("cij", .bool true)])])]

/-- **Regression theorem for the repaired defect**: for every iteration order the effective configuration of
`witnessUser` exists, contains the user's dictionary at `output.pressure_base` whole (its leaf, and nothing of
the default's list), and is filled from the default elsewhere. -/
theorem c16_user_dict_over_default_list_kept {ord : List String → List String} (hord : OrdOK ord) :
    ∃ r, applyDefaultConfig ord witnessUser = .ok r ∧
      get r ["output", "pressure_base", "cij"] = some (.bool true) ∧
      MapEq ((get r ["output", "pressure_base"]).getD .null) (.obj [("cij", .bool true)]) ∧
      get r ["output", "volume_base"] = some (.arr [.str "p"]) ∧
      get r ["qha", "settings", "NT"] = some (.num 16 1 true) := by
  obtain ⟨r, h⟩ := ok_of_obj hord witnessUser Generated.defaultSettings rfl (by decide)
  have hk : get r ["output", "pressure_base", "cij"] = some (.bool true) :=
    c16_leaf_user_kept hord h (by decide) rfl
  refine ⟨r, h, hk, ?_, c16_leaf_default_filled hord h (by decide) rfl (by decide),
    c16_leaf_default_filled hord h (by decide) rfl (by decide)⟩
  -- the sub-dictionary: its walks are the user's walks
  have htw : ∀ s, TakenWhole witnessUser Generated.defaultSettings (["output", "pressure_base"] ++ s) := fun s =>
    ⟨["output", "pressure_base"], s, (get Generated.defaultSettings ["output", "pressure_base"]).getD .null, rfl,
      by decide, by decide⟩
  obtain ⟨ikv, hg, _⟩ := get_append_singleton (x := r) (p := ["output", "pressure_base"]) (k := "cij") hk
  rw [hg]
  intro s
  simp only [Option.getD_some]
  rw [walk_of_get _ s hg, walk_update_taken hord _ h (htw s)]
  exact (walk_of_get (t := witnessUser) ["output", "pressure_base"] s (by decide)).symm

/-- the same by kernel evaluation for one iteration order, together with validity of the completed configuration -/
example : isOk (applyDefaultConfig id (.obj [("qha", .obj []), ("elast", .obj []),
      ("output", .obj [("pressure_base", .obj [("cij", .bool true)])])])) = true := by decide +kernel

/-- non-vacuity of the positive part, on the packaged default: a user file that sets two leaves and adds a key -/
def sampleUser : J := .obj [
  ("qha", .obj [("settings", .obj [("NT", .num 31 1 true), ("NTV", .num 81 1 true)])]),
  ("elast", .obj [("settings", .obj [("symmetry", .obj [("system", .str "cubic")])])]),
  ("output", .obj [("volume_base", .arr [.str "cij"])])]

example : ∃ r, applyDefaultConfig id sampleUser = .ok r ∧
    get r ["qha", "settings", "NT"] = some (.num 31 1 true) ∧          -- user leaf kept
    get r ["qha", "settings", "NTV"] = some (.num 81 1 true) ∧         -- user-only key kept
    get r ["qha", "settings", "DT"] = some (.num 100 1 true) ∧         -- default leaf filled
    get r ["elast", "settings", "symmetry", "system"] = some (.str "cubic") ∧
    get r ["elast", "settings", "symmetry", "drop_atol"] = some (.num 1 100000000 false) ∧
    get r ["output", "volume_base"] = some (.arr [.str "cij"]) ∧       -- a list is a leaf: replaced whole
    validateConfig r = true := by
  refine ⟨_, rfl, ?_⟩
  decide +kernel

-- the hypotheses of `c16_effective_config` hold for the sample and the packaged default
example : isObj sampleUser = true ∧ isObj Generated.defaultSettings = true := ⟨rfl, by decide⟩

-- an admissible iteration order other than `id`
example : OrdOK List.reverse := ordOK_reverse

/-- a user leaf over a default dictionary is allowed (the whole default sub-dictionary is dropped) -/
example : isOk (updateConfig id (.obj [("elast", .str "none")]) Generated.defaultSettings) = true := by
  decide +kernel

/-! ## 2. `read_config`: parser chosen by suffix (the parsers themselves are not modelled) -/

theorem c16_parser_by_suffix :
    parserFor "settings.yaml" = .ok .yaml ∧ parserFor "dir.d/settings.yml" = .ok .yaml ∧
    parserFor "a/b/settings.json" = .ok .json ∧ parserFor "settings.tar.json" = .ok .json ∧
    parserFor "settings.txt" = .error .runtimeError ∧ parserFor "settings" = .error .runtimeError ∧
    parserFor ".json" = .error .runtimeError ∧ parserFor "settings.JSON" = .error .runtimeError := by
  decide +kernel

/-! ## 3. validation against the packaged schema -/

abbrev schema : J := Generated.configSchema

/-- the packaged schema stays inside the modelled JSON-Schema fragment (modelled keywords only, well-formed
values, every `$ref` resolves, nesting within the fuel) -/
theorem c16_schema_supported : supported Generated.configSchema = true := by decide +kernel

/-- the packaged default validates -/
theorem c16_default_valid : validateConfig Generated.defaultSettings = true := by decide +kernel

/-- every shipped example settings file validates -/
theorem c16_examples_valid : ∀ e ∈ Generated.exampleSettings, validateConfig e.2 = true := by decide +kernel

example : Generated.exampleSettings.length ≥ 3 := by decide +kernel

/-- every shipped example validates after the defaults were applied -/
theorem c16_examples_effective_valid : ∀ e ∈ Generated.exampleSettings,
    (match applyDefaultConfig id e.2 with
     | .ok r => validateConfig r
     | .error _ => false) = true := by decide +kernel

def interpolators : List String := ["lsq_poly", "lagrange", "spline", "krogh", "pchip", "hermite", "akima"]
def systems : List String :=
  ["triclinic", "monoclinic", "hexagonal", "trigonal6", "trigonal7", "orthorhombic", "tetragonal6", "tetragonal7", "cubic"]

/-- The documented fields and their constraints (typed from the documentation of `settings.yaml` — the tables
of `docs/usage/input.rst` — and the property statement; NOT read from the schema file).
`minimum := some (a, b)` is the rational a/b. -/
def documented : List (List String × Spec) := [
  (["qha", "input"],                                   { type := "string" }),
  (["qha", "settings", "NT"],                          { type := "integer", minimum := some (1, 1) }),
  (["qha", "settings", "DT"],                          { type := "number" }),
  (["qha", "settings", "T_MIN"],                       { type := "number", minimum := some (0, 1) }),
  (["qha", "settings", "NTV"],                         { type := "integer", minimum := some (1, 1) }),
  (["qha", "settings", "P_MIN"],                       { type := "number" }),
  (["qha", "settings", "DELTA_P"],                     { type := "number" }),
  (["qha", "settings", "DELTA_P_SAMPLE"],              { type := "number" }),
  (["qha", "settings", "volume_ratio"],                { type := "number", minimum := some (1, 1) }),
  (["qha", "settings", "order"],                       { type := "number", minimum := some (2, 1) }),
  (["elast", "input"],                                 { type := "string" }),
  (["elast", "settings", "mode_gamma", "interpolator"], { type := "string", enum := some interpolators }),
  (["elast", "settings", "mode_gamma", "order"],       { type := "integer", minimum := some (1, 1) }),
  (["elast", "settings", "symmetry", "system"],        { type := "string", enum := some systems }),
  (["elast", "settings", "symmetry", "ignore_residuals"], { type := "boolean" }),
  (["elast", "settings", "symmetry", "ignore_rank"],   { type := "boolean" }),
  (["elast", "settings", "symmetry", "drop_atol"],     { type := "number" }),
  (["elast", "settings", "symmetry", "residual_atol"], { type := "number" })]

/-- **Tie between the documented constraints and the translated schema** (kernel evaluation on
`Generated.configSchema`): for every documented field, (1) each part of its constraint (type / minimum /
enumeration) is imposed by a schema the validation applies at that path; (2) every schema applied at that path
asks for nothing beyond the documented constraint; (3) the field's parent dictionary exists in the packaged
default. -/
theorem c16_documented_checked : ∀ fk ∈ documented,
    enforced fk.2 (applicable Generated.configSchema fk.1) = true ∧
    (applicable Generated.configSchema fk.1).all (leafImplied fk.2) = true ∧
    parentIsDict Generated.defaultSettings fk.1 = true := by decide +kernel

/-- what `Spec.holds` means, spelled out (jsonschema's type rules: a bool is neither number nor integer,
3.0 counts as an integer; `minimum` compares exactly) -/
example : let nt : Spec := { type := "integer", minimum := some (1, 1) }
    nt.holds (.num 16 1 true) = true ∧ nt.holds (.num 3 1 false) = true ∧      -- 16, 3.0
    nt.holds (.num 7 2 false) = false ∧ nt.holds (.num 0 1 true) = false ∧     -- 3.5, 0
    nt.holds (.bool true) = false ∧ nt.holds (.str "16") = false ∧ nt.holds .null = false := by decide

example : let sys : Spec := { type := "string", enum := some systems }
    sys.holds (.str "cubic") = true ∧ sys.holds (.str "orthrohombic") = false ∧ sys.holds (.num 2 1 true) = false := by
  decide

/-- **Rejection, field by field, for every configuration**: a configuration whose value at a documented field
violates the documented constraint (wrong type, below the minimum, unknown enumeration value) is invalid. -/
theorem c16_field_rejects : ∀ fk ∈ documented, ∀ (cfg v : J),
    get cfg fk.1 = some v → fk.2.holds v = false → validateConfig cfg = false := by
  intro fk hfk cfg v hg hh
  refine Bool.eq_false_iff.2 fun hv => ?_
  have happ := valid_applic Generated.configSchema fuel Generated.configSchema cfg hv fk.1 v hg
  have := holds_of_enforced (c16_documented_checked fk hfk).1 happ
  rw [hh] at this; cases this

/-- the same for `setPath`: setting a documented field to a value that violates its constraint gives an invalid configuration -/
theorem c16_field_rejects_set : ∀ fk ∈ documented, ∀ (cfg v : J),
    fk.2.holds v = false → validateConfig (setPath cfg fk.1 v) = false :=
  fun fk hfk cfg v hh => c16_field_rejects fk hfk _ v (get_setPath v fk.1 cfg) hh

/-- **Acceptance, field by field**: in any valid configuration, setting a documented field (replacing it, or
adding it to its existing parent dictionary) to any value satisfying the documented constraint gives a valid
configuration. -/
theorem c16_field_accepts : ∀ fk ∈ documented, ∀ (cfg v : J),
    validateConfig cfg = true → parentIsDict cfg fk.1 = true → fk.2.holds v = true →
    validateConfig (setPath cfg fk.1 v) = true := by
  intro fk hfk cfg v hv hp hh
  have hchk := (c16_documented_checked fk hfk).2.1
  rw [List.all_eq_true] at hchk
  exact valid_setPath Generated.configSchema fuel Generated.configSchema cfg hv fk.1 v hp
    (fun mT hm => valid_of_leafImplied (hchk mT hm) hh)

/-- acceptance on the packaged default -/
theorem c16_field_accepts_default : ∀ fk ∈ documented, ∀ (v : J),
    fk.2.holds v = true → validateConfig (setPath Generated.defaultSettings fk.1 v) = true :=
  fun fk hfk v hh => c16_field_accepts fk hfk _ v c16_default_valid (c16_documented_checked fk hfk).2.2 hh

/-- on the packaged default, setting a documented field gives a valid configuration iff the value satisfies the documented
constraint — for every documented field and every value -/
theorem c16_field_iff_default : ∀ fk ∈ documented, ∀ (v : J),
    validateConfig (setPath Generated.defaultSettings fk.1 v) = fk.2.holds v := by
  intro fk hfk v
  cases hh : fk.2.holds v with
  | true => exact c16_field_accepts_default fk hfk v hh
  | false => exact c16_field_rejects_set fk hfk _ v hh

-- a row of `documented`, as the field theorems quantify over it
example : (["qha", "settings", "NT"], ({ type := "integer", minimum := some (1, 1) } : Spec)) ∈ documented := by
  simp [documented]

/-- concrete instances on the packaged default (evaluated by the kernel, independent of the lemmas) -/
example : validateConfig (setPath Generated.defaultSettings ["qha", "settings", "NT"] (.num 0 1 true)) = false ∧
    validateConfig (setPath Generated.defaultSettings ["qha", "settings", "NT"] (.num 31 1 true)) = true ∧
    validateConfig (setPath Generated.defaultSettings ["qha", "settings", "NT"] (.bool true)) = false ∧
    validateConfig (setPath Generated.defaultSettings ["elast", "settings", "mode_gamma", "interpolator"] (.str "cubic")) = false ∧
    validateConfig (setPath Generated.defaultSettings ["elast", "settings", "symmetry", "system"] (.str "cubic")) = true := by
  decide +kernel

/-- a valid configuration is a dictionary that has the `qha` and the `elast` section -/
theorem c16_valid_has_sections (cfg : J) (hv : validateConfig cfg = true) :
    ∃ kv, cfg = .obj kv ∧ hasKey "qha" kv = true ∧ hasKey "elast" kv = true := by
  have happ := valid_applic Generated.configSchema fuel Generated.configSchema cfg hv [] cfg rfl
  have hobj : enforced { type := "object" } (applicable Generated.configSchema []) = true := by decide +kernel
  have := holds_of_enforced hobj happ
  simp only [Spec.holds, Bool.and_true] at this
  cases cfg <;> simp [typeOk, isObj] at this
  rename_i kv
  have hq : requiredAt "qha" (applicable Generated.configSchema []) = true := by decide +kernel
  have he : requiredAt "elast" (applicable Generated.configSchema []) = true := by decide +kernel
  exact ⟨kv, rfl, hasKey_of_requiredAt hq happ, hasKey_of_requiredAt he happ⟩

/-- a missing `qha` or `elast` section is rejected -/
theorem c16_missing_section_rejected (kv : KV) (h : hasKey "qha" kv = false ∨ hasKey "elast" kv = false) :
    validateConfig (.obj kv) = false := by
  refine Bool.eq_false_iff.2 fun hv => ?_
  obtain ⟨kv', hkv, h1, h2⟩ := c16_valid_has_sections _ hv
  cases hkv
  rcases h with h | h
  · rw [h] at h1; cases h1
  · rw [h] at h2; cases h2

/-- removing a section from ANY configuration makes it invalid -/
theorem c16_section_removed_rejected (kv : KV) :
    validateConfig (.obj (delKey "qha" kv)) = false ∧ validateConfig (.obj (delKey "elast" kv)) = false :=
  ⟨c16_missing_section_rejected _ (Or.inl (hasKey_delKey _ _)), c16_missing_section_rejected _ (Or.inr (hasKey_delKey _ _))⟩

def elastSettingsKeys : List String := ["mode_gamma", "symmetry"]
def symmetryKeys : List String := ["system", "ignore_residuals", "ignore_rank", "drop_atol", "residual_atol"]

/-- unknown keys inside the elasticity settings are rejected, in every configuration -/
theorem c16_unknown_key_elast_settings (cfg : J) (k : String) (x : J)
    (hg : get cfg (["elast", "settings"] ++ [k]) = some x) (hk : k ∉ elastSettingsKeys) :
    validateConfig cfg = false :=
  validate_unknown_key (by decide +kernel) hg hk

/-- unknown keys inside the symmetry settings are rejected, in every configuration -/
theorem c16_unknown_key_symmetry (cfg : J) (k : String) (x : J)
    (hg : get cfg (["elast", "settings", "symmetry"] ++ [k]) = some x) (hk : k ∉ symmetryKeys) :
    validateConfig cfg = false :=
  validate_unknown_key (by decide +kernel) hg hk

/-- the documented keys of these two dictionaries are exactly the ones with a documented field -/
example : validateConfig (setPath Generated.defaultSettings ["elast", "settings", "symmetry", "sytem"] (.str "cubic")) = false ∧
    validateConfig (setPath Generated.defaultSettings ["elast", "settings", "mode_gama"] (.obj [])) = false := by
  decide +kernel

/-! ## 4. the real pipeline: `read_config` validates, then `apply_default_config` merges (`Calculator.__init__`) -/

/-- the leaves of the packaged default that the schema does not type: a valid user file may put a dictionary there -/
def freeFormLeaves : List (List String) :=
  [["qha", "settings", "DT_SAMPLE"], ["qha", "settings", "static_only"], ["output", "pressure_base"], ["output", "volume_base"]]

/-- every leaf of the packaged default is one of the four free-form ones or is typed as a non-object by the schema -/
theorem c16_default_leaves_typed :
    depthLe 8 Generated.defaultSettings = true ∧
    ∀ q ∈ leafPaths 8 Generated.defaultSettings,
      q ∈ freeFormLeaves ∨ scalarTyped (applicable Generated.configSchema q) = true := by decide +kernel

/-- **For every VALID user configuration the effective configuration exists**, for every iteration order, and has
all the properties of `c16_effective_config` with respect to the packaged default. -/
theorem c16_valid_user_merges {ord : List String → List String} (hord : OrdOK ord) (u : J)
    (hv : validateConfig u = true) :
    ∃ r, applyDefaultConfig ord u = .ok r ∧
      (∀ p v, get u p = some v → isObj v = false → get r p = some v) ∧
      (∀ p v, get Generated.defaultSettings p = some v → isObj v = false → Unspecified u p → get r p = some v) ∧
      (∀ p, (get r p).isSome = true → (get u p).isSome = true ∨ (get Generated.defaultSettings p).isSome = true) ∧
      (∃ r', applyDefaultConfig ord r = .ok r' ∧ MapEq r' r) := by
  obtain ⟨kv, rfl, _, _⟩ := c16_valid_has_sections u hv
  exact c16_effective_config hord _ _ rfl (by decide)

/-- in a valid user configuration, a user dictionary replaces a non-dictionary default only at (a path through)
one of the four free-form leaves; everywhere else the plain "user over default" specification `c16_merge_spec`
applies -/
theorem c16_valid_user_dict_over_leaf_only_free_form (u : J) (hv : validateConfig u = true) (p : List String)
    (ht : TakenWhole u Generated.defaultSettings p) : ∃ q ∈ freeFormLeaves, q <+: p ∧ walk u q = .dictAt :=
  takenWhole_free_of_valid c16_default_leaves_typed.1 c16_default_leaves_typed.2 hv ht

/-- the free-form leaves are really free: `witnessUser` with the two sections added validates, and its
effective configuration validates too -/
example : validateConfig (.obj [("qha", .obj []), ("elast", .obj []),
      ("output", .obj [("pressure_base", .obj [("cij", .bool true)])])]) = true ∧
    (match applyDefaultConfig id (.obj [("qha", .obj []), ("elast", .obj []),
      ("output", .obj [("pressure_base", .obj [("cij", .bool true)])])]) with
     | .ok r => validateConfig r
     | .error _ => false) = true := by
  decide +kernel

/-! ## 5. the source code as it is written now (`Generated.ConfigSrc`, printed from the abstract syntax on this run) -/

open Cij.ConfigSource

/-- **`update_config` as written now IS the model**: the definition printed from the function's abstract syntax
(fresh `{}`, loop over the key set in an arbitrary order, the `not in` / `isinstance … and isinstance …` chain, the
recursive call) equals `Config.updateConfig` for ALL values — dictionaries of any nesting, and non-dictionaries — and
ALL iteration orders (no hypothesis on `ord`). -/
theorem update_config_is_source (ord : List String → List String) (u d : J) :
    Generated.ConfigSrc.update_config ord u d = updateConfig ord u d := update_config_eq ord u d

/-- **Every merge clause is a theorem about the function as written now**: for all nested dictionaries and every
iteration order the printed function returns; the result keeps the user's leaves, fills the unspecified ones from the
default, has no other keys, is idempotent, and does not depend on the iteration order. -/
theorem c16_source_effective_config {ord : List String → List String} (hord : OrdOK ord) (u d : J)
    (hu : isObj u = true) (hd : isObj d = true) :
    ∃ r, Generated.ConfigSrc.update_config ord u d = .ok r ∧
      (∀ p v, get u p = some v → isObj v = false → get r p = some v) ∧
      (∀ p v, get d p = some v → isObj v = false → Unspecified u p → get r p = some v) ∧
      (∀ p, (get r p).isSome = true → (get u p).isSome = true ∨ (get d p).isSome = true) ∧
      (∃ r', Generated.ConfigSrc.update_config ord r d = .ok r' ∧ MapEq r' r) ∧
      (∀ ord₂, OrdOK ord₂ → ∃ r₂, Generated.ConfigSrc.update_config ord₂ u d = .ok r₂ ∧ MapEq r r₂) := by
  simp only [update_config_is_source]
  obtain ⟨r, h, h1, h2, h3, h4⟩ := c16_effective_config hord u d hu hd
  exact ⟨r, h, h1, h2, h3, h4, fun ord₂ h₂ => c16_order_free hord h₂ h⟩

/-- **Inputs unmodified, at the source**: the printed function is a pure function of its two arguments, and in the
Python text the only dictionary ever stored into is the local created as `{}` — it is not a parameter, it is what is
returned, and the only method called on a parameter is `.keys()`.  (The recursion builds its own `{}` at every level:
it is the same function.) -/
theorem update_config_source_builds_fresh_dict :
    Generated.ConfigSrc.updateConfigFresh ∉ Generated.ConfigSrc.updateConfigParams ∧
    Generated.ConfigSrc.updateConfigStoreTargets ≠ [] ∧
    (∀ t ∈ Generated.ConfigSrc.updateConfigStoreTargets, t = Generated.ConfigSrc.updateConfigFresh) ∧
    Generated.ConfigSrc.updateConfigReturned = Generated.ConfigSrc.updateConfigFresh ∧
    (∀ m ∈ Generated.ConfigSrc.updateConfigParamMethods, m = "keys") := by decide

/-- **`apply_default_config` as written now IS the model**: it merges its argument (first) over the content of the
packaged `default/settings.yaml` (second), which it reads inside the call with the YAML parser the translator of
`Generated.defaultSettings` uses. -/
theorem apply_default_is_source (ord : List String → List String) (u : J) :
    Generated.ConfigSrc.apply_default_config ord packagedData u = applyDefaultConfig ord u ∧
    Generated.ConfigSrc.applyDefaultParser = .yaml :=
  ⟨apply_default_eq ord u, rfl⟩

/-- the argument order matters and is the right one: the other order lets the default win -/
example : Generated.ConfigSrc.update_config id (.obj [("a", .str "user")]) (.obj [("a", .str "default")])
      = .ok (.obj [("a", .str "user")]) ∧
    Generated.ConfigSrc.update_config id (.obj [("a", .str "default")]) (.obj [("a", .str "user")])
      = .ok (.obj [("a", .str "default")]) := by decide

/-- **No state between calls**: `config.py` has no module-level assignment and nothing at module level but imports and
its three functions, none decorated (no `lru_cache`), no parameter with a default except `read_config`'s
`validate=True` (no mutable-default cache); `validate.py` and `__init__.py` assign `__all__` only and are undecorated.
Together with the printed bodies (the default file and the schema are opened inside the call) every call loads them
afresh. -/
theorem config_modules_stateless :
    Generated.ConfigSrc.configPyAssignments = [] ∧ Generated.ConfigSrc.configPyOther = [] ∧
    (∀ n, n ∈ Generated.ConfigSrc.configPyFunctions.map (·.1) ↔ n ∈ ["read_config", "update_config", "apply_default_config"]) ∧
    Generated.ConfigSrc.configPyFunctions.length = 3 ∧
    (∀ f ∈ Generated.ConfigSrc.configPyFunctions, f.2.1 = [] ∧
      ∀ a ∈ f.2.2, a.2 = none ∨ (f.1 = "read_config" ∧ a = ("validate", some "True"))) ∧
    Generated.ConfigSrc.readConfigValidateDefault = true ∧
    (∀ a ∈ Generated.ConfigSrc.validatePyAssignments, a = "__all__") ∧ Generated.ConfigSrc.validatePyOther = [] ∧
    (∀ f ∈ Generated.ConfigSrc.validatePyFunctions, f.1 = "validate_config" ∧ f.2.1 = [] ∧ ∀ a ∈ f.2.2, a.2 = none) ∧
    Generated.ConfigSrc.validatePyFunctions.length = 1 ∧
    (∀ a ∈ Generated.ConfigSrc.initPyAssignments, a = "__all__") ∧ Generated.ConfigSrc.initPyOther = [] ∧
    Generated.ConfigSrc.initPyFunctions = [] := by
  exact ⟨by decide, by decide, mem_iff_of_subsets (by decide) (by decide), by decide, by decide, by decide, by decide,
    by decide, by decide, by decide, by decide, by decide, by decide⟩

/-- the names the printed bodies use resolve to what they say: `validate_config` in `config.py` is `validate.py`'s,
`Path` is pathlib's, `jsonschema` / `json` / `cij.data` in `validate.py` are the modules; and the package exports
exactly these four functions from these two modules -/
theorem config_names_resolve :
    (∀ i, i ∈ Generated.ConfigSrc.configPyImports ↔
      i ∈ ["from pathlib import Path", "from .validate import validate_config", "from typing import Union"]) ∧
    (∀ i, i ∈ Generated.ConfigSrc.validatePyImports ↔ i ∈ ["import cij.data", "import json", "import jsonschema"]) ∧
    (∀ e, e ∈ Generated.ConfigSrc.initPyExports ↔
      e ∈ [("read_config", ".config", "read_config"), ("update_config", ".config", "update_config"),
           ("apply_default_config", ".config", "apply_default_config"), ("validate_config", ".validate", "validate_config")]) := by
  exact ⟨mem_iff_of_subsets (by decide) (by decide), mem_iff_of_subsets (by decide) (by decide),
    mem_iff_of_subsets (by decide) (by decide)⟩

/-- the documented suffixes of a settings file -/
def documentedSuffixes : List String := [".json", ".yml", ".yaml"]

/-- **The suffix dispatch of `read_config` as written now IS the model** `parserFor` (`Path(fname).suffix` →
parser or `RuntimeError`) -/
theorem read_config_parser_is_source (fname : String) :
    parserFor fname = (match Generated.ConfigSrc.read_config_parser (pathSuffix fname) with
      | some p => .ok p
      | none => .error .runtimeError) ∧
    Generated.ConfigSrc.readConfigElseRaises = "RuntimeError" := by
  refine ⟨?_, rfl⟩
  -- the `match` of `parser_eq` is another auxiliary function with the same two arms
  rw [parser_eq]
  cases Generated.ConfigSrc.read_config_parser (pathSuffix fname) <;> rfl

/-- **The parser table is total on the documented suffixes and rejects every other one**: `.yml` / `.yaml` are read
with the YAML parser, `.json` with the JSON parser, anything else raises. -/
theorem c16_parser_table_total (s : String) :
    ((Generated.ConfigSrc.read_config_parser s).isSome = true ↔ s ∈ documentedSuffixes) ∧
    (Generated.ConfigSrc.read_config_parser s = some .yaml ↔ (s = ".yml" ∨ s = ".yaml")) ∧
    (Generated.ConfigSrc.read_config_parser s = some .json ↔ s = ".json") := by
  refine ⟨?_, ?_, ?_⟩
  · constructor
    · intro h
      obtain ⟨p, hp⟩ := Option.isSome_iff_exists.1 h
      rcases (parser_some_iff s p).1 hp with ⟨h | h, _⟩ | ⟨h, _⟩ <;> simp [documentedSuffixes, h]
    · intro h
      simp only [documentedSuffixes, List.mem_cons, List.mem_nil_iff, or_false] at h
      rcases h with rfl | rfl | rfl <;> decide
  · rw [parser_some_iff]; simp
  · rw [parser_some_iff]; simp

/-- **`read_config` as written now returns the file's own content, validated as written**: for any parser and any
validator, the call returns `cfg` iff the suffix selects a parser, that parser made `cfg` of the file, and — only when
`validate` is set — `validate_config` accepted that very value `cfg` (not a merged or completed one); nothing is
merged before or after. -/
theorem read_config_is_source {ε : Type} (raised : ε) (parse : Parser → Except ε J) (vc : J → Except ε Unit)
    (s : String) (v : Bool) (cfg : J) :
    Generated.ConfigSrc.read_config raised parse vc s v = .ok cfg ↔
      ∃ p, Generated.ConfigSrc.read_config_parser s = some p ∧ parse p = .ok cfg ∧ (v = true → vc cfg = .ok ()) :=
  read_config_ok_iff raised parse vc s v cfg

/-- `read_config` as written now raises: for an unsupported suffix, when the parser raises, or — only when `validate` is set — what
`validate_config` raised on the parsed value -/
theorem read_config_raises_is_source {ε : Type} (raised : ε) (parse : Parser → Except ε J) (vc : J → Except ε Unit)
    (s : String) (v : Bool) (e : ε) :
    Generated.ConfigSrc.read_config raised parse vc s v = .error e ↔
      (Generated.ConfigSrc.read_config_parser s = none ∧ e = raised) ∨
      (∃ p, Generated.ConfigSrc.read_config_parser s = some p ∧ parse p = .error e) ∨
      (∃ p c, Generated.ConfigSrc.read_config_parser s = some p ∧ parse p = .ok c ∧ v = true ∧ vc c = .error e) :=
  read_config_error raised parse vc s v e

/-- **`validate_config` as written now**: `jsonschema.validate` receives exactly (instance = the argument, schema =
the packaged `schema/config.schema.json`, read inside the call with the JSON parser) and no validator class; nothing in
`validate.py` mentions the validator-extension API (`jsonschema.validators.extend`, `validator_for`, … — how
default-filling or type-extended validators are built).  With `jsonschema.validate` as modelled it is `validateConfig`. -/
theorem validate_config_is_source (cfg : J) :
    (∀ {ε : Type} (jsv : J → J → Except ε Unit),
      Generated.ConfigSrc.validate_config packagedData jsv cfg = jsv cfg Generated.configSchema) ∧
    Generated.ConfigSrc.validate_config packagedData jsonschemaValidate cfg =
      (if validateConfig cfg = true then .ok () else .error .validationError) ∧
    Generated.ConfigSrc.validateConfigArgs = ["instance", "schema"] ∧
    Generated.ConfigSrc.validateExtendedValidatorRefs = [] ∧
    Generated.ConfigSrc.validateConfigSchemaParser = .json :=
  ⟨fun jsv => validate_config_eq jsv cfg, by rw [validate_config_eq]; rfl, by decide, by decide, rfl⟩

/-- **Validation is applied to the file's own content**: `read_config(fname)` (as printed, with `validate_config` as
printed and the modelled `jsonschema.validate`) on a file with a documented suffix whose parser yields `content`
returns `content` itself iff `content` validates, and raises ValidationError otherwise; with `validate=False` it
returns `content` whatever it is. -/
theorem c16_read_config_validates_file_content (content : J) (s : String) (hs : s ∈ documentedSuffixes) :
    readFile content s true = (if validateConfig content = true then .ok content else .error .validationError) ∧
    readFile content s false = .ok content := by
  have h := (c16_parser_table_total s).1.2 hs
  obtain ⟨p, hp⟩ := Option.isSome_iff_exists.1 h
  constructor
  · rw [readFile_eq, hp]
    cases validateConfig content <;> simp
  · rw [readFile_eq, hp]; simp

/-- **Corollary: a file without a `qha` or `elast` section is rejected even though the defaults would supply them** —
and read without validation it is returned as written. -/
theorem c16_file_without_section_rejected (kv : KV) (s : String) (hs : s ∈ documentedSuffixes)
    (h : hasKey "qha" kv = false ∨ hasKey "elast" kv = false) :
    readFile (.obj kv) s true = .error .validationError ∧ readFile (.obj kv) s false = .ok (.obj kv) := by
  obtain ⟨h1, h2⟩ := c16_read_config_validates_file_content (.obj kv) s hs
  exact ⟨by rw [h1, c16_missing_section_rejected kv h]; rfl, h2⟩

/-- non-vacuity: the empty file `{}` is rejected by `read_config`, although its effective configuration (= the packaged
default, which does have both sections) validates; a file with both sections is accepted and returned unchanged -/
example : readFile (.obj []) ".yaml" true = .error .validationError ∧
    (match applyDefaultConfig id (.obj []) with
     | .ok r => validateConfig r && hasKey "qha" (match r with | .obj kv => kv | _ => []) | .error _ => false) = true ∧
    readFile (.obj [("qha", .obj []), ("elast", .obj [])]) ".json" true = .ok (.obj [("qha", .obj []), ("elast", .obj [])]) ∧
    readFile (.obj []) ".txt" false = .error .unsupportedSuffix := by
  decide +kernel

end Cij.C16
