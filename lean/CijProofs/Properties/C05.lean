/-
  C05 — total modulus = interpolated static table + phonon part, end to end from files.

  The statements are about `CijModel/LeastSq.lean` and `CijModel/FullModulus.lean`, the functions the
  correspondence run (harness/c05.py) executes over `Rat` on the inputs the real `Calculator` gets, here over
  an arbitrary linearly ordered field (ℝ, ℚ).

  Proved:
    * the model's fit is *the* least-squares polynomial (`lsq_minimises`, `polyfit_minimises`) and reproduces
      cubics exactly (`lsq_exact_on_cubics`): "interpolated by a least-squares cubic in Eulerian strain of V·c";
    * the model's solver is total where the property quantifies (`gauss_jordan_total`, `polyfit_answers`, `cubic_fit_exact`):
      the unpivoted Gauss–Jordan elimination never meets a zero pivot on a system whose leading principal blocks are
      non-singular, the normal equations of ≥ deg+1 distinct abscissae are such a system (positive definite), so `polyfit`
      ANSWERS there and its answer is the least-squares polynomial;
    * decomposition total = static(key,V) + phonon(key,T,V) at every grid point (`c05_decomposition`), the phonon
      part is independent of the tabulated static values (`c05_phonon_indep_static`), the static part of T
      (`c05_static_indep_T`);
    * strain fractions: each grid point's triple sums to 1 (`axial_strains_sum_one`), equal thirds without
      lattice block (`axial_strains_default_thirds`);
    * unit conversion (`gpa_factor`);
    * the tie to the source at data level (`c05_glue_…`): every def of `cij/core/full_modulus.py` and
      `Calculator._calculate_pressure_static` is re-translated on every run into statement lists over expression trees
      (`Generated/FullModulusGlue.lean`), and the model functions above (`fitModulus`, `getStaticModulus`, `getAxialStrains`,
      `modulusTotal`, `staticPressure`) ARE the interpretation of those statements for all inputs; the strains of the static fit
      are functions of the static table's own volume column and of the grid only; `fit_modulus` differs from its sibling in
      `cij/cli/static.py` exactly in V·c / degree + 1 / division by V; `_from_gpa` is the helper whose factor is `gpaInAtomicUnits`.
  Outside the theorems (entered as data / tied by the correspondence and the oracle of harness/c05.py):
    qha's fine grid and Eulerian strains, the phonon contribution itself (C01–C04), the optional symmetry
    filling (C08/C09), rounding inside numpy.polyfit.
-/
import CijProofs.Lemmas.FullModulus
import CijProofs.Lemmas.GaussJordan
import Generated.FullModulusSpec
import CijProofs.Lemmas.TasksSource
import CijProofs.Lemmas.ModeGammaSource
import Generated.AdapterSpec
import CijProofs.Lemmas.AdapterGuardSource
import Generated.ReadersSpec
import CijProofs.Lemmas.ShearGlueSource
import CijProofs.Lemmas.FullModulusGlueAxial
import CijProofs.Lemmas.StaticUnits
import Generated.CalcGlueSpec
import CijProofs.Lemmas.FillSource
namespace Cij.C05

open Cij.LeastSq Cij.FullModulus

section LeastSquares
variable {α : Type} [Field α] [LinearOrder α] [IsStrictOrderedRing α]

/-- `Aᵀ(Ax − b) = 0 ⇒ ∀ y, ‖Ax − b‖² ≤ ‖Ay − b‖²` for the polynomial design matrix `A_ij = x_i^j`
    (`x` = coefficients `p`, `b` = `ys`): a coefficient vector that satisfies the normal equations minimises the
    sum of squared residuals among *all* polynomials of degree ≤ deg. -/
theorem lsq_minimises (xs ys : List α) (deg : Nat) (p : List α) (hlen : p.length ≤ deg + 1)
    (hnormal : ∀ j < deg + 1, normalResidual xs ys p j = 0) :
    ∀ p' : List α, p'.length ≤ deg + 1 → sqResidual xs ys p ≤ sqResidual xs ys p' :=
  fun p' hp' => normalEq_minimises xs ys deg p hlen hnormal p' hp'

/-- whatever `polyfit` returns *is* a least-squares polynomial of the requested degree (the model verifies
    the normal equations exactly before answering) -/
theorem polyfit_minimises (xs ys : List α) (deg : Nat) (p : List α) (h : polyfit xs ys deg = some p) :
    p.length = deg + 1 ∧ ∀ p' : List α, p'.length ≤ deg + 1 → sqResidual xs ys p ≤ sqResidual xs ys p' := by
  obtain ⟨_, hlen, hn⟩ := polyfit_spec xs ys deg p h
  exact ⟨hlen, lsq_minimises xs ys deg p (le_of_eq hlen) hn⟩

/-- A table that *is* a cubic in the abscissa (≥ 4 distinct abscissae) is reproduced exactly, everywhere —
    so the "interpolated" static value is the tabulated law, not merely close to it. -/
theorem lsq_exact_on_cubics (a b c d : α) (xs : List α) (p : List α)
    (h : polyfit xs (xs.map fun x => a + b * x + c * x ^ 2 + d * x ^ 3) 3 = some p)
    (x0 x1 x2 x3 : α) (m0 : x0 ∈ xs) (m1 : x1 ∈ xs) (m2 : x2 ∈ xs) (m3 : x3 ∈ xs)
    (h01 : x0 ≠ x1) (h02 : x0 ≠ x2) (h03 : x0 ≠ x3) (h12 : x1 ≠ x2) (h13 : x1 ≠ x3) (h23 : x2 ≠ x3) :
    ∀ x, polyval p x = a + b * x + c * x ^ 2 + d * x ^ 3 := by
  obtain ⟨hlen, hmin⟩ := polyfit_minimises xs _ 3 p h
  set q := fun x => a + b * x + c * x ^ 2 + d * x ^ 3 with hq
  -- the generating cubic has residual 0, so the fit has residual 0
  have hzero : sqResidual xs (xs.map q) [d, c, b, a] = 0 := by
    unfold sqResidual
    rw [sumL_eq_sum, List.zipWith_map_right, List.zipWith_self]
    apply List.sum_eq_zero
    intro y hy
    obtain ⟨x, _, rfl⟩ := List.mem_map.mp hy
    rw [polyval_cubic]; simp [hq]
  have hle := hmin [d, c, b, a] (by simp)
  have hres : sqResidual xs (xs.map q) p = 0 :=
    le_antisymm (hzero ▸ hle) (sqResidual_nonneg _ _ _)
  unfold sqResidual at hres
  rw [sumL_eq_sum, List.zipWith_map_right, List.zipWith_self] at hres
  have hpt : ∀ x ∈ xs, polyval p x - q x = 0 := sum_sq_eq_zero xs (fun x => polyval p x - q x) hres
  -- p − q has degree < 4 and four distinct roots
  have hpoly : IsPolyLT 4 (fun x => polyval p x - polyval [d, c, b, a] x) :=
    ((isPolyLT_polyval p).mono (le_of_eq hlen)).sub ((isPolyLT_polyval [d, c, b, a]).mono (by simp))
  intro x
  have r : ∀ y ∈ xs, (fun x => polyval p x - polyval [d, c, b, a] x) y = 0 := by
    intro y hy; simp only [polyval_cubic]; exact hpt y hy
  have := hpoly.eq_zero_of_four_roots x0 x1 x2 x3 h01 h02 h03 h12 h13 h23 (r x0 m0) (r x1 m1) (r x2 m2) (r x3 m3) x
  simp only [polyval_cubic] at this
  exact sub_eq_zero.mp this

omit [LinearOrder α] [IsStrictOrderedRing α] in
/-- **gauss_jordan_total.**  The model's UNPIVOTED Gauss–Jordan elimination `solve` on an `n × (n+1)` augmented system `[A | b]`
over a field.  Exact hypothesis: every leading principal block of `A` is non-singular (`LeadingNonsing`: a vector supported on
columns `0…k` and annihilated by rows `0…k` is zero — equivalently all leading principal minors ≠ 0; true of every symmetric
positive definite `A`).  Then no step divides by zero (`gj_invariant`), and the returned vector `s` has `n` entries and solves
the system: `Σ_j A[i][j]·s_j = b_i` for every row `i`. -/
theorem gauss_jordan_total (m : List (List α)) (n : Nat) (h : Rect m n (n + 1)) (hL : LeadingNonsing (ent m) n) :
    (∀ c < n, iterE (ent m) c c c ≠ 0) ∧ (solve m n).length = n ∧
      ∀ i < n, ∑ j ∈ Finset.range n, ent m i j * (solve m n).getD j 0 = ent m i n :=
  ⟨(gj_invariant (ent m) n hL n le_rfl).1, solve_correct m n h hL⟩

/-- **polyfit_answers.**  For ANY ordinates on abscissae with at least `deg + 1` distinct values (the property: ≥ 4 distinct
volumes for the cubic) the model of `numpy.polyfit` answers — `AᵀA` is positive definite (`normalAug_leadingNonsing`), the
elimination completes and its result passes the certificate — and the answer is the least-squares polynomial. -/
theorem polyfit_answers (xs ys : List α) (deg : Nat) (hl : xs.length = ys.length) (hdist : deg + 1 ≤ xs.toFinset.card) :
    ∃ p, polyfit xs ys deg = some p ∧ p.length = deg + 1 ∧
      ∀ p' : List α, p'.length ≤ deg + 1 → sqResidual xs ys p ≤ sqResidual xs ys p' := by
  obtain ⟨p, hp⟩ := polyfit_total xs ys deg hl hdist
  exact ⟨p, hp, polyfit_minimises xs ys deg p hp⟩

/-- **cubic_fit_exact** (`lsq_exact_on_cubics` without the assumption that the solver answers): a table that IS a cubic in the
abscissa on ≥ 4 distinct abscissae is fitted — the model answers — and reproduced exactly, everywhere. -/
theorem cubic_fit_exact (a b c d : α) (xs : List α)
    (x0 x1 x2 x3 : α) (m0 : x0 ∈ xs) (m1 : x1 ∈ xs) (m2 : x2 ∈ xs) (m3 : x3 ∈ xs)
    (h01 : x0 ≠ x1) (h02 : x0 ≠ x2) (h03 : x0 ≠ x3) (h12 : x1 ≠ x2) (h13 : x1 ≠ x3) (h23 : x2 ≠ x3) :
    ∃ p, polyfit xs (xs.map fun x => a + b * x + c * x ^ 2 + d * x ^ 3) 3 = some p ∧
      ∀ x, polyval p x = a + b * x + c * x ^ 2 + d * x ^ 3 := by
  have hcard : 3 + 1 ≤ xs.toFinset.card := by
    have hsub : ({x0, x1, x2, x3} : Finset α) ⊆ xs.toFinset := by
      intro y hy
      simp only [Finset.mem_insert, Finset.mem_singleton] at hy
      rcases hy with rfl | rfl | rfl | rfl <;> simpa using ‹_›
    have h4 : ({x0, x1, x2, x3} : Finset α).card = 4 := by
      rw [Finset.card_insert_of_notMem (by simp [h01, h02, h03]), Finset.card_insert_of_notMem (by simp [h12, h13]),
        Finset.card_insert_of_notMem (by simp [h23]), Finset.card_singleton]
    have := Finset.card_le_card hsub
    omega
  obtain ⟨p, hp⟩ := polyfit_total xs (xs.map fun x => a + b * x + c * x ^ 2 + d * x ^ 3) 3 (by simp) hcard
  exact ⟨p, hp, lsq_exact_on_cubics a b c d xs p hp x0 x1 x2 x3 m0 m1 m2 m3 h01 h02 h03 h12 h13 h23⟩

/-- non-vacuity of `gauss_jordan_total` / `polyfit_answers`: the hypotheses on an instance (5 abscissae, all distinct), an
elimination that needs no pivoting although the system is not diagonally dominant, and the need for the hypothesis — a
non-singular system with a zero LEADING entry, on which the unpivoted elimination does not produce the solution (1, 3) -/
example : ([0, 1, 2, 3, 5] : List ℚ).length = ([1, 2, 9, 29, 126] : List ℚ).length ∧
    3 + 1 ≤ ([0, 1, 2, 3, 5] : List ℚ).toFinset.card ∧
    solve ([[1, 2, 5], [3, 4, 11]] : List (List ℚ)) 2 = [1, 2] ∧
    solve ([[0, 1, 3], [2, 1, 5]] : List (List ℚ)) 2 ≠ [1, 3] := by decide +kernel

/-- non-vacuity: an exact run of the model (5 points on x³ + 1) -/
example : polyfit [(0 : ℚ), 1, 2, 3, 5] [1, 2, 9, 28, 126] 3 = some [1, 0, 0, 1] := by decide +kernel

/-- non-vacuity with a genuine residual: the certificate passes on data that are not a cubic -/
example : (polyfit [(0 : ℚ), 1, 2, 3, 5] [1, 2, 9, 29, 126] 3).isSome = true := by decide +kernel

end LeastSquares

section Decomposition
variable {α : Type} [Field α] [BEq α]

/-- Model output = static(key, V) + phonon(key, T, V), at every grid point (t, v): whenever the total is
    produced, the static part and the phonon part are produced and add up entry by entry. -/
theorem c05_decomposition (inp : Inputs α) (ph : Phonon α) (key : String) (m : List (List α))
    (h : modulusTotal inp ph key = some m) :
    ∃ st p, getStaticModulus inp key = some st ∧ phononPart inp ph key = some p ∧ m = addStatic st p ∧
      ∀ (t v : Nat) (row : List α) (sv ptv : α), p[t]? = some row → row[v]? = some ptv → st[v]? = some sv →
        ∃ mrow, m[t]? = some mrow ∧ mrow[v]? = some (sv + ptv) := by
  unfold modulusTotal at h
  simp only [bind, Option.bind_eq_some_iff, pure, Option.some.injEq] at h
  obtain ⟨p, hp, st, hst, rfl⟩ := h
  exact ⟨st, p, hst, hp, rfl, fun t v row sv ptv ht hv hs => addStatic_getElem? st p t v row sv ptv ht hv hs⟩

/-- The phonon part does not depend on the tabulated static values: two data sets with the same volumes,
    grid, strains and lattice block — and *any* two static tables, GPa factors included — get the same axial
    strains and hence the same phonon contribution for every key. -/
theorem c05_phonon_indep_static (i1 i2 : Inputs α) (ph : Phonon α)
    (h1 : i1.strains = i2.strains) (h2 : i1.strainArray = i2.strainArray) (h3 : i1.volumes = i2.volumes)
    (h4 : i1.vArray = i2.vArray) (h5 : i1.lattice = i2.lattice) :
    getAxialStrains i1 = getAxialStrains i2 ∧ ∀ key, phononPart i1 ph key = phononPart i2 ph key := by
  have h := getAxialStrains_congr i1 i2 h1 h2 h3 h4 h5
  refine ⟨h, fun key => ?_⟩
  unfold phononPart
  rw [h]

/-- … consequently total − static is the same for the two tables, entry by entry -/
theorem c05_total_minus_static (inp : Inputs α) (ph : Phonon α) (key : String) (m p : List (List α))
    (st1 : List α) (hm : modulusTotal inp ph key = some m) (hs : getStaticModulus inp key = some st1)
    (hp : phononPart inp ph key = some p) :
    ∀ (t v : Nat) (row : List α) (sv ptv : α), p[t]? = some row → row[v]? = some ptv → st1[v]? = some sv →
      ∃ mrow mv, m[t]? = some mrow ∧ mrow[v]? = some mv ∧ mv - sv = ptv := by
  obtain ⟨st', p', hst', hp', _, hall⟩ := c05_decomposition inp ph key m hm
  rw [hs] at hst'; rw [hp] at hp'
  simp only [Option.some.injEq] at hst' hp'
  subst hst' hp'
  intro t v row sv ptv ht hv hsv
  obtain ⟨mrow, h1, h2⟩ := hall t v row sv ptv ht hv hsv
  exact ⟨mrow, sv + ptv, h1, h2, by ring⟩

/-- The static part does not depend on temperature: at a fixed volume index, total − phonon is the same
    number `static[v]` in every temperature row. -/
theorem c05_static_indep_T (inp : Inputs α) (ph : Phonon α) (key : String) (m : List (List α))
    (h : modulusTotal inp ph key = some m) :
    ∃ st p, getStaticModulus inp key = some st ∧ phononPart inp ph key = some p ∧
      ∀ (t t' v : Nat) (row row' : List α) (sv ptv ptv' : α), p[t]? = some row → p[t']? = some row' →
        row[v]? = some ptv → row'[v]? = some ptv' → st[v]? = some sv →
        ∃ mrow mrow' mv mv', m[t]? = some mrow ∧ m[t']? = some mrow' ∧ mrow[v]? = some mv ∧
          mrow'[v]? = some mv' ∧ mv - ptv = sv ∧ mv' - ptv' = sv := by
  obtain ⟨st, p, hst, hp, _, hall⟩ := c05_decomposition inp ph key m h
  refine ⟨st, p, hst, hp, ?_⟩
  intro t t' v row row' sv ptv ptv' ht ht' hv hv' hs
  obtain ⟨mrow, a1, a2⟩ := hall t v row sv ptv ht hv hs
  obtain ⟨mrow', b1, b2⟩ := hall t' v row' sv ptv' ht' hv' hs
  exact ⟨mrow, mrow', _, _, a1, b1, a2, b2, by ring, by ring⟩

/-- the static part is a function of (key, table, volumes, grid) only: no temperature, no phonon argument -/
example (inp : Inputs α) (ph ph' : Phonon α) (key : String) (m m' : List (List α))
    (h : modulusTotal inp ph key = some m) (h' : modulusTotal inp ph' key = some m') :
    ∃ st p p', m = addStatic st p ∧ m' = addStatic st p' := by
  obtain ⟨st, p, hst, _, hm, _⟩ := c05_decomposition inp ph key m h
  obtain ⟨st', p', hst', _, hm', _⟩ := c05_decomposition inp ph' key m' h'
  rw [hst] at hst'
  simp only [Option.some.injEq] at hst'
  subst hst'
  exact ⟨st, p, p', hm, hm'⟩

end Decomposition

section Strains
variable {α : Type} [Field α] [BEq α]

/-- With a lattice block: every grid point's strain triple is a triple divided by its own sum, hence sums
    to 1 (whenever that sum is not zero — the inputs the property quantifies over: axis lengths that vary
    monotonically with volume). -/
theorem axial_strains_sum_one (inp : Inputs α) (e : List (List α)) (hl : inp.lattice ≠ [])
    (h : getAxialStrains inp = some e) :
    ∀ row ∈ e, ∃ raw : List α, raw.length = 3 ∧ row = normaliseBySum raw ∧ (sumL raw ≠ 0 → sumL row = 1) := by
  intro row hrow
  obtain ⟨raw, h3, hr⟩ := Cij.FMGlue.getAxialStrains_rows inp e hl h row hrow
  exact ⟨raw, h3, hr, fun hne => hr ▸ sumL_normaliseBySum raw hne⟩

/-- Without a lattice block `get_axial_strains` returns ones, and the task-parameter code
    (`strain[:, i] / sum(strain, axis=1)`) turns them into equal thirds. -/
theorem axial_strains_default_thirds (inp : Inputs α) (hl : inp.lattice = []) :
    getAxialStrains inp = some (List.replicate inp.vArray.length [1, 1, 1]) ∧
    normaliseBySum [(1 : α), 1, 1] = [1 / 3, 1 / 3, 1 / 3] := by
  refine ⟨getAxialStrains_nil inp hl, ?_⟩
  simp [normaliseBySum, sumL]
  norm_num

example : normaliseBySum [(2 : ℚ), 3, 5] = [1/5, 3/10, 1/2] := by decide +kernel

end Strains

section Units
variable {α : Type} [Field α]

/-- "converted to atomic units": with the factor `10⁹ / (R∞hc / a₀³)`, a tabulated value `x` (GPa) becomes the
    number `y` with `y · (R∞hc / a₀³) = x · 10⁹` — `y` Ry/bohr³ is the same pressure as `x` GPa in pascal. -/
theorem gpa_factor (ry a0 x : α) (hry : ry ≠ 0) (ha : a0 ≠ 0) :
    fromGpa (gpaInAtomicUnits ry a0) [x] = [x * 10 ^ 9 / (ry / a0 ^ 3)] ∧
    (x * gpaInAtomicUnits ry a0) * (ry / a0 ^ 3) = x * 10 ^ 9 := by
  unfold fromGpa gpaInAtomicUnits
  constructor
  · simp only [List.map_cons, List.map_nil]
    congr 1
    ring
  · field_simp

/-- `static_p_array = − gradient(E) / gradient(V)` has the sign and the quotient of a pressure, ends included:
    for a static energy that is affine in the volume on the fine grid, `E = a − P₀·V`, it returns `P₀` at every
    grid point (interior central differences and both one-sided end differences). -/
theorem c05_static_pressure_affine (a P0 : α) (v gv : List α) (h2 : (1 + 1 : α) ≠ 0)
    (hgv : gradient v = some gv) (hnz : ∀ g ∈ gv, g ≠ 0) :
    (do let ge ← gradient (v.map fun x => a - P0 * x)
        let gv' ← gradient v
        pure (List.zipWith (fun a b => -a / b) ge gv')) = some (gv.map fun _ => P0) := by
  rw [gradient_affine a P0 v gv h2 hgv, hgv]
  simp only [bind, Option.bind_some, pure]
  rw [neg_grad_ratio_affine P0 gv hnz]

example : gradient [(1 : ℚ), 4, 9, 16] = some [3, 4, 6, 7] := by decide +kernel

end Units

/-! #### tie to the source: the defaults re-read from full_modulus.py / calculator.py on this run

`Generated/FullModulusSpec.lean` (written by tools/gens/fullmodulus_src.py) holds the default orders read off the signatures, the
degree offset read off the translated `numpy.polyfit` call, and a flag saying whether the translated trees are the ones the model was
written against.  The model's defaults are those numbers.  (The trees themselves are consumed by the `c05_glue_…` theorems below.) -/

theorem c05_defaults_are_source {α : Type} [Add α] [Sub α] [Mul α] [Div α] [Neg α] [OfNat α 0] [OfNat α 1] [BEq α]
    (inp : FullModulus.Inputs α) (moduli strains energies strainArray vArray : List α) :
    FullModulus.fitModulus inp moduli = FullModulus.fitModulus inp moduli Generated.fitModulusDefaultOrder ∧
    FullModulus.staticPressure strains energies strainArray vArray =
      FullModulus.staticPressure strains energies strainArray vArray Generated.staticPressureDefaultOrder ∧
    Generated.fitModulusDegOffset = 1 ∧ Generated.fullModulusBodiesCanonical = true :=
  ⟨rfl, rfl, rfl, rfl⟩

/-! #### tie to the source, at data level: `full_modulus.py` translated statement by statement

`tools/gens/fullmodulus_src.py` re-translates EVERY def of `cij/core/full_modulus.py` and `Calculator._calculate_pressure_static` into
statement lists over expression trees (`Generated/FullModulusGlue.lean`; nothing is compared as text, locals are renamed canonically).
`CijModel/FullModulusGlue.lean` is a small honest interpreter of those trees (shape-checked numpy arithmetic, class properties,
instance attributes, the life cycle of the task list).  The theorems below say that the hand-written model this file's other theorems
are about IS that interpretation, for every field of scalars and all inputs. -/

section Glue
open Cij.FMGlue Generated.FullModulusGlue
variable {α : Type} [Field α] [BEq α]

/-- every `def` of full_modulus.py is a method of the one class and is translated (none compared as text, none skipped); no duplicate; no
class-level statement besides the defs; which are properties / LazyProperties / plain methods -/
theorem c05_glue_is_source_inventory :
    definedFunctions = cls.map (fun m => "FullThermalElasticModulus." ++ m.name) ∧ definedFunctions.Nodup ∧ cls.length = 11 ∧
    classOtherStatements = [] ∧ classBases = [] ∧ moduleClasses = ["FullThermalElasticModulus"] ∧ moduleOtherStatements = [] ∧
    cls.map (fun m => (m.name, m.kind)) =
      [("__init__", "method"), ("modulus_keys", "property"), ("volumes", "property"), ("v_array", "property"),
       ("fit_modulus", "method"), ("get_static_modulus", "method"), ("_get_init_strain", "method"),
       ("get_axial_strains", "method"), ("calculate_phonon_contribution", "method"),
       ("modulus_adiabatic", "LazyProperty"), ("modulus_isothermal", "LazyProperty")] ∧
    pressureStatic.name = "_calculate_pressure_static" ∧ pressureStatic.kind = "method" :=
  ⟨by decide +kernel, by simp [definedFunctions], rfl, rfl, rfl, rfl, rfl, rfl, rfl, rfl⟩

/-- `self.volumes` is the static table's OWN volume column in file order, `self.v_array` the calculator's grid, `self.modulus_keys`
the calculator's key list -/
theorem c05_glue_is_source_accessors (C : Ctx α) (n : Nat) (attrs : Env α) (hw : Wired attrs) :
    callV cls C (n + 1) attrs "volumes" [] = some (.ar (C.calculator.elastData.volumes.map (·.volume))) ∧
    callV cls C (n + 1) attrs "v_array" [] = some (.ar C.calculator.vArray) ∧
    callV cls C (n + 1) attrs "modulus_keys" [] = some (.keys C.calculator.modulusKeys) := by
  unfold callV
  rw [volumes_src C n attrs hw, v_array_src C n attrs hw, modulus_keys_src C n attrs hw]
  exact ⟨rfl, rfl, rfl⟩

/-- **`fit_modulus`**: the translated statements evaluate to the model's `fitModulus` on `inputsOf` — Eulerian strains of the static
table's own volumes and of the grid, both referred to the table's first row; `numpy.polyfit` of `volumes * moduli` with degree
`order + 1`; `numpy.polyval` on the grid strains divided by the grid — for every `moduli` and every `order`, and with the default order of the
source (2: a cubic) when none is given -/
theorem c05_glue_is_source_fit (C : Ctx α) (n : Nat) (attrs : Env α) (hw : Wired attrs) (table : List (String × List α))
    (m : List α) (k : Nat) (hv : vols C ≠ []) (hm : m.length = (vols C).length) :
    callV cls C (n + 2) attrs "fit_modulus" [.ar m, .nat k] = (fitModulus (inputsOf C table) m k).map .ar ∧
    callV cls C (n + 2) attrs "fit_modulus" [.ar m]
      = (fitModulus (inputsOf C table) m Generated.fitModulusDefaultOrder).map .ar ∧
    Generated.fitModulusDefaultOrder + Generated.fitModulusDegOffset = 3 := by
  unfold callV
  rw [fit_src C n attrs hw table m k hv hm, fit_default_src C n attrs hw table m hv hm]
  refine ⟨?_, ?_, by decide⟩
  · cases fitModulus (inputsOf C table) m k <;> rfl
  · have h2 : Generated.fitModulusDefaultOrder = 2 := rfl
    rw [h2]
    cases fitModulus (inputsOf C table) m 2 <;> rfl

/-- **`get_static_modulus(key)`** = the model's `getStaticModulus`: the values of `key` per volume in file order (KeyError when a volume
lacks it), `_from_gpa`, `fit_modulus` with the default order.  `htab`: the table handed to the model holds that column under the key's name. -/
theorem c05_glue_is_source_static (C : Ctx α) (n : Nat) (attrs : Env α) (hw : Wired attrs) (table : List (String × List α))
    (key : Key) (name : String) (htab : table.lookup name = columnOf C key) (hv : vols C ≠ []) :
    callV cls C (n + 3) attrs "get_static_modulus" [.key key] = (getStaticModulus (inputsOf C table) name).map .ar := by
  unfold callV
  rw [static_src C n attrs hw table key hv]
  have : getStaticModulus (inputsOf C table) name
      = (columnOf C key).bind fun col => fitModulus (inputsOf C table) (fromGpa C.gpa col) := by
    unfold getStaticModulus
    simp only [inputsOf, htab]
    rfl
  rw [this]
  cases (columnOf C key).bind fun col => fitModulus (inputsOf C table) (fromGpa C.gpa col) <;> rfl

/-- **the strains of the static fit are functions of the static table's own volume column and of the grid only** — syntactically:
`fit_modulus` reads `self.volumes` and `self.v_array` and nothing else of the object, calls no other method, and calls exactly
`calculate_eulerian_strain` (twice), `numpy.polyfit`, `numpy.polyval`; `self.volumes` is `[v.volume for v in self.elast_data.volumes]`,
`self.v_array` is `self.calculator.v_array`, `self.elast_data` is bound once, in `__init__`, to `self.calculator.elast_data`; no
method of the class reads the phonon file (`qha_input`) or assigns `elast_data` / `calculator` again -/
theorem c05_glue_static_fit_reads_own_volumes :
    m_fit_modulus.selfReads = [["volumes"], ["volumes"], ["volumes"], ["v_array"], ["volumes"], ["v_array"]] ∧
    m_fit_modulus.selfCalls = [] ∧
    m_fit_modulus.libCalls = ["qha.grid_interpolation.calculate_eulerian_strain", "qha.grid_interpolation.calculate_eulerian_strain",
      "numpy.polyfit", "numpy.polyval"] ∧
    m_volumes.body = [.ret (.fn1 "numpy.array" (.compAttr "volume" (.self ["elast_data", "volumes"])))] ∧
    m_v_array.body = [.ret (.self ["calculator", "v_array"])] ∧
    m_init.body = [.setSelf "calculator" (.param "calculator"), .setSelf "elast_data" (.self ["calculator", "elast_data"]),
      .callProc "calculate_phonon_contribution"] ∧
    (cls.all fun m => m.selfReads.all fun p => !p.contains "qha_input") = true ∧
    ((cls.filter fun m => m.name != "__init__").all fun m => m.body.all fun s =>
      match s with
      | .setSelf a _ => a != "elast_data" && a != "calculator"
      | _ => true) = true :=
  ⟨rfl, rfl, rfl, rfl, rfl, rfl, by decide +kernel, by decide +kernel⟩

/-- … semantically: two calculators with the same strain function, the same volume column in their static tables and the same grid get
the same static fit for the same ordinates, whatever their PHONON files (volumes, energies), table values, lattice blocks, key lists,
settings and phonon parts are -/
theorem c05_glue_static_fit_indep_of_phonon_file (C C' : Ctx α) (n : Nat) (attrs attrs' : Env α) (hw : Wired attrs) (hw' : Wired attrs')
    (m : List α) (k : Nat) (hs : C.strain = C'.strain) (hvol : vols C = vols C')
    (hgrid : C.calculator.vArray = C'.calculator.vArray) (hv : vols C ≠ []) (hm : m.length = (vols C).length) :
    callV cls C (n + 2) attrs "fit_modulus" [.ar m, .nat k] = callV cls C' (n + 2) attrs' "fit_modulus" [.ar m, .nat k] :=
  fit_reads_only C C' n attrs attrs' hw hw' m k hs hvol hgrid hv hm

/-- **`get_axial_strains()`** = the model's `getAxialStrains`: ones (equal thirds after the normalisation of C04's task parameters)
when there is no lattice block; otherwise per axis `i` the fit of `lattice_params[:, i]`, the edge replication, the centred ratio, and
every grid point's triple divided by its own sum (`keepdims=True`) -/
theorem c05_glue_is_source_axial (C : Ctx α) (n : Nat) (attrs : Env α) (hw : Wired attrs) (table : List (String × List α))
    (hwf : WF C) :
    callV cls C (n + 3) attrs "get_axial_strains" [] = (getAxialStrains (inputsOf C table)).map .mat := by
  unfold callV
  rw [axial_src C n attrs hw table hwf.vols_ne hwf.grid_ne hwf.lattice]
  cases getAxialStrains (inputsOf C table) <;> rfl

/-- **the strain-fraction formula as translated**: one pass of `for i in range(3)` fits column `i` of the lattice block, binds
`tmp = params[[0, *range(len(params)), -1]]` (= `tmpOf`) and writes into column `i` of the strain matrix the list `colF`, whose entries
are: first grid point `(p₁ − p₀)/(p₁ + p₀)`, interior `(p_{k+1} − p_{k−1})/(p_{k+1} + p_{k−1})`, last `(p_{n−1} − p_{n−2})/(p_{n−1} + p_{n−2})` -/
theorem c05_glue_is_source_axial_formula (C : Ctx α) (n : Nat) (attrs : Env α) (hw : Wired attrs) (table : List (String × List α))
    (loc : Env α) (i : Nat) (hi : i < 3) (f : Nat → List α) (hf : ∀ k, (f k).length = 3) (hwf : WF C)
    (hlat : C.calculator.elastData.lattice.length = (vols C).length)
    (hrow : ∀ row ∈ C.calculator.elastData.lattice, row.length = 3)
    (h1 : lookup loc "_l1" = some (.mat C.calculator.elastData.lattice))
    (h2 : lookup loc "_l2" = some (.mat ((List.range C.calculator.vArray.length).map f))) :
    execLs C (Kn C (n + 2)) axBody ⟨attrs, ("_l3", .nat i) :: loc⟩
      = (fitModulus (inputsOf C table) (C.calculator.elastData.lattice.map fun row => nth row i)).map (fun p =>
          ⟨attrs, ("_l2", .mat ((List.range C.calculator.vArray.length).map fun k =>
                      (f k).set i (nth (colF C.calculator.vArray.length p) k)))
                  :: ("_l5", .ar (tmpOf p)) :: ("_l4", .ar p) :: ("_l3", .nat i) :: loc⟩) ∧
    ∀ p : List α, 2 ≤ p.length →
      nth (colF p.length p) 0 = (nth p 1 - nth p 0) / (nth p 1 + nth p 0) ∧
      (∀ k, 0 < k → k + 1 < p.length →
        nth (colF p.length p) k = (nth p (k + 1) - nth p (k - 1)) / (nth p (k + 1) + nth p (k - 1))) ∧
      nth (colF p.length p) (p.length - 1)
        = (nth p (p.length - 1) - nth p (p.length - 2)) / (nth p (p.length - 1) + nth p (p.length - 2)) :=
  ⟨axial_iter C n attrs hw table loc i hi f hf hwf.vols_ne hwf.grid_ne hlat hrow h1 h2, fun p hp => colF_entries p hp⟩

/-- **`__init__` + `calculate_phonon_contribution`** as translated: the logged `_get_init_strain()` is evaluated and dropped; the
strains of `get_axial_strains()` and `self.modulus_keys` go to `resolve` of a fresh `PhononContributionTaskList(self.calculator)`, then
`calculate()`, then the ADIABATIC results are stored under `_adiabatic_phonon_contribution` and the ISOTHERMAL ones under
`_isothermal_phonon_contribution` (`builtAttrs`); any failure on the way is a failure of the construction -/
theorem c05_glue_is_source_wiring (C : Ctx α) (n : Nat) (table : List (String × List α)) (hwf : WF C)
    (hinit : ∃ v, callM cls C (n + 3) baseAttrs "_get_init_strain" [] = some (baseAttrs, v)) :
    construct cls C (n + 5)
      = (getAxialStrains (inputsOf C table)).bind fun e =>
        (results C.phA e C.calculator.modulusKeys).bind fun dA =>
        (results C.phI e C.calculator.modulusKeys).map fun dI => builtAttrs C e dA dI :=
  construct_src C n table hwf hinit

/-- `_get_init_strain()`: equal thirds when the settings have no `init_strain` entry (the schema allows none), the entry divided by
its sum otherwise — and its value goes nowhere but the log line: it is called exactly once in the class, inside a `log` statement -/
theorem c05_glue_is_source_init_strain (C : Ctx α) (n : Nat) (attrs : Env α) (hw : Wired attrs) (hc : HasElastSettings C)
    (h1 : C.calculator.cfgLeaf ["elast", "settings", "init_strain"] = none)
    (h2 : C.calculator.cfgSection ["elast", "settings", "init_strain"] = false) :
    callM cls C (n + 1) attrs "_get_init_strain" [] = some (attrs, .ar [1 / 3, 1 / 3, 1 / 3]) ∧
    (cls.flatMap fun m => m.selfCalls).count "_get_init_strain" = 1 ∧
    m_calculate_phonon_contribution.body.head? = some (.log [.callSelf0 "_get_init_strain"]) :=
  ⟨init_strain_absent_src C n attrs hw hc h1 h2, by decide +kernel, rfl⟩

/-- **`modulus_adiabatic` / `modulus_isothermal`** on the constructed object = the model's `modulusTotal` per key: a fresh dictionary
holding, for every key of `self.modulus_keys`, `get_static_modulus(key)[nax, :]` + the ADIABATIC (resp. ISOTHERMAL) task-list result of
that key for the axial strains of `get_axial_strains()` — total = static[v] + phonon[t][v].  (`hshape`: the task list returns arrays
with one column per grid volume; `htab`: the model's table holds each requested key's column under its name.) -/
theorem c05_glue_is_source_total (C : Ctx α) (n : Nat) (table : List (String × List α)) (name : Key → String) (phA phI : Phonon α)
    (hA : ∀ e k, C.phA e k = phA e (name k)) (hI : ∀ e k, C.phI e k = phI e (name k))
    (hwf : WF C) (htab : ∀ k ∈ C.calculator.modulusKeys, table.lookup (name k) = columnOf C k)
    (hshape : ∀ e k p, (C.phA e k = some p ∨ C.phI e k = some p) → ∀ row ∈ p, row.length = C.calculator.vArray.length)
    (e : List (List α)) (dA dI : List (Key × List (List α))) (he : getAxialStrains (inputsOf C table) = some e)
    (hdA : results C.phA e C.calculator.modulusKeys = some dA) (hdI : results C.phI e C.calculator.modulusKeys = some dI) :
    callV cls C (n + 4) (builtAttrs C e dA dI) "modulus_adiabatic" []
      = (allSomeL (C.calculator.modulusKeys.map fun k => (modulusTotal (inputsOf C table) phA (name k)).map fun m => (k, m))).map
          (fun l => .dict l.reverse) ∧
    callV cls C (n + 4) (builtAttrs C e dA dI) "modulus_isothermal" []
      = (allSomeL (C.calculator.modulusKeys.map fun k => (modulusTotal (inputsOf C table) phI (name k)).map fun m => (k, m))).map
          (fun l => .dict l.reverse) := by
  have hw := builtAttrs_wired C e dA dI
  obtain ⟨sA, sI⟩ := builtAttrs_stores C e dA dI
  rw [total_src C n _ hw table hwf.vols_ne "modulus_adiabatic" "_adiabatic_phonon_contribution" m_modulus_adiabatic find_adiabatic rfl
        adiabatic_body isProp_adiabatic_store dA sA,
      total_src C n _ hw table hwf.vols_ne "modulus_isothermal" "_isothermal_phonon_contribution" m_modulus_isothermal find_isothermal rfl
        isothermal_body isProp_isothermal_store dI sI]
  constructor
  · rw [allSomeL_congr (totalEntry C table dA) (fun k => (modulusTotal (inputsOf C table) phA (name k)).map fun m => (k, m))
      C.calculator.modulusKeys (fun k hk => totalEntry_model C table name phA C.phA hA e he dA k
        (results_lookup C.phA e _ dA hdA k hk) (htab k hk) (fun p hp => hshape e k p (Or.inl hp)))]
  · rw [allSomeL_congr (totalEntry C table dI) (fun k => (modulusTotal (inputsOf C table) phI (name k)).map fun m => (k, m))
      C.calculator.modulusKeys (fun k hk => totalEntry_model C table name phI C.phI hI e he dI k
        (results_lookup C.phI e _ dI hdI k hk) (htab k hk) (fun p hp => hshape e k p (Or.inr hp)))]

/-- **`Calculator._calculate_pressure_static`** as translated = the model's `staticPressure` on the strains of the PHONON file's volumes
and of the grid (both referred to that file's first volume), its static energies, qha's least squares of the given order (default of the
source: 3) and `− numpy.gradient(E) / numpy.gradient(v_array)` stored as `static_p_array` -/
theorem c05_glue_is_source_static_pressure (C : Ctx α) (k : Nat) (hq : qvols C ≠ []) :
    runOnCalc C pressureStatic [.nat k]
      = (staticPressure ((qvols C).map (C.strain (nth (qvols C) 0))) (qenergies C)
            (C.calculator.vArray.map (C.strain (nth (qvols C) 0))) C.calculator.vArray k).map (fun p =>
          ([("static_p_array", .ar p), ("v_array", .ar C.calculator.vArray), ("qha_input", .qha)], .unit)) ∧
    runOnCalc C pressureStatic [] = runOnCalc C pressureStatic [.nat Generated.staticPressureDefaultOrder] :=
  ⟨pressure_src C k hq, pressure_default_src C⟩

/-- non-vacuity of the `c05_glue_…` hypotheses: a concrete calculator over ℚ (5 table rows with a lattice block, 7 grid volumes, a
settings tree without `init_strain`) is well-formed, its base attributes are wired, the logged `_get_init_strain()` evaluates, and the
translated `get_static_modulus` / `get_axial_strains` / construction / totals all ANSWER on it (the construction by kernel evaluation
of the interpreter; the others through their `…_src` theorems, whose hypotheses hold here, and kernel evaluation of the model) -/
example : WF glueExample ∧ Wired (baseAttrs : Env ℚ) ∧ HasElastSettings glueExample ∧
    (callV cls glueExample 5 baseAttrs "get_static_modulus" [.key (.raw "c11")]).isSome = true ∧
    (callV cls glueExample 5 baseAttrs "get_axial_strains" []).isSome = true ∧
    ((construct cls glueExample 6).bind fun a => callV cls glueExample 5 a "modulus_isothermal" []).isSome = true ∧
    (runOnCalc glueExample pressureStatic []).isSome = true := by
  have hwf : WF glueExample := ⟨by decide +kernel, by decide +kernel, Or.inr ⟨by decide +kernel, by decide +kernel⟩⟩
  refine ⟨hwf, wired_base, ⟨rfl, rfl, rfl, rfl⟩, ?_, ?_, by decide +kernel, ?_⟩
  · rw [callV, static_src glueExample 2 baseAttrs wired_base [] (.raw "c11") hwf.vols_ne, Option.isSome_map, Option.isSome_map]
    decide +kernel
  · rw [callV, axial_src glueExample 2 baseAttrs wired_base [] hwf.vols_ne hwf.grid_ne hwf.lattice, Option.isSome_map,
      Option.isSome_map]
    decide +kernel
  · rw [pressure_default_src, pressure_src glueExample 3 (by decide +kernel), Option.isSome_map]
    decide +kernel

end Glue

/-- **`fit_modulus` of full_modulus.py against its sibling in `cij/cli/static.py`** (both as translated on this run): the two differ
exactly in what they should — here `volumes * c` is fitted instead of `c`, with `numpy.polyfit` of degree `order + 1` instead of qha's
`polynomial_least_square_fitting` of order `order`, and the fit is divided by `v_array`; the Eulerian strains are the same two
expressions of the same two arrays (`self.volumes` ↦ `volumes`, `self.v_array` ↦ `v_array`).  Semantically (any scalars with the
operations) and syntactically (the trees). -/
theorem c05_glue_fit_vs_static_fit {α : Type} [Add α] [Sub α] [Mul α] [Div α] [Neg α] [OfNat α 0] [OfNat α 1] [NatCast α]
    [LE α] [DecidableLE α] [LT α] [DecidableLT α] [BEq α]
    (I : Cij.StaticSrc.Inp α) (hfit : I.fit = polynomialLeastSquareFitting) (v0 : α) (rest vArray m : List α) (k : Nat)
    (tbl : List (String × List α)) (lat : List (List α)) (gpa : α) :
    fitModulus ⟨(v0 :: rest).map (I.E.strain v0), vArray.map (I.E.strain v0), v0 :: rest, vArray, tbl, lat, gpa⟩ m k
      = ((Cij.StaticSrc.callFun I Generated.staticFitModulus
            [.ar (v0 :: rest), .ar vArray, .ar (List.zipWith (fun v c => v * c) (v0 :: rest) m), .nat (k + 1)]).bind
          Cij.StaticSrc.Val.toAr).map (fun r => List.zipWith (fun a b => a / b) r vArray) ∧
    ∃ S SA : Cij.FMGlue.X,
      Cij.FMGlue.inlineRet [] Generated.FullModulusGlue.m_fit_modulus.body
        = some (.div (.fn2 "numpy.polyval" (.fn3 "numpy.polyfit" S (.mul (.self ["volumes"]) (.param "moduli"))
            (.add (.param "order") (.lit 1))) SA) (.self ["v_array"])) ∧
      (do let s ← Cij.FMGlue.toStatic S; let sa ← Cij.FMGlue.toStatic SA
          pure (Cij.StaticSrc.X.lsq s (.loc "moduli") sa (.loc "order"))) = some Generated.staticFitModulus.ret ∧
      S.selfReads = [["volumes"], ["volumes"]] ∧ SA.selfReads = [["volumes"], ["v_array"]] :=
  ⟨Cij.FMGlue.fit_vs_static_fit I hfit v0 rest vArray m k tbl lat gpa, Cij.FMGlue.fit_trees_differ_exactly⟩

/-- **`_from_gpa` as used here**: full_modulus.py imports it from `cij.util`, which re-exports `cij.util.units._from_gpa`; that helper
(translated by static_src.py) converts GPa into rydberg / bohr³, and with the SI values of the three units its factor is the model's
`gpaInAtomicUnits` (the constant of `gpa_factor`) -/
theorem c05_glue_is_source_gpa (base : String → ℝ) (ry a0 : ℝ) (hG : base "GPa" = 10 ^ 9) (hr : base "rydberg" = ry)
    (hb : base "bohr" = a0) :
    Generated.FullModulusGlue.unitReexports.lookup "_from_gpa" = some "cij.util.units._from_gpa" ∧
    Generated.FullModulusGlue.imports.lookup "_from_gpa" = some "cij.util._from_gpa" ∧
    ∃ h, Cij.StaticSrc.unitHelper? "_from_gpa" = some h ∧ h.factor base = Cij.FullModulus.gpaInAtomicUnits ry a0 := by
  refine ⟨by decide +kernel, by decide +kernel,
    ⟨"_from_gpa", .u "GPa", .div (.u "rydberg") (.pow (.u "bohr") 3 1)⟩, by decide +kernel, ?_⟩
  simp only [Cij.StaticSrc.UnitHelper.factor, Cij.StaticSrc.UExpr.val, hG, hr, hb, Cij.FullModulus.gpaInAtomicUnits]
  rw [Nat.cast_one, div_one, Real.rpow_natCast]

/-! #### ties shared with other properties

The statement of this property also rests on code whose translation is owned by another property's file; the theorems are restated
here so that this property's obligations are re-checked against those files too (a change there breaks THIS check's proof as well). -/

/-- `cij/core/tasks.py` as translated on this run: a non-shear task is identified by the two strain columns the source names,
task equality is at rounding level (`_STRAIN_RTOL ≤ 1e-9`, `atol = 0`), and `calculate()` feeds a shear task from the isothermal store -/
theorem c05_tasks_are_source {α : Type} [Add α] [Div α] (strain : Cij.Tasks.SField α) (key : Cij.Modulus) :
    (match Generated.makeParamCols with
     | [c0, c1] => Cij.Tasks.create strain key =
        if key.isShear then .shear strain key
        else .nonshear key.calcType (Cij.Tasks.component strain (Cij.Tasks.colOf key c0)) (Cij.Tasks.component strain (Cij.Tasks.colOf key c1))
     | _ => False) ∧
    (0 < Generated.strainRtol.1 ∧ Generated.strainRtol.1 * 1000000000 ≤ Generated.strainRtol.2) ∧
    Generated.tasksWiringCanonical = true :=
  ⟨Cij.Tasks.create_is_source strain key, Cij.Tasks.strain_rtol_tight, rfl⟩

/-- the glue of `cij/core/mode_gamma.py` this property's statement rests on (which member of the returned triple is γ, which
V∂γ/∂V, the signs): every `interpolate_mode_*` function returns `(exp s, −s′, −s″)` as translated on this run -/
theorem c05_mode_glue_is_source : ∀ e ∈ Generated.modeReturnPattern, e.2 = Cij.Interp.canonicalPattern :=
  Cij.Interp.return_pattern_is_source

/-- `qha_adapter.py` as translated on this run: the (T,V) interface hands over qha's (T,V) fields (`heat_capacity = cv_tv_au`,
`pressures = p_tv_au`), the (T,P) interface `volumes = v_tp_bohr3`, `p_array = desired_pressures`; `read_input` passes the file's
fields unchanged; the requested grid is accepted by exactly the guard the model implements -/
theorem c05_qha_adapter_is_source {α : Type} [OfNat α 0] [LT α] [DecidableLT α] (pTvGpa : List (List α)) (desiredGpa : List α) :
    Generated.qhaVolumeBaseAttrs.lookup "heat_capacity" = some "cv_tv_au" ∧
    Generated.qhaVolumeBaseAttrs.lookup "pressures" = some "p_tv_au" ∧
    Generated.qhaPressureBaseAttrs.lookup "volumes" = some "v_tp_bohr3" ∧
    Generated.qhaPressureBaseAttrs.lookup "p_array" = some "desired_pressures" ∧
    Generated.qhaReadInputCanonical = true ∧
    Cij.AdapterGuardSource.evalGuard Generated.pressureGuard pTvGpa desiredGpa = some (Cij.V2P.desiredPressureStatus pTvGpa desiredGpa) :=
  ⟨by decide +kernel, by decide +kernel, by decide +kernel, by decide +kernel, rfl,
    Cij.AdapterGuardSource.desiredPressureStatus_is_source pTvGpa desiredGpa⟩

/-- `cij/io/traditional/elast_dat.py` (+ package glue) as translated on this run: `read_elast_data` and
`apply_symetry_on_elast_data` are the statements the reader model mirrors (rows in file order, lattice block in file order, one frame row
per volume BY NAME `"c%s%s" % key.v`, `fill_cij(df, **symmetry)` with the caller's dictionary untouched, rows written back as fresh
mappings from `c_(key[1:])`), and the package re-exports the readers themselves (no caching wrapper) -/
theorem c05_readers_are_source :
    Generated.Readers.elastDatCanonical = true ∧ Generated.Readers.columnLiterals = ["c", ""] ∧ Generated.Readers.backSlice = 1 ∧
    Generated.Readers.fillPositional = 1 ∧ Generated.Readers.fillKeywords = ["**<symmetry>"] ∧
    Generated.Readers.rowVolumeIndex = 0 ∧ Generated.Readers.rowKeySlice = 1 ∧ Generated.Readers.rowValueSlice = 1 ∧
    ("read_energy", "qha_input", "read_energy") ∈ Generated.Readers.packageImports ∧
    ("read_elast_data", "elast_dat", "read_elast_data") ∈ Generated.Readers.packageImports := by decide +kernel

/-- `shear.py` glue as translated on this run: the rotated strain fractions are diag(Tᵀ·diag(s)·T) in the written product order for
every T and s — which strain fraction belongs to which rotated axis is what the source says now — and every def of the file is translated -/
theorem c05_shear_glue_is_source {α : Type} [Add α] [Sub α] [Mul α] [Div α] [NatCast α] (env : Cij.ShearGlue.Env α)
    (T : Cij.Shear.Mat3 α) (s : Cij.Shear.Vec3 α) (hs : env.self "strain" = some (.rows s))
    (hT : env.self "transformation_matrix" = some (.mat T)) :
    Cij.ShearGlue.runSr env [] Generated.ShearGlue.cls.strainRotated.2 = some (.rows (Cij.Shear.strainRotated T s)) ∧
    Generated.ShearGlue.definedFunctions.length = 18 :=
  ⟨Cij.ShearGlue.strainRotated_stmts_is_source env T s hs hT, by decide⟩

/-- `Calculator.__init__` as translated on this run calls `_calculate_pressure_static()` WITHOUT arguments — so the static pressure that enters
the off-diagonal moduli is the cubic (default order 3, `c05_glue_is_source_static_pressure`) whatever EOS order the qha settings ask for —
after the modes are interpolated and before the moduli are assembled -/
theorem c05_static_pressure_call_is_source :
    ("call", "_calculate_pressure_static", []) ∈ Generated.CalcGlue.initSteps ∧
    (Generated.CalcGlue.initSteps.map (·.2.1)).filter (fun m => m = "_interpolate_modes" ∨ m = "_calculate_pressure_static" ∨ m = "_process_cij") =
      ["_interpolate_modes", "_calculate_pressure_static", "_process_cij"] := by decide +kernel

/-- `cij/util/fill.py` as translated on this run: a component is dropped by the DROP tolerance (`drop_atol`, not the residual tolerance) against
the target 0, and the verdict is the model's — so a small but non-vanishing symmetry-allowed component stays in the table the moduli are fitted from -/
theorem c05_fill_drop_is_source : Generated.fillDropAtolParam = .dropAtol ∧ Generated.fillDropTarget = (0, 1) ∧
    Cij.Fill.symbolNames = Generated.fillSymbols :=
  ⟨by decide, by decide, Cij.FillSource.symbols_are_source⟩

end Cij.C05
