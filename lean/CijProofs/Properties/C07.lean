/-
  C07 — VRH averages, bounds and velocities are those of the full tensor in SI units.

  Every statement is about `CijModel/VRH.lean` (`report`, the function the driver runs at `Float`), at `α = ℝ`.

  Setting of all theorems.  `inp : Inputs ℝ` is what `Calculator` holds: `modAd` = `modulus_adiabatic` listed in
  `modulus_keys` order (fields on the `nt × nv` grid), `vArray`, `cellmass`; `S t v i j` is the batched
  `numpy.linalg.inv` (an external contract: a PARAMETER, constrained only where a theorem needs it by
  `toMat C * toMat S = 1` at that grid point; the harness measures ‖C·S − 1‖ on every case).
    * `Keys inp`      : `modulus_keys` are distinct canonical `C_` keys containing the nine orthotropic ones
                        (the property's "any subset of non-zero components containing the nine orthotropic ones").
    * `Cmat inp t v`  : the assembled 6×6 at the grid point, `Ctensor`/`Stensor` the full fourth-rank tensors
                        (`tensorOf` through the canonical key map of C10; `complTensorOf` with the 1, ½, ¼ factors).
    * `SPDPoint inp S t v` : `PosDef6 (Cmat inp t v)` (xᵀCx > 0 for every x ≠ 0) and `toMat C * toMat S = 1`.
  These abbreviations are defined in `Lemmas/VRH.lean` ("vocabulary of the C07 statements"); `toMat` turns a
  1-based `Int → Int → ℝ` array into a Mathlib `Matrix (Fin 6) (Fin 6) ℝ`; `vidx` is the documented map
  11,22,33,23,13,12 ↦ 1..6; `idTensor i j m n = ½(δ_im δ_jn + δ_in δ_jm)`.
-/
import CijProofs.Lemmas.VRHExamples
import CijProofs.Lemmas.VRHSource
import CijProofs.Lemmas.CalcGlueSource
namespace Cij.C07

open Cij Cij.VRH Matrix

/-! #### the 6×6 that is inverted is the symmetric fill of the dictionary -/

/-- `elastic_moduli[t, v, i-1, j-1]` = value of the canonical key of the unordered pair {i, j} (0 if absent),
hence symmetric — whatever the order of `modulus_keys`. -/
theorem c07_assembly (inp : Inputs ℝ) (hk : Keys inp) (t v : Nat) (i j : Int) (hij : (i, j) ∈ allPairs) :
    Cmat inp t v i j = val (kvAt inp.modAd t v) (canon (i, j)) ∧ Cmat inp t v i j = Cmat inp t v j i :=
  Cmat_eq inp hk t v i j hij

/-- … and it is the Voigt matrix of the full tensor: `C_ijkl = Cmat (voigt ij) (voigt kl)` -/
theorem c07_assembly_tensor (inp : Inputs ℝ) (hk : Keys inp) (t v : Nat) (i j k l : Int)
    (h : (i, j, k, l) ∈ allTuples) :
    Ctensor inp t v i j k l = Cmat inp t v (vidx i j) (vidx k l) :=
  tensorOf_voigt _ (hk.kvAt t v) h

/-! #### reported compliances = entries of the inverse -/

/-- `self.sIJ` (I ≤ J) is always served and is the (I,J) entry of the batched inverse on the whole grid. -/
theorem c07_compliances_reported (inp : Inputs ℝ) (S : Nat → Nat → Int → Int → ℝ) (p : Int × Int)
    (hp : p ∈ keys21) :
    getS (report inp S).compl p.1 p.2 = some (entryField S inp.nt inp.nv p.1 p.2) :=
  getS_complDict S inp.nt inp.nv p.1 p.2 hp

theorem c07_compliance_entry (S : Nat → Nat → Int → Int → ℝ) (nt nv t v : Nat) (ht : t < nt) (hv : v < nv)
    (i j : Int) : fieldAt (entryField S nt nv i j) t v = S t v i j :=
  sv_eq S nt nv t v ht hv i j

/-- With `C·S = 1` for the 6×6 matrices, the tensor `S_ijkl = s_pq·(1, ½, ¼)` is the fourth-rank inverse of
`C_ijkl`:  `C_ijkl S_klmn = ½(δ_im δ_jn + δ_in δ_jm)`. -/
theorem c07_compliance_tensor_inverse (inp : Inputs ℝ) (S : Nat → Nat → Int → Int → ℝ) (hk : Keys inp)
    (t v : Nat) (hinv : toMat (Cmat inp t v) * toMat (S t v) = 1)
    (i j m n : Int) (hi : i ∈ idx3) (hj : j ∈ idx3) (hm : m ∈ idx3) (hn : n ∈ idx3) :
    VRH.sum (idx3.map fun k => VRH.sum (idx3.map fun l => Ctensor inp t v i j k l * Stensor S t v k l m n))
      = idTensor i j m n := by
  exact compl_tensor_inverse _ _ (hk.kvAt t v) hinv i j m n hi hj hm hn

/-! #### Voigt averages -/

theorem c07_bulk_voigt (inp : Inputs ℝ) (S : Nat → Nat → Int → Int → ℝ) (hk : Keys inp)
    (t v : Nat) (ht : t < inp.nt) (hv : v < inp.nv) :
    ∃ f, (report inp S).kV = some f ∧ fieldAt f t v = contractIIJJ (Ctensor inp t v) / 9 := by
  refine ⟨_, bulkVoigt_eq inp.nt inp.nv inp.modAd hk, ?_⟩
  rw [fieldAt_grid _ _ _ _ _ ht hv, contractIIJJ_tensorOf]
  simp only [bulkVoigtPt, cv, nat_real]; push_cast; ring

theorem c07_shear_voigt (inp : Inputs ℝ) (S : Nat → Nat → Int → Int → ℝ) (hk : Keys inp)
    (t v : Nat) (ht : t < inp.nt) (hv : v < inp.nv) :
    ∃ f, (report inp S).gV = some f ∧
      fieldAt f t v = (3 * contractIJIJ (Ctensor inp t v) - contractIIJJ (Ctensor inp t v)) / 30 := by
  refine ⟨_, shearVoigt_eq inp.nt inp.nv inp.modAd hk, ?_⟩
  rw [fieldAt_grid _ _ _ _ _ ht hv, contractIIJJ_tensorOf, contractIJIJ_tensorOf]
  simp only [shearVoigtPt, cv, nat_real]; push_cast; ring

/-! #### Reuss averages — defined for every input (all 21 compliances are stored), equal to the tensor
expressions of `S`; no positivity or invertibility is needed for the identities themselves -/

theorem c07_bulk_reuss (inp : Inputs ℝ) (S : Nat → Nat → Int → Int → ℝ)
    (t v : Nat) (ht : t < inp.nt) (hv : v < inp.nv) :
    ∃ f, (report inp S).kR = some f ∧ fieldAt f t v = 1 / contractIIJJ (Stensor S t v) := by
  refine ⟨_, bulkReuss_eq S inp.nt inp.nv, ?_⟩
  rw [fieldAt_grid _ _ _ _ _ ht hv, contractIIJJ_complTensorOf]
  simp only [bulkReussPt, sv_eq S _ _ t v ht hv, nat_real]; push_cast; rfl

theorem c07_shear_reuss (inp : Inputs ℝ) (S : Nat → Nat → Int → Int → ℝ)
    (t v : Nat) (ht : t < inp.nt) (hv : v < inp.nv) :
    ∃ f, (report inp S).gR = some f ∧
      fieldAt f t v = 15 / (6 * contractIJIJ (Stensor S t v) - 2 * contractIIJJ (Stensor S t v)) := by
  refine ⟨_, shearReuss_eq S inp.nt inp.nv, ?_⟩
  rw [fieldAt_grid _ _ _ _ _ ht hv, contractIIJJ_complTensorOf, contractIJIJ_complTensorOf]
  simp only [shearReussPt, sv_eq S _ _ t v ht hv, nat_real]; push_cast
  congr 1; ring

/-! #### Hill = arithmetic mean -/

theorem c07_hill_bulk (inp : Inputs ℝ) (S : Nat → Nat → Int → Int → ℝ) (hk : Keys inp)
    (t v : Nat) (ht : t < inp.nt) (hv : v < inp.nv) :
    ∃ r vo h, (report inp S).kR = some r ∧ (report inp S).kV = some vo ∧ (report inp S).kH = some h ∧
      fieldAt h t v = (fieldAt r t v + fieldAt vo t v) / 2 := by
  have hr := bulkReuss_eq S inp.nt inp.nv
  have hvo := bulkVoigt_eq inp.nt inp.nv inp.modAd hk
  obtain ⟨h, hh, e⟩ := hill_at inp.nt inp.nv hr hvo t v ht hv
  exact ⟨_, _, h, hr, hvo, hh, e.trans (hillPt_eq _ _)⟩

theorem c07_hill_shear (inp : Inputs ℝ) (S : Nat → Nat → Int → Int → ℝ) (hk : Keys inp)
    (t v : Nat) (ht : t < inp.nt) (hv : v < inp.nv) :
    ∃ r vo h, (report inp S).gR = some r ∧ (report inp S).gV = some vo ∧ (report inp S).gH = some h ∧
      fieldAt h t v = (fieldAt r t v + fieldAt vo t v) / 2 := by
  have hr := shearReuss_eq S inp.nt inp.nv
  have hvo := shearVoigt_eq inp.nt inp.nv inp.modAd hk
  obtain ⟨h, hh, e⟩ := hill_at inp.nt inp.nv hr hvo t v ht hv
  exact ⟨_, _, h, hr, hvo, hh, e.trans (hillPt_eq _ _)⟩

/-! #### Reuss ≤ Hill ≤ Voigt wherever the stiffness is positive definite -/

theorem c07_kr_le_kv (inp : Inputs ℝ) (S : Nat → Nat → Int → Int → ℝ) (hk : Keys inp)
    (t v : Nat) (ht : t < inp.nt) (hv : v < inp.nv)
    (hpt : SPDPoint inp S t v) :
    ∃ r vo, (report inp S).kR = some r ∧ (report inp S).kV = some vo ∧
      0 < fieldAt r t v ∧ fieldAt r t v ≤ fieldAt vo t v := by
  refine ⟨_, _, bulkReuss_eq S inp.nt inp.nv, bulkVoigt_eq inp.nt inp.nv inp.modAd hk, ?_⟩
  rw [fieldAt_grid _ _ _ _ _ ht hv, fieldAt_grid _ _ _ _ _ ht hv]
  have h := kr_le_kv_pt (Cmat inp t v) (S t v) (Cmat_symm inp hk t v) hpt.pd hpt.inv
  simp only [sv_eq S _ _ t v ht hv, cv_eq_Cmat inp hk t v, Int.reduceLE]
  exact h

theorem c07_gr_le_gv (inp : Inputs ℝ) (S : Nat → Nat → Int → Int → ℝ) (hk : Keys inp)
    (t v : Nat) (ht : t < inp.nt) (hv : v < inp.nv)
    (hpt : SPDPoint inp S t v) :
    ∃ r vo, (report inp S).gR = some r ∧ (report inp S).gV = some vo ∧
      0 < fieldAt r t v ∧ fieldAt r t v ≤ fieldAt vo t v := by
  refine ⟨_, _, shearReuss_eq S inp.nt inp.nv, shearVoigt_eq inp.nt inp.nv inp.modAd hk, ?_⟩
  rw [fieldAt_grid _ _ _ _ _ ht hv, fieldAt_grid _ _ _ _ _ ht hv]
  have h := gr_le_gv_pt (Cmat inp t v) (S t v) (Cmat_symm inp hk t v) hpt.pd hpt.inv
  simp only [sv_eq S _ _ t v ht hv, cv_eq_Cmat inp hk t v, Int.reduceLE]
  exact h

/-- Reuss ≤ Hill ≤ Voigt, bulk and shear, at every grid point where the stiffness is positive definite -/
theorem c07_hill_between (inp : Inputs ℝ) (S : Nat → Nat → Int → Int → ℝ) (hk : Keys inp)
    (t v : Nat) (ht : t < inp.nt) (hv : v < inp.nv)
    (hpt : SPDPoint inp S t v) :
    ∃ kr kh kv gr gh gv, (report inp S).kR = some kr ∧ (report inp S).kH = some kh ∧ (report inp S).kV = some kv ∧
      (report inp S).gR = some gr ∧ (report inp S).gH = some gh ∧ (report inp S).gV = some gv ∧
      0 < fieldAt kr t v ∧ fieldAt kr t v ≤ fieldAt kh t v ∧ fieldAt kh t v ≤ fieldAt kv t v ∧
      0 < fieldAt gr t v ∧ fieldAt gr t v ≤ fieldAt gh t v ∧ fieldAt gh t v ≤ fieldAt gv t v := by
  obtain ⟨kr, kv, hkr, hkv, kpos, kle⟩ := c07_kr_le_kv inp S hk t v ht hv hpt
  obtain ⟨gr, gv, hgr, hgv, gpos, gle⟩ := c07_gr_le_gv inp S hk t v ht hv hpt
  obtain ⟨kh, hkh, ek⟩ := hill_at inp.nt inp.nv hkr hkv t v ht hv
  obtain ⟨gh, hgh, eg⟩ := hill_at inp.nt inp.nv hgr hgv t v ht hv
  have bk := hill_between_pt _ _ kle
  have bg := hill_between_pt _ _ gle
  rw [← ek] at bk; rw [← eg] at bg
  exact ⟨kr, kh, kv, gr, gh, gv, hkr, hkh, hkv, hgr, hgh, hgv, kpos, bk.1, bk.2, gpos, bg.1, bg.2⟩

/-! #### velocities: ρ v_s² = G_VRH, ρ v_p² = K_VRH + 4 G_VRH / 3, in km/s

`ρ = (cell mass in g/mol)/1000/(N_A · V)` is the density in kg per unit of `V` (bohr³); `f` is one rydberg in
kg·km²/s², so `G·f` is the modulus (Ry/bohr³) in kg·km²·s⁻² per bohr³ and `v` comes out in km/s. -/

theorem c07_vs_sq (inp : Inputs ℝ) (S : Nat → Nat → Int → Int → ℝ) (hk : Keys inp)
    (t v : Nat) (ht : t < inp.nt) (hv : v < inp.nv)
    (hV : 0 < inp.vArray.getD v 0) (hN : 0 < inp.avogadro) (hm : 0 < inp.cellmass) (hf : 0 ≤ inp.ryFactor)
    (hpt : SPDPoint inp S t v) :
    ∃ g vs, (report inp S).gH = some g ∧ (report inp S).vs = some vs ∧
      inp.cellmass / 1000 / (inp.avogadro * inp.vArray.getD v 0) * fieldAt vs t v ^ 2
        = fieldAt g t v * inp.ryFactor := by
  obtain ⟨kr, kh, kv, gr, gh, gv, hkr, hkh, hkv, hgr, hgh, hgv, kpos, k1, k2, gpos, g1, g2⟩ :=
    c07_hill_between inp S hk t v ht hv hpt
  have hvs : (report inp S).vs = secondaryVelocities inp (report inp S).gH := rfl
  have h0 : (nat 0 : ℝ) = 0 := by simp
  refine ⟨gh, _, hgh, by rw [hvs, hgh]; rfl, ?_⟩
  rw [fieldAt_grid _ _ (fun t v => vsPt _ _ _ _) _ _ ht hv, h0]
  exact density_mul_sq_sqrt _ _ _ _ _ hV hN hm hf (by linarith)

theorem c07_vp_sq (inp : Inputs ℝ) (S : Nat → Nat → Int → Int → ℝ) (hk : Keys inp)
    (t v : Nat) (ht : t < inp.nt) (hv : v < inp.nv)
    (hV : 0 < inp.vArray.getD v 0) (hN : 0 < inp.avogadro) (hm : 0 < inp.cellmass) (hf : 0 ≤ inp.ryFactor)
    (hpt : SPDPoint inp S t v) :
    ∃ k g vp, (report inp S).kH = some k ∧ (report inp S).gH = some g ∧ (report inp S).vp = some vp ∧
      inp.cellmass / 1000 / (inp.avogadro * inp.vArray.getD v 0) * fieldAt vp t v ^ 2
        = (fieldAt k t v + 4 * fieldAt g t v / 3) * inp.ryFactor := by
  obtain ⟨kr, kh, kv, gr, gh, gv, hkr, hkh, hkv, hgr, hgh, hgv, kpos, k1, k2, gpos, g1, g2⟩ :=
    c07_hill_between inp S hk t v ht hv hpt
  have hvp : (report inp S).vp = primaryVelocities inp (report inp S).kH (report inp S).gH := rfl
  have h0 : (nat 0 : ℝ) = 0 := by simp
  refine ⟨kh, gh, _, hkh, hgh, by rw [hvp, hkh, hgh]; rfl, ?_⟩
  rw [fieldAt_grid _ _ (fun t v => vpPt _ _ _ _ _) _ _ ht hv, h0]
  exact vp_sq_pt _ _ _ _ _ _ hV hN hm hf (by linarith)

/-- the mass per cell is `cellmass [g/mol] · 10⁻³ / N_A` kg -/
theorem c07_mass (inp : Inputs ℝ) (S : Nat → Nat → Int → Int → ℝ) (hN : inp.avogadro ≠ 0) :
    (report inp S).mass * inp.avogadro * 1000 = inp.cellmass := by
  show mass inp.cellmass inp.avogadro * inp.avogadro * 1000 = inp.cellmass
  simp only [mass, nat_real]; push_cast; field_simp

/-! #### non-vacuity: a concrete instance satisfying every hypothesis used above

cubic `c11 = 3, c12 = 1, c44 = 1` on a 1×1 grid, `S` its exact inverse (`s11 = 2/5, s12 = −1/10, s44 = 1`). -/

example : Keys exInp ∧ SPDPoint exInp exS 0 0 ∧ (0 < exInp.nt ∧ 0 < exInp.nv) :=
  ⟨orthoDict_keys _ _ _ _ _ _ _ _ _, ⟨ex_posDef, ex_inv⟩, by decide, by decide⟩

/-- on that instance the theorems give the textbook cubic values K_V = K_R = 5/3, G_R = 1 = G_V -/
example : ∃ kr kv gr gv, (report exInp exS).kR = some kr ∧ (report exInp exS).kV = some kv ∧
    (report exInp exS).gR = some gr ∧ (report exInp exS).gV = some gv ∧
    fieldAt kv 0 0 = 5 / 3 ∧ fieldAt kr 0 0 = 5 / 3 ∧ fieldAt gv 0 0 = 1 ∧ fieldAt gr 0 0 = 1 := by
  have hk : Keys exInp := orthoDict_keys _ _ _ _ _ _ _ _ _
  have e : ∀ p ∈ ortho9, cv exInp.modAd 0 0 p.1 p.2 = orthoMat 3 3 3 1 1 1 1 1 1 p.1 p.2 := cv_orthoDict _ _ _ _ _ _ _ _ _
  refine ⟨_, _, _, _, bulkReuss_eq exS 1 1, bulkVoigt_eq 1 1 exInp.modAd hk,
    shearReuss_eq exS 1 1, shearVoigt_eq 1 1 exInp.modAd hk, ?_, ?_, ?_, ?_⟩
  · rw [fieldAt_grid _ _ (fun t v => bulkVoigtPt _ _ _ _ _ _) 0 0 (by decide) (by decide),
      e (1, 1) (by decide), e (2, 2) (by decide), e (3, 3) (by decide), e (1, 2) (by decide), e (2, 3) (by decide),
      e (1, 3) (by decide), bulkVoigtPt_eq]
    norm_num [orthoMat]
  · rw [fieldAt_grid _ _ (fun t v => bulkReussPt _ _ _ _ _ _) 0 0 (by decide) (by decide), bulkReussPt_eq]
    simp only [sv_eq exS 1 1 0 0 (by decide) (by decide)]
    norm_num [exS, orthoMat]
  · rw [fieldAt_grid _ _ (fun t v => shearVoigtPt _ _ _ _ _ _ _ _ _) 0 0 (by decide) (by decide),
      e (1, 1) (by decide), e (2, 2) (by decide), e (3, 3) (by decide), e (1, 2) (by decide), e (2, 3) (by decide),
      e (1, 3) (by decide), e (4, 4) (by decide), e (5, 5) (by decide), e (6, 6) (by decide), shearVoigtPt_eq]
    norm_num [orthoMat]
  · rw [fieldAt_grid _ _ (fun t v => shearReussPt _ _ _ _ _ _ _ _ _) 0 0 (by decide) (by decide), shearReussPt_eq]
    simp only [sv_eq exS 1 1 0 0 (by decide) (by decide)]
    norm_num [exS, orthoMat]

/-- regression instance: `c11 = c22 = 10, c33 = 4, c12 = 1, c13 = c23 = 2, c44 = c55 = c66 = 1` is
positive definite and its exact inverse has `s12 = 0`.  Before repo commit 1b22ce6 the code skipped compliance
entries that were `allclose` to 0, `self.s12` raised and no Reuss/Hill modulus or velocity was reported for this
input.  For the code as it is now the hypotheses hold and `K_R = 36/11` is reported.  (The harness replays exactly
this input on the real classes: corpus/C07/s12-zero.json.) -/
example : Keys wInp ∧ SPDPoint wInp wS 0 0 ∧
    ∃ kr, (report wInp wS).kR = some kr ∧ fieldAt kr 0 0 = 36 / 11 := by
  refine ⟨orthoDict_keys _ _ _ _ _ _ _ _ _, ⟨w_posDef, w_inv⟩, _, bulkReuss_eq wS 1 1, ?_⟩
  rw [fieldAt_grid _ _ (fun t v => bulkReussPt _ _ _ _ _ _) 0 0 (by decide) (by decide)]
  simp only [sv_eq wS 1 1 0 0 (by decide) (by decide)]
  norm_num [bulkReussPt, wS, orthoMat]

/-- the identity tensor and the Voigt-index map used in the statements, on concrete indices -/
example : idTensor 1 2 2 1 = 1 / 2 ∧ idTensor 1 1 1 1 = 1 ∧ idTensor 1 1 2 2 = 0 ∧ vidx 2 3 = 4 ∧ vidx 1 1 = 1 := by
  refine ⟨by norm_num [idTensor], by norm_num [idTensor], by norm_num [idTensor], by decide, by decide⟩

/-! #### the model IS the source: bodies re-extracted from calculator.py on this run

`tools/gen_tables.py` parses the bodies of the six averaging properties, `mass`, `primary_velocities` and
`secondary_velocities` of `CijVolumeBaseInterface` into expression trees (`Generated.vrh*`).  The point formulas about
which everything above is proved are definitionally those trees, for every scalar type (`Lemmas/VRHSource.lean`); here
at ℝ.  A changed coefficient, index or operator in those Python bodies makes this theorem fail to check. -/

open Cij.VExpr in
theorem c07_model_is_source (c11 c22 c33 c12 c23 c13 c44 c55 c66 s11 s22 s33 s12 s23 s13 s44 s55 s66 : ℝ) (e : Env ℝ)
    (hc : e.c = cEnv c11 c22 c33 c12 c23 c13 c44 c55 c66) (hs : e.s = cEnv s11 s22 s33 s12 s23 s13 s44 s55 s66) :
    bulkVoigtPt c11 c22 c33 c12 c23 c13 = eval e Generated.vrhBulkVoigt ∧
    shearVoigtPt c11 c22 c33 c12 c23 c13 c44 c55 c66 = eval e Generated.vrhShearVoigt ∧
    bulkReussPt s11 s22 s33 s12 s23 s13 = eval e Generated.vrhBulkReuss ∧
    shearReussPt s11 s22 s33 s12 s23 s13 s44 s55 s66 = eval e Generated.vrhShearReuss ∧
    hillPt (e.prop .kR) (e.prop .kV) = eval e Generated.vrhBulkHill ∧
    hillPt (e.prop .gR) (e.prop .gV) = eval e Generated.vrhShearHill ∧
    mass e.cellmass e.avogadro = eval e Generated.vrhMass ∧
    vpPt (e.prop .kH) (e.prop .gH) e.V e.ryFactor e.mass = eval e Generated.vrhVp ∧
    vsPt (e.prop .gH) e.V e.ryFactor e.mass = eval e Generated.vrhVs :=
  ⟨bulkVoigt_is_source c11 c22 c33 c12 c23 c13 c44 c55 c66 e hc, shearVoigt_is_source c11 c22 c33 c12 c23 c13 c44 c55 c66 e hc,
   bulkReuss_is_source s11 s22 s33 s12 s23 s13 s44 s55 s66 e hs, shearReuss_is_source s11 s22 s33 s12 s23 s13 s44 s55 s66 e hs,
   (hill_is_source e).1, (hill_is_source e).2, mass_is_source e, vp_is_source e, vs_is_source e⟩

/-! #### the GLUE is the source: `Calculator` / `CijVolumeBaseInterface` around the formulas

`tools/gens/calc_src.py` re-extracts on every run, as data (`Generated/CalcGlueSpec.lean`): `REGEX_CIJ` and its parts, the dispatch
of `CijVolumeBaseInterface.__getattr__`, the index arithmetic / stores / loops of `_calculate_compliances`, the statements of
`Calculator.__init__` with the attributes every method reads and writes, the wiring of `_process_cij`,
`_calculate_pressure_static`, `_interpolate_modes`, `_apply_elastic_constants_symmetry`, `modulus_keys`, `dims`, `write_output`,
and for every class: bases, class-level / module-level assignments with the kind of value, default arguments, decorators,
names defined, and per method the in-place operations on anything reachable from `self`.  `CijModel/CalcGlue.lean` gives the
data their meaning (evaluators, run at `Float` by the driver against the real classes).  The theorems below say that the
hand-written model about which everything above is proved IS the evaluation of these data, for all inputs.  A changed
offset, comparison, store, group number, pattern, decorator, a class-level container or an in-place update in the Python
source changes the data and these theorems no longer check (or the translator reports the method that left its grammar). -/

open Cij.CalcGlue Generated.CalcGlue

/-- the assembly loop of `_calculate_compliances`, evaluated from the extracted index data (`[i-1, j-1]`, both orders of
`key.voigt`, store `modulus_adiabatic`, keys from `modulus_keys`), is `assembleEntry` — for EVERY dictionary `kv` (any key order, any
subset, any scalar type: also the `Float` run) and every cell -/
theorem calc_glue_is_source_assembly {α : Type} [Scalar α] (kv : KV α) (i j : Int) :
    assembleSpec complSpec kv (i - 1) (j - 1) = assembleEntry kv i j ∧
    complSpec.store = "modulus_adiabatic" ∧ complSpec.keysFrom = "modulus_keys" ∧ complSpec.keyAttr = "voigt" ∧
    complSpec.shape = (6, 6) ∧ complSpec.dimsAttr = "dims" :=
  ⟨assembleSpec_gen kv i j, by decide, by decide, by decide, by decide, by decide⟩

/-- … hence, by `c07_assembly`: whatever the order of `modulus_keys` (`inp'` any permutation of `inp`), cell `[i-1, j-1]` holds the value of
the canonical key of the unordered pair {i, j}, and the matrix is symmetric -/
theorem calc_glue_is_source_assembly_any_order (inp inp' : Inputs ℝ) (hk : Keys inp) (hp : inp.modAd.Perm inp'.modAd)
    (t v : Nat) (i j : Int) (hij : (i, j) ∈ allPairs) :
    assembleSpec complSpec (kvAt inp'.modAd t v) (i - 1) (j - 1) = val (kvAt inp.modAd t v) (canon (i, j)) ∧
    assembleSpec complSpec (kvAt inp'.modAd t v) (i - 1) (j - 1) = assembleSpec complSpec (kvAt inp'.modAd t v) (j - 1) (i - 1) := by
  rw [assembleSpec_gen, assembleSpec_gen]
  have h := Cmat_perm inp inp' hk hp t v i j hij
  have h' := Cmat_eq inp' (keys_perm inp inp' hk hp) t v i j hij
  exact ⟨by rw [← (Cmat_eq inp hk t v i j hij).1]; exact h.symm, h'.2⟩

/-- the labelling loop, evaluated from the extracted data (`range(6)²`, skip `i > j`, label `c_(i+1, j+1)`, read `[i, j]`), is `complDict`;
there is ONE `numpy.linalg.inv` call; the dict it fills is the one `__getattr__` serves the `s…` names from -/
theorem calc_glue_is_source_labels {α : Type} (S : Nat → Nat → Int → Int → α) (nt nv : Nat) :
    complDictSpec complSpec S nt nv = complDict S nt nv ∧ complSpec.invCalls = 1 ∧
    complSpec.dictAttr = "_compliances" ∧
    (∀ b ∈ getattrBranches, b.lit = "s" → b.member = complSpec.dictAttr ∧ b.elseStore = complSpec.dictAttr) :=
  ⟨complDictSpec_gen S nt nv, by decide, by decide, by decide⟩

/-- **label (i, j) holds the (i, j) entry of the inverse of the assembled matrix, whatever the order of `modulus_keys`**: for two
presentations of the same dictionary and ANY batched inverses `S`, `S'` (`C·S = 1` at the grid point), the arrays served as `sIJ` agree there
and are the (I, J) entry of Mathlib's `(toMat C)⁻¹` -/
theorem calc_glue_label_is_inverse_entry (inp inp' : Inputs ℝ) (hk : Keys inp) (hp : inp.modAd.Perm inp'.modAd)
    (S S' : Nat → Nat → Int → Int → ℝ) (nt nv t v : Nat) (ht : t < nt) (hv : v < nv)
    (hinv : toMat (Cmat inp t v) * toMat (S t v) = 1) (hinv' : toMat (Cmat inp' t v) * toMat (S' t v) = 1)
    (a b : Fin 6) (hab : (ix a, ix b) ∈ keys21) :
    ∃ f f', getS (complDictSpec complSpec S nt nv) (ix a) (ix b) = some f ∧
      getS (complDictSpec complSpec S' nt nv) (ix a) (ix b) = some f' ∧
      fieldAt f t v = (toMat (Cmat inp t v))⁻¹ a b ∧ fieldAt f' t v = fieldAt f t v := by
  rw [complDictSpec_gen, complDictSpec_gen]
  refine ⟨_, _, getS_complDict S nt nv (ix a) (ix b) hab, getS_complDict S' nt nv (ix a) (ix b) hab, ?_, ?_⟩
  · show sv S nt nv t v (ix a) (ix b) = _
    rw [sv_eq S nt nv t v ht hv, Matrix.inv_eq_right_inv hinv]; rfl
  · have hC : toMat (Cmat inp' t v) = toMat (Cmat inp t v) :=
      toMat_congr _ _ (fun i j hij => (Cmat_perm inp inp' hk hp t v i j hij).symm)
    rw [hC] at hinv'
    show sv S' nt nv t v (ix a) (ix b) = sv S nt nv t v (ix a) (ix b)
    rw [sv_eq S nt nv t v ht hv, sv_eq S' nt nv t v ht hv]
    show toMat (S' t v) a b = toMat (S t v) a b
    rw [← Matrix.inv_eq_right_inv hinv, ← Matrix.inv_eq_right_inv hinv']

/-- no class-level mutable attribute, no module-level container, no mutable default, no base class / metaclass, only
`property` / `LazyProperty` decorators, no name defined twice (`NoSharedState`, Lemmas/CalcGlueSource.lean) -/
theorem calc_glue_no_shared_state : NoSharedState := by decide +kernel
/-- no property body writes in place into anything reachable from `self` (`NoInplace`) -/
theorem calc_glue_no_inplace : NoInplace := by decide +kernel

/-! #### name lookup: REGEX_CIJ and `__getattr__` -/

/-- `re.search(REGEX_CIJ, name)` as extracted accepts EXACTLY: prefix `c`|`s`, optional `_`, two Voigt digits 1–6 or four standard
digits 1–3, optional suffix `s`|`t`, optionally ONE trailing newline (Python's `$`); and `group(1..3)` are these parts -/
theorem calc_glue_is_source_lookup_language (name : String) (q : Parsed) :
    matchName regexParts getattrMatchFn name.toList = some q ↔
      ((q.pre = 'c' ∨ q.pre = 's') ∧
       ((q.digits.length = 2 ∧ ∀ c ∈ q.digits, '1' ≤ c ∧ c ≤ '6') ∨ (q.digits.length = 4 ∧ ∀ c ∈ q.digits, '1' ≤ c ∧ c ≤ '3')) ∧
       (q.suf = none ∨ q.suf = some 's' ∨ q.suf = some 't')) ∧
      ∃ u, (u = [] ∨ u = ['_']) ∧ ∃ nl, (nl = [] ∨ nl = ['\n']) ∧
        name.toList = q.pre :: (u ++ (q.digits ++ q.suf.toList)) ++ nl :=
  matchName_gen name.toList q

/-- the extracted dispatch of `__getattr__`, for every name and every content of the dictionaries: `c…` needs the key in `modulus_keys` and
is isothermal exactly for suffix `t`, adiabatic otherwise; `s…` needs the key in `_compliances` and is served from it for suffix `s` or none,
AttributeError for suffix `t` (`_compliances` is the inverse of the ADIABATIC stiffness; before the repair of the source the inner test read
`res.group(1) == 't'`, never true, and `s11t` returned the adiabatic compliance — that spelling breaks this theorem); anything else
AttributeError -/
theorem calc_glue_is_source_lookup_dispatch (hasKey : String → Modulus → Bool) (name : String) :
    resolve regexParts getattrMatchFn getattrBranches hasKey name =
      match matchName regexParts getattrMatchFn name.toList with
      | none => .attributeError
      | some q =>
        let key := keyOfVoigt (canon (pairOfDigits q.digits))
        if q.pre = 'c' then
          if hasKey "modulus_keys" key then
            (if q.suf = some 't' then .served "modulus_isothermal" key else .served "modulus_adiabatic" key)
          else .attributeError
        else
          if hasKey "_compliances" key then
            (if q.suf = some 't' then .attributeError else .served "_compliances" key)
          else .attributeError :=
  resolve_gen hasKey name

/-- `c_(res.group(2))` never raises on an accepted name: it is the canonical key of the Voigt pair the digits name -/
theorem calc_glue_lookup_key_defined (name : String) (q : Parsed)
    (h : matchName regexParts getattrMatchFn name.toList = some q) :
    Modulus.create [.str (String.ofList q.digits)] = some (keyOfVoigt (canon (pairOfDigits q.digits))) ∧
      canon (pairOfDigits q.digits) ∈ keys21 :=
  create_digits q.digits (good_digits q ((matchName_gen _ q).1 h).1)

/-- the reads `self.cIJ` / `self.sIJ` of the averaging properties (`getC`, `getS` of the model: `(attrKey i j).bind (find d)`) are this
dispatch: adiabatic stiffness, reported compliances — for all 36 index pairs and all dictionaries -/
theorem calc_glue_is_source_averages_read {β : Type} (s : Stores β) (hkeys : s.keys = s.adiabatic.map (·.1)) (p : Int × Int)
    (hp : p ∈ allPairs) :
    lookup regexParts getattrMatchFn getattrBranches s ("c" ++ toString p.1 ++ toString p.2)
        = (attrKey p.1 p.2).bind (find s.adiabatic) ∧
    lookup regexParts getattrMatchFn getattrBranches s ("s" ++ toString p.1 ++ toString p.2)
        = (attrKey p.1 p.2).bind (find s.compliances) := by
  obtain ⟨h1, h2, h3⟩ := names_IJ p hp
  rw [lookup_c_gen s hkeys _ _ h1 rfl, lookup_s_gen s _ _ h2 (by show 's' ≠ 'c'; decide), h3]
  exact ⟨rfl, rfl⟩

open Classical in
/-- every spelling, every suffix, as a function of the three dictionaries -/
theorem calc_glue_lookup_suffixes {β : Type} (s : Stores β) (hkeys : s.keys = s.adiabatic.map (·.1)) (name : String)
    (q : Parsed) (h : matchName regexParts getattrMatchFn name.toList = some q) :
    let key := keyOfVoigt (canon (pairOfDigits q.digits))
    lookup regexParts getattrMatchFn getattrBranches s name =
      if q.pre = 'c' then
        (if q.suf = some 't' then (if key ∈ s.keys then find s.isothermal key else none) else find s.adiabatic key)
      else (if q.suf = some 't' then none else find s.compliances key) := by
  intro key
  by_cases hc : q.pre = 'c'
  · rw [if_pos hc]; exact lookup_c_gen s hkeys name q h hc
  · rw [if_neg hc]; exact lookup_s_gen s name q h hc

/-- **the repaired behaviour of the compliance names**: for every accepted name with prefix `s` — any spelling (`sIJ`, `s_IJ`, `sijkl`, swapped
indices, trailing newline) — suffix `t` raises AttributeError whatever the dictionaries hold (nothing is reported under an isothermal name: the
table is the inverse of the adiabatic stiffness), and suffix `s` or none returns the entry of `_compliances` under the canonical key -/
theorem calc_glue_compliance_names {β : Type} (s : Stores β) (hasKey : String → Modulus → Bool) (name : String) (q : Parsed)
    (h : matchName regexParts getattrMatchFn name.toList = some q) (hs : q.pre = 's') :
    (q.suf = some 't' → resolve regexParts getattrMatchFn getattrBranches hasKey name = .attributeError ∧
        lookup regexParts getattrMatchFn getattrBranches s name = none) ∧
    (q.suf ≠ some 't' → lookup regexParts getattrMatchFn getattrBranches s name
        = find s.compliances (keyOfVoigt (canon (pairOfDigits q.digits)))) := by
  have hl := lookup_s_gen s name q h (by rw [hs]; decide)
  refine ⟨fun ht => ⟨?_, by rw [hl, if_pos ht]⟩, fun ht => by rw [hl, if_neg ht]⟩
  obtain ⟨p, d, sf⟩ := q
  simp only at hs ht
  subst hs ht
  exact resolve_s_t_gen hasKey name d h

/-! #### `getattr(volume_base, name)`: normal lookup first — exactly which names reach `__getattr__`

The theorems above describe `CijVolumeBaseInterface.__getattr__`.  Python calls it only when normal lookup fails.  The translator
extracts, per class, every name normal lookup can find: the names bound in the class body (`classNames`), the attributes assigned on
`self` (`initAttrs`: unconditionally in `__init__`; `laterAttrs`: anywhere else), the cache attributes `_<name>` of the LazyProperties
(`lazyCacheAttrs`), and that nothing makes lookup dynamic (`StaticLookup`: no base class, no `__getattribute__` / `__setattr__` /
`__slots__`, no `setattr` / `__dict__` / `vars`, no store on another object).  What `object` and the type machinery add is a parameter
`builtin`, constrained only by the spelling `__…` (the harness checks that spelling on the real objects).  `getattrOf` (CijModel/CalcGlue.lean)
is `getattr`: `.attribute` when normal lookup finds the name, `.fallback (__getattr__ name)` when it cannot, `.stateDependent` for an attribute
that exists only after some method ran. -/

theorem calc_glue_static_lookup : StaticLookup := by decide +kernel

/-- **(1) no name of the language of `REGEX_CIJ` is in the way**: a name the extracted pattern accepts (any spelling: `cIJ`, `s_ijkl`, suffix,
trailing newline) is different from every name bound in the body of `CijVolumeBaseInterface` / `CijPressureBaseInterface`, every attribute
assigned on `self` in their methods and every LazyProperty cache attribute, and is not spelled `__…`: normal lookup fails on BOTH
interfaces -/
theorem calc_glue_accepted_names_reach_getattr (name : String) (q : Parsed)
    (h : matchName regexParts getattrMatchFn name.toList = some q) :
    (∀ d ∈ volumeBaseShape.all ++ pressureBaseShape.all, d ≠ name) ∧
    volumeBaseShape.defined name = false ∧ pressureBaseShape.defined name = false ∧ dunderLike name = false := by
  refine ⟨fun d hd e => ?_, accepted_not_defined _ volumeBase_names_rejected name q h,
    accepted_not_defined _ pressureBase_names_rejected name q h, accepted_not_dunder name q h⟩
  subst e
  rcases List.mem_append.1 hd with hd | hd
  · rw [volumeBase_names_rejected d hd] at h; cases h
  · rw [pressureBase_names_rejected d hd] at h; cases h

/-- **(2) the explicit quantities never go through `__getattr__`**: every node of the property graph of `CijVolumeBaseInterface` (the six
averages, `mass`, the two velocities, `v_array`, `t_array`, `pressures`, the two dictionaries) is bound in the class body — found by normal
lookup on every instance — and is outside the language of the pattern; every attribute any method of the class reads through `self` is
either such an always-defined name or a name of the language (so no read of the class can end in `raise AttributeError(name)` for a name
outside both); the same for `CijPressureBaseInterface`, whose methods read no name of the language at all -/
theorem calc_glue_explicit_quantities_defined :
    (∀ e ∈ volumeBaseDeps, volumeBaseShape.always e.1 = true ∧ matchName regexParts getattrMatchFn e.1.toList = none ∧
        ∀ r ∈ e.2.2, volumeBaseShape.always r = true) ∧
    (∀ n ∈ ["bulk_modulus_voigt", "bulk_modulus_reuss", "bulk_modulus_voigt_reuss_hill", "shear_modulus_voigt", "shear_modulus_reuss",
        "shear_modulus_voigt_reuss_hill", "mass", "primary_velocities", "secondary_velocities"],
        volumeBaseShape.always n = true ∧ pressureBaseShape.always n = true ∧ (volumeBaseDeps.map (·.1)).contains n = true) ∧
    (∀ e ∈ selfReads, e.1 = "CijVolumeBaseInterface" → ∀ r ∈ e.2.2,
        volumeBaseShape.always r = true ∨ (matchName regexParts getattrMatchFn r.toList).isSome = true) ∧
    (∀ e ∈ selfReads, e.1 = "CijPressureBaseInterface" → ∀ r ∈ e.2.2, pressureBaseShape.always r = true) := by
  decide +kernel

/-- **(3) `getattr(volume_base, name)` for EVERY name**: the defined attribute when the class binds the name, `__init__` assigns it or the
interpreter provides it — and then `__getattr__` would have raised AttributeError anyway (the name is outside the language); the attribute or
AttributeError for a name that only a later method / a LazyProperty cache would set; otherwise the translated dispatch of
`__getattr__` (`calc_glue_is_source_lookup_dispatch`) -/
theorem calc_glue_getattr_volume_base (builtin : String → Bool) (hb : ∀ n, builtin n = true → dunderLike n = true)
    (hasKey : String → Modulus → Bool) (name : String) :
    getattrVolumeBase volumeBaseShape builtin regexParts getattrMatchFn getattrBranches hasKey name =
      (if volumeBaseShape.always name || builtin name then .attribute name
       else if volumeBaseShape.sometimes name then .stateDependent name .attributeError
       else .fallback (resolve regexParts getattrMatchFn getattrBranches hasKey name)) ∧
    (volumeBaseShape.defined name = true ∨ builtin name = true →
      matchName regexParts getattrMatchFn name.toList = none ∧
      resolve regexParts getattrMatchFn getattrBranches hasKey name = .attributeError) := by
  have hrej : volumeBaseShape.defined name = true ∨ builtin name = true →
      matchName regexParts getattrMatchFn name.toList = none := by
    intro hd
    cases hm : matchName regexParts getattrMatchFn name.toList with
    | none => rfl
    | some q =>
      obtain ⟨_, h1, _, _⟩ := calc_glue_accepted_names_reach_getattr name q hm
      rcases hd with hd | hd
      · rw [h1] at hd; cases hd
      · rw [accepted_not_builtin builtin hb name q hm] at hd; cases hd
  have hres : matchName regexParts getattrMatchFn name.toList = none →
      resolve regexParts getattrMatchFn getattrBranches hasKey name = .attributeError := by
    intro hm; unfold resolve; rw [hm]
  refine ⟨?_, fun hd => ⟨hrej hd, hres (hrej hd)⟩⟩
  unfold getattrVolumeBase getattrOf
  by_cases h1 : (volumeBaseShape.always name || builtin name) = true
  · rw [if_pos h1, if_pos h1]
  · rw [if_neg h1, if_neg h1]
    by_cases h2 : volumeBaseShape.sometimes name = true
    · rw [if_pos h2, if_pos h2, hres (hrej (Or.inl (by simp [AttrShape.defined, h2])))]
    · rw [if_neg h2, if_neg h2]

/-- … in particular an accepted name: `getattr(volume_base, name)` IS `__getattr__(name)`, no precondition -/
theorem calc_glue_getattr_accepted (builtin : String → Bool) (hb : ∀ n, builtin n = true → dunderLike n = true)
    (hasKey : String → Modulus → Bool) (name : String) (q : Parsed)
    (h : matchName regexParts getattrMatchFn name.toList = some q) :
    getattrVolumeBase volumeBaseShape builtin regexParts getattrMatchFn getattrBranches hasKey name =
      .fallback (resolve regexParts getattrMatchFn getattrBranches hasKey name) := by
  obtain ⟨_, h1, _, _⟩ := calc_glue_accepted_names_reach_getattr name q h
  exact getattrOf_undefined _ _ _ _ h1 (accepted_not_builtin builtin hb name q h)

/-- `calc_glue_is_source_averages_read` about `getattr`: the reads `self.cIJ` / `self.sIJ` of the averaging properties are
`getattr(self, "cIJ")`, which is the dispatch — adiabatic stiffness, reported compliances — for all 36 index pairs and all dictionaries -/
theorem calc_glue_getattr_averages_read {β : Type} (builtin : String → Bool) (hb : ∀ n, builtin n = true → dunderLike n = true)
    (s : Stores β) (hkeys : s.keys = s.adiabatic.map (·.1)) (p : Int × Int) (hp : p ∈ allPairs) :
    getattrVolumeBaseValue volumeBaseShape builtin regexParts getattrMatchFn getattrBranches s ("c" ++ toString p.1 ++ toString p.2)
        = .fallback ((attrKey p.1 p.2).bind (find s.adiabatic)) ∧
    getattrVolumeBaseValue volumeBaseShape builtin regexParts getattrMatchFn getattrBranches s ("s" ++ toString p.1 ++ toString p.2)
        = .fallback ((attrKey p.1 p.2).bind (find s.compliances)) := by
  obtain ⟨h1, h2, _⟩ := names_IJ p hp
  obtain ⟨r1, r2⟩ := calc_glue_is_source_averages_read s hkeys p hp
  unfold getattrVolumeBaseValue
  rw [getattrOf_undefined _ _ _ _ (accepted_not_defined _ volumeBase_names_rejected _ _ h1) (accepted_not_builtin builtin hb _ _ h1),
    getattrOf_undefined _ _ _ _ (accepted_not_defined _ volumeBase_names_rejected _ _ h2) (accepted_not_builtin builtin hb _ _ h2), r1, r2]
  exact ⟨rfl, rfl⟩

/-- `calc_glue_compliance_names` about `getattr`: for every accepted name with prefix `s`, `getattr(volume_base, name)` raises
AttributeError for suffix `t` and returns the entry of `_compliances` under the canonical key otherwise -/
theorem calc_glue_getattr_compliance_names {β : Type} (builtin : String → Bool) (hb : ∀ n, builtin n = true → dunderLike n = true)
    (s : Stores β) (hasKey : String → Modulus → Bool) (name : String) (q : Parsed)
    (h : matchName regexParts getattrMatchFn name.toList = some q) (hs : q.pre = 's') :
    (q.suf = some 't' →
      getattrVolumeBase volumeBaseShape builtin regexParts getattrMatchFn getattrBranches hasKey name = .fallback .attributeError ∧
      getattrVolumeBaseValue volumeBaseShape builtin regexParts getattrMatchFn getattrBranches s name = .fallback none) ∧
    (q.suf ≠ some 't' →
      getattrVolumeBaseValue volumeBaseShape builtin regexParts getattrMatchFn getattrBranches s name
        = .fallback (find s.compliances (keyOfVoigt (canon (pairOfDigits q.digits))))) := by
  obtain ⟨_, h1, _, _⟩ := calc_glue_accepted_names_reach_getattr name q h
  have hbn := accepted_not_builtin builtin hb name q h
  obtain ⟨c1, c2⟩ := calc_glue_compliance_names s hasKey name q h hs
  unfold getattrVolumeBase getattrVolumeBaseValue
  rw [getattrOf_undefined _ _ _ _ h1 hbn, getattrOf_undefined _ _ _ _ h1 hbn]
  exact ⟨fun ht => ⟨by rw [(c1 ht).1], by rw [(c1 ht).2]⟩, fun ht => by rw [c2 ht]⟩

/-- **`getattr(pressure_base, name)`**: `CijPressureBaseInterface.__getattr__` forwards EVERY name that reaches it to
`getattr(self.calculator.volume_base, name)` and converts with `self.v2p` (`pressureGetattr`, extracted).  Which names reach it: an accepted
name always does, and then reaches `CijVolumeBaseInterface.__getattr__` too — the result is `v2p` of the dispatch; a name bound on the
volume interface but NOT on the pressure interface (in the translated source: `v_array`, `pressures`, see the example below) is `v2p` of that attribute of the volume
interface — `pressure_base.v_array` is `v2p(volume_base.v_array)`, a 1-D array handed to the (T, V)→(T, P) conversion; every name the
pressure interface binds itself (all nine explicit quantities among them, `calc_glue_explicit_quantities_defined`) never reaches the forwarder;
a name neither interface defines and outside the language raises the AttributeError of the volume interface -/
theorem calc_glue_getattr_pressure_base (builtin : String → Bool) (hb : ∀ n, builtin n = true → dunderLike n = true)
    (hasKey : String → Modulus → Bool) :
    pressureGetattr = ("volume_base", "v2p") ∧
    (∀ (name : String) (q : Parsed), matchName regexParts getattrMatchFn name.toList = some q →
      getattrPressureBase pressureBaseShape volumeBaseShape builtin regexParts getattrMatchFn getattrBranches hasKey name =
        .fallback (.fallback (resolve regexParts getattrMatchFn getattrBranches hasKey name))) ∧
    (∀ name : String, pressureBaseShape.always name = true ∨ builtin name = true →
      getattrPressureBase pressureBaseShape volumeBaseShape builtin regexParts getattrMatchFn getattrBranches hasKey name =
        .attribute name) ∧
    (∀ name : String, pressureBaseShape.defined name = false → builtin name = false → volumeBaseShape.always name = true →
      getattrPressureBase pressureBaseShape volumeBaseShape builtin regexParts getattrMatchFn getattrBranches hasKey name =
        .fallback (.attribute name)) ∧
    (∀ name : String, pressureBaseShape.defined name = false → builtin name = false → volumeBaseShape.defined name = false →
      matchName regexParts getattrMatchFn name.toList = none →
      getattrPressureBase pressureBaseShape volumeBaseShape builtin regexParts getattrMatchFn getattrBranches hasKey name =
        .fallback (.fallback .attributeError)) := by
  refine ⟨by decide, fun name q h => ?_, fun name hd => ?_, fun name h1 hbn h2 => ?_, fun name h1 hbn h2 hm => ?_⟩
  · obtain ⟨_, _, h1, _⟩ := calc_glue_accepted_names_reach_getattr name q h
    have hbn := accepted_not_builtin builtin hb name q h
    unfold getattrPressureBase
    rw [getattrOf_undefined _ _ _ _ h1 hbn, calc_glue_getattr_accepted builtin hb hasKey name q h]
  · unfold getattrPressureBase getattrOf
    rw [if_pos (by rcases hd with hd | hd <;> simp [hd])]
  · unfold getattrPressureBase
    rw [getattrOf_undefined _ _ _ _ h1 hbn]
    unfold getattrVolumeBase
    rw [getattrOf_always _ _ _ _ h2]
  · unfold getattrPressureBase
    rw [getattrOf_undefined _ _ _ _ h1 hbn]
    unfold getattrVolumeBase
    rw [getattrOf_undefined _ _ _ _ h2 hbn]
    unfold resolve
    rw [hm]

/-! #### `__init__`, wiring -/

/-- `Calculator.__init__`: the order of the calls; every attribute exists before it is read (through sibling properties and the
`__getattr__` delegation to `qha_calculator` as well); the cached `modulus_keys` is not read before the symmetry filling has added its
keys; which class each interface is; `write_output` hands `output[<name>]` to the interface of the same name -/
theorem calc_glue_is_source_init :
    callOrder initSteps = ["_load", "_apply_elastic_constants_symmetry", "_interpolate_modes", "_calculate_pressure_static",
      "_process_cij", "_calculate_compliances"] ∧
    initOk calcMethods calcDelegate initSteps [] = true ∧
    notReadBefore calcMethods "modulus_keys" "_apply_elastic_constants_symmetry" initSteps = true ∧
    initInterfaces = [("volume_based_result", "CijVolumeBaseInterface"), ("pressure_based_result", "CijPressureBaseInterface")] ∧
    interfaceProps = [("volume_base", "property", "volume_based_result"), ("pressure_base", "property", "pressure_based_result")] ∧
    (∀ e ∈ writeOutputDispatch, e.1 = e.2.1 ∧ e.2.2 = "write_variables") ∧ writeOutputPath = ["output"] := by
  decide +kernel

/-- the smaller pieces: `_process_cij` (adiabatic ↦ adiabatic, isothermal ↦ isothermal of `FullThermalElasticModulus`), static pressure
(order 3, both strains referred to `volumes[0]`, `−gradient/gradient` on `v_array`), `_interpolate_modes` (configuration paths;
`mode_gamma = [r₂, r₁, r₁²]` of the returned triple), symmetry filling skipped exactly for an absent system and `triclinic`,
`modulus_keys` a LazyProperty over `volumes[0]`, `dims` -/
theorem calc_glue_is_source_wiring :
    processCijHolder.2 = "FullThermalElasticModulus" ∧
    processCijWiring = [("modulus_adiabatic", "modulus_adiabatic"), ("modulus_isothermal", "modulus_isothermal")] ∧
    pressureStatic.defaultOrder = 3 ∧ pressureStatic.refNodes = 0 ∧ pressureStatic.refGrid = 0 ∧ pressureStatic.sign = -1 ∧
    pressureStatic.gridAttr = "v_array" ∧ pressureStatic.denomAttr = "v_array" ∧ pressureStatic.target = "static_p_array" ∧
    interpolateModes.methodPath = ["elast", "settings", "mode_gamma", "interpolator"] ∧
    interpolateModes.orderPath = ["elast", "settings", "mode_gamma", "order"] ∧
    interpolateModes.freqIdx = 0 ∧ interpolateModes.gamma = [(2, 1), (1, 1), (1, 2)] ∧
    (∀ system : Option String, symmetrySpec.fills system = (system ≠ none ∧ system ≠ some "triclinic")) ∧
    symmetrySpec.path = ["elast", "settings", "symmetry"] ∧ symmetrySpec.systemKey = "system" ∧
    modulusKeysSpec = ("LazyProperty", 0) ∧ dimsSpec = ("property", "t_array", "v_array") := by
  refine ⟨by decide, by decide, by decide, by decide, by decide, by decide, by decide, by decide, by decide, by decide,
    by decide, by decide, by decide, ?_, by decide, by decide, by decide, by decide⟩
  intro system
  simp only [SymmetrySpec.fills, symmetrySpec]
  rcases system with _ | s
  · simp
  · by_cases h : s = "triclinic" <;> simp [h]

/-! #### no shared state, no in-place writes; hence the order of reads cannot matter -/

open Cij.Memo Cij.LazyGraph in
/-- **read order cannot matter**: with no shared state and no in-place write, every property of `CijVolumeBaseInterface` is a pure function
of the object's inputs and of the properties it reads; on the property graph extracted NOW (whatever mix of `@property` and
`@LazyProperty` the source has; acyclicity certificate by kernel evaluation) the read-through-memo theorems of
`Lemmas/Memo.lean` / `Lemmas/MemoHistory.lean` (`history_sound`, `history_total`) give: for ANY two lists of earlier reads, the values a read of `p` sees are
the same -/
theorem calc_glue_read_order_free {β : Type} [Inhabited β] (f : String → List β → β) (before₁ before₂ : List String)
    (p : String) :
    NoSharedState ∧ NoInplace ∧ ranked volumeBaseDeps = true ∧
    ∃ vs₁ t₁ vs₂ t₂,
      history (defsOf volumeBaseDeps f) (fuelOf volumeBaseDeps)
        (before₁.flatMap (expandOp volumeBaseDeps) ++ expandOp volumeBaseDeps p) [] = some (vs₁, t₁) ∧
      history (defsOf volumeBaseDeps f) (fuelOf volumeBaseDeps)
        (before₂.flatMap (expandOp volumeBaseDeps) ++ expandOp volumeBaseDeps p) [] = some (vs₂, t₂) ∧
      vs₁.drop (before₁.flatMap (expandOp volumeBaseDeps)).length = vs₂.drop (before₂.flatMap (expandOp volumeBaseDeps)).length := by
  have hr : ranked volumeBaseDeps = true := by decide +kernel
  obtain ⟨vs₁, t₁, h₁, e₁⟩ := reads_history_free volumeBaseDeps hr f before₁ p
  obtain ⟨vs₂, t₂, h₂, e₂⟩ := reads_history_free volumeBaseDeps hr f before₂ p
  exact ⟨calc_glue_no_shared_state, calc_glue_no_inplace, hr, vs₁, t₁, vs₂, t₂, h₁, h₂, by rw [e₁, e₂]⟩

/-! #### non-vacuity for the glue theorems -/

/-- concrete names through the extracted pattern and dispatch (all keys present) -/
example :
    resolve regexParts getattrMatchFn getattrBranches (fun _ _ => true) "c12t" = .served "modulus_isothermal" (keyOfVoigt (1, 2)) ∧
    resolve regexParts getattrMatchFn getattrBranches (fun _ _ => true) "c21" = .served "modulus_adiabatic" (keyOfVoigt (1, 2)) ∧
    resolve regexParts getattrMatchFn getattrBranches (fun _ _ => true) "c_2311s\n" = .served "modulus_adiabatic" (keyOfVoigt (1, 4)) ∧
    resolve regexParts getattrMatchFn getattrBranches (fun _ _ => true) "s66s" = .served "_compliances" (keyOfVoigt (6, 6)) ∧
    resolve regexParts getattrMatchFn getattrBranches (fun _ _ => true) "s_1212t\n" = .attributeError ∧
    resolve regexParts getattrMatchFn getattrBranches (fun _ _ => false) "c11" = .attributeError := by decide

/-- … and names outside the language -/
example : ∀ n ∈ ["c17", "c123", "C11", "c11x", "c11\n\n", "c__11", "xc11", "c1", "", "c4444", "s11st"],
    resolve regexParts getattrMatchFn getattrBranches (fun _ _ => true) n = .attributeError := by decide

/-- the hypotheses of the any-order theorems: the example dictionary listed backwards -/
example : Keys exInp ∧ exInp.modAd.Perm ({ exInp with modAd := exInp.modAd.reverse } : Inputs ℝ).modAd :=
  ⟨orthoDict_keys _ _ _ _ _ _ _ _ _, (List.reverse_perm _).symm⟩

/-- the memo corollary is not about an empty graph only: on a table shaped like the one a caching refactor would produce (averages as
LazyProperty, Hill reading Reuss and Voigt) two orders of reads see the same values -/
example : (Cij.Memo.history (Cij.LazyGraph.defsOf (β := Int)
      [("bulk_modulus_reuss", true, []), ("bulk_modulus_voigt", true, []),
       ("bulk_modulus_voigt_reuss_hill", true, ["bulk_modulus_reuss", "bulk_modulus_voigt"])]
      (fun n vs => match n with | "bulk_modulus_reuss" => 3 | "bulk_modulus_voigt" => 5 | _ => vs.sum)) 4
      ["bulk_modulus_voigt_reuss_hill", "bulk_modulus_reuss", "bulk_modulus_voigt_reuss_hill"] []).map (·.1) = some [8, 3, 8] := by
  decide +kernel

/-- the `getattr` theorems are not vacuous: a `builtin` with the required spelling (the dunders of `object`), concrete names through `getattr` -/
example : (∀ n, (fun n => dunderLike n) n = true → dunderLike n = true) ∧
    getattrVolumeBase volumeBaseShape dunderLike regexParts getattrMatchFn getattrBranches (fun _ _ => true) "c_2311s\n"
      = .fallback (.served "modulus_adiabatic" (keyOfVoigt (1, 4))) ∧
    getattrVolumeBase volumeBaseShape dunderLike regexParts getattrMatchFn getattrBranches (fun _ _ => true) "bulk_modulus_voigt"
      = .attribute "bulk_modulus_voigt" ∧
    getattrVolumeBase volumeBaseShape dunderLike regexParts getattrMatchFn getattrBranches (fun _ _ => true) "calculator"
      = .attribute "calculator" ∧
    getattrVolumeBase volumeBaseShape dunderLike regexParts getattrMatchFn getattrBranches (fun _ _ => true) "__class__"
      = .attribute "__class__" ∧
    getattrVolumeBase volumeBaseShape dunderLike regexParts getattrMatchFn getattrBranches (fun _ _ => true) "volumes"
      = .fallback .attributeError ∧
    getattrPressureBase pressureBaseShape volumeBaseShape dunderLike regexParts getattrMatchFn getattrBranches (fun _ _ => true) "s12"
      = .fallback (.fallback (.served "_compliances" (keyOfVoigt (1, 2)))) ∧
    getattrPressureBase pressureBaseShape volumeBaseShape dunderLike regexParts getattrMatchFn getattrBranches (fun _ _ => true) "volumes"
      = .attribute "volumes" := by
  refine ⟨fun _ h => h, ?_⟩
  decide +kernel

/-- names the volume interface binds and the pressure interface does not — they reach the forwarder and are handed to `v2p` -/
example : "v_array" ∈ (volumeBaseShape.all.filter fun n => !pressureBaseShape.defined n) ∧
    "pressures" ∈ (volumeBaseShape.all.filter fun n => !pressureBaseShape.defined n) ∧
    getattrPressureBase pressureBaseShape volumeBaseShape dunderLike regexParts getattrMatchFn getattrBranches (fun _ _ => true) "v_array"
      = .fallback (.attribute "v_array") ∧
    getattrPressureBase pressureBaseShape volumeBaseShape dunderLike regexParts getattrMatchFn getattrBranches (fun _ _ => true) "nonsense"
      = .fallback (.fallback .attributeError) := by
  decide +kernel

/-- a shape with a LazyProperty: its cache attribute is state dependent -/
example : getattrOf (ρ := Outcome) ⟨["x"], ["calculator"], ["late"], ["_x"]⟩ (fun _ => false) (fun _ => .attributeError) "_x"
      = .stateDependent "_x" .attributeError ∧
    getattrOf (ρ := Outcome) ⟨["x"], ["calculator"], ["late"], ["_x"]⟩ (fun _ => false) (fun _ => .attributeError) "x" = .attribute "x" := by
  decide

end Cij.C07
