/-
  C06 — (T,V) → (T,P) conversion evaluates each quantity at the volume where P(T,V)=P.

  Every statement is about `CijModel/V2P.lean` (the functions the correspondence run executes at `Float`),
  here over an arbitrary linearly ordered field `α` (ℝ and ℚ are instances).

  Proved: the algebraic and the discrete content of the property —
    * the 4-point Lagrange rule is exact for every quantity that is a polynomial of degree ≤ 3 in P on the
      window (in particular the pressure field itself comes back as the requested pressures, and a quantity
      tabulated at a node pressure is returned unchanged),
    * the bisection brackets the requested pressure (loop invariant), also on the padded row used by `v2p`,
      and the bracket is the unique one when P increases strictly along the volume axis,
    * cij's range check accepts exactly the grids that stay below P(T, V_last) for every T,
    * every pressure-base quantity is the same `v2p` with the same pressure field and the same target grid.
  Not proved (numerical analysis about qha's scheme on arbitrary data; monitored by harness/c06.py):
    * the size of the interpolation error for quantities that are not cubic in P,
    * `P(T, V(T,P)) = P` and `V(T,P)` decreasing in P for isotherms along which V is NOT a cubic polynomial of P
      (`c06_volume_roundtrip_cubic`, `c06_volumes_tp_roundtrip_cubic`: exact whenever V is a polynomial of degree ≤ 3 in P
      along the isotherm — the model interpolates V over the abscissa P; `c06_volume_roundtrip_affine_partial` is the
      affine special case; `c06_roundtrip_inexact_for_cubic_in_V`: P an invertible cubic of V is NOT enough).
-/
import CijProofs.Lemmas.V2P
import Generated.PressureBaseSpec
import CijProofs.Lemmas.AdapterGuardSource
namespace Cij.C06

open Cij.V2P

section Lagrange
variable {α : Type} [Field α]

/-- The interpolation rule reproduces every polynomial of degree ≤ 3 in P, for pairwise distinct nodes. -/
theorem lagrange4_exact_cubic (a b c d x x0 x1 x2 x3 : α)
    (h01 : x0 ≠ x1) (h02 : x0 ≠ x2) (h03 : x0 ≠ x3) (h12 : x1 ≠ x2) (h13 : x1 ≠ x3) (h23 : x2 ≠ x3) :
    lagrange4 x x0 x1 x2 x3
      (a + b * x0 + c * x0 ^ 2 + d * x0 ^ 3) (a + b * x1 + c * x1 ^ 2 + d * x1 ^ 3)
      (a + b * x2 + c * x2 ^ 2 + d * x2 ^ 3) (a + b * x3 + c * x3 ^ 2 + d * x3 ^ 3)
      = a + b * x + c * x ^ 2 + d * x ^ 3 :=
  lagrange4_cubic a b c d x x0 x1 x2 x3 h01 h02 h03 h12 h13 h23

/-- … in particular the identity: interpolating the nodes' own abscissae returns the evaluation point. -/
theorem lagrange4_identity (x x0 x1 x2 x3 : α)
    (h01 : x0 ≠ x1) (h02 : x0 ≠ x2) (h03 : x0 ≠ x3) (h12 : x1 ≠ x2) (h13 : x1 ≠ x3) (h23 : x2 ≠ x3) :
    lagrange4 x x0 x1 x2 x3 x0 x1 x2 x3 = x := by
  have h := lagrange4_cubic 0 1 0 0 x x0 x1 x2 x3 h01 h02 h03 h12 h13 h23
  simpa using h

/-- At a node the tabulated value is returned (all four nodes). -/
theorem lagrange4_node (x0 x1 x2 x3 y0 y1 y2 y3 : α)
    (h01 : x0 ≠ x1) (h02 : x0 ≠ x2) (h03 : x0 ≠ x3) (h12 : x1 ≠ x2) (h13 : x1 ≠ x3) (h23 : x2 ≠ x3) :
    lagrange4 x0 x0 x1 x2 x3 y0 y1 y2 y3 = y0 ∧ lagrange4 x1 x0 x1 x2 x3 y0 y1 y2 y3 = y1 ∧
    lagrange4 x2 x0 x1 x2 x3 y0 y1 y2 y3 = y2 ∧ lagrange4 x3 x0 x1 x2 x3 y0 y1 y2 y3 = y3 := by
  -- at node `i` three of the four terms carry the factor `xᵢ - xᵢ`, and the remaining one is `a·b·c / a / b / c · yᵢ`
  have cancel : ∀ {a b c : α} (y : α), a ≠ 0 → b ≠ 0 → c ≠ 0 → a * b * c / a / b / c * y = y := by
    intro a b c y ha hb hc
    field_simp
  have s : ∀ {u v : α}, u ≠ v → u - v ≠ 0 := fun h => sub_ne_zero.mpr h
  unfold lagrange4
  simp only [sub_self, zero_mul, mul_zero, zero_div, add_zero, zero_add]
  exact ⟨cancel _ (s h01) (s h02) (s h03), cancel _ (s h01.symm) (s h12) (s h13),
    cancel _ (s h02.symm) (s h12.symm) (s h23), cancel _ (s h03.symm) (s h13.symm) (s h23.symm)⟩

example : lagrange4 (5 : ℚ) 1 2 4 7 (1 ^ 3) (2 ^ 3) (4 ^ 3) (7 ^ 3) = 5 ^ 3 := by
  norm_num [lagrange4]

end Lagrange

section Bisection
variable {α : Type} [LinearOrder α] [Zero α]

/-- Loop invariant of qha's bisection (any array, any value): started on `0 < n-1`, it returns `k < n-1`
    such that `k = 0 ∨ a[k] ≤ v` and `k+1 = n-1 ∨ v < a[k+1]`. -/
theorem findNearest_invariant (a : List α) (v : α) (hn : 2 ≤ a.length) :
    findNearest a v + 1 < a.length ∧
    (findNearest a v = 0 ∨ nth a (findNearest a v) ≤ v) ∧
    (findNearest a v + 1 = a.length - 1 ∨ v < nth a (findNearest a v + 1)) := by
  rw [findNearest_eq_bisect]
  obtain ⟨_, h2, h3, h4⟩ := bisect_inv a v 0 (a.length - 1) (by omega)
  exact ⟨by omega, h3, h4⟩

/-- For a target inside the tabulated range the returned index brackets it: `x_k ≤ p < x_{k+1}`.
    (In qha the volumes decrease with the index, so the pressures *increase* with it; monotonicity is not even
    needed for the bracket, only for its uniqueness below.) -/
theorem findNearest_brackets (a : List α) (v : α) (hn : 2 ≤ a.length)
    (h0 : nth a 0 ≤ v) (h1 : v < nth a (a.length - 1)) :
    findNearest a v + 1 < a.length ∧
    nth a (findNearest a v) ≤ v ∧ v < nth a (findNearest a v + 1) := by
  obtain ⟨hk, h3, h4⟩ := findNearest_invariant a v hn
  refine ⟨hk, ?_, ?_⟩
  · rcases h3 with h3 | h3
    · rw [h3]; exact h0
    · exact h3
  · rcases h4 with h4 | h4
    · rw [h4]; exact h1
    · exact h4

/-- With strictly increasing pressures the bracket is unique: the bisection returns *the* interval. -/
theorem findNearest_unique (a : List α) (v : α) (hn : 2 ≤ a.length) (hs : StrictIncr a)
    (h0 : nth a 0 ≤ v) (h1 : v < nth a (a.length - 1))
    (j : Nat) (hj : j + 1 < a.length) (hjl : nth a j ≤ v) (hju : v < nth a (j + 1)) :
    j = findNearest a v := by
  obtain ⟨hk, hl, hu⟩ := findNearest_brackets a v hn h0 h1
  by_contra hne
  rcases Nat.lt_or_gt_of_ne hne with h | h
  · -- j + 1 ≤ k : a[j+1] ≤ a[k] ≤ v < a[j+1]
    have := hs.le (i := j + 1) (j := findNearest a v) (by omega) (by omega)
    exact absurd (lt_of_le_of_lt (le_trans this hl) hju) (lt_irrefl _)
  · have := hs.le (i := findNearest a v + 1) (j := j) (by omega) (by omega)
    exact absurd (lt_of_le_of_lt (le_trans this hjl) hu) (lt_irrefl _)

/-- The clamping statements in front of the loop are consistent with the loop (whose result overwrites
    them): for strictly increasing arrays a value at or below the first entry gives 0, a value at or above
    the last entry gives `n-2`. -/
theorem findNearest_clamp_consistent (a : List α) (v : α) (hn : 2 ≤ a.length) (hs : StrictIncr a)
    (hout : v ≤ nth a 0 ∨ nth a (a.length - 1) ≤ v) (hne : nth a 0 < nth a (a.length - 1)) :
    findNearest a v = clamp a v := by
  obtain ⟨hk, h3, h4⟩ := findNearest_invariant a v hn
  unfold clamp
  rcases hout with h | h
  · rw [if_pos h]
    rcases h3 with h3 | h3
    · exact h3
    · by_contra hk0
      have := hs 0 (findNearest a v) (by omega) (by omega)
      exact absurd (lt_of_lt_of_le this (le_trans h3 h)) (lt_irrefl _)
  · have hn0 : ¬ v ≤ nth a 0 := not_le.mpr (lt_of_lt_of_le hne h)
    rw [if_neg hn0, if_pos h]
    rcases h4 with h4 | h4
    · omega
    · have := hs.le (i := findNearest a v + 1) (j := a.length - 1) (by omega) (by omega)
      exact absurd (lt_of_lt_of_le h4 (le_trans this h)) (lt_irrefl _)

/-- On the padded row that `v2p` searches (`[p₃, p₀ … p_{n-1}, p_{n-4}]`) the returned index `k` satisfies
    `1 ≤ k ≤ n-1` and, in terms of the *original* row, `p_{k-1} ≤ v < p_k`: no off-by-one in the bracket, and
    the padding entries are never the bracket. -/
theorem findNearest_padded_brackets (p : List α) (v : α) (hn : 4 ≤ p.length)
    (h0 : nth p 0 ≤ v) (h1 : v < nth p (p.length - 1)) :
    1 ≤ findNearest (extend p) v ∧ findNearest (extend p) v + 1 ≤ p.length ∧
    nth p (findNearest (extend p) v - 1) ≤ v ∧ v < nth p (findNearest (extend p) v) := by
  obtain ⟨hk1, hk2, hl, hu⟩ := findNearest_extend p v hn h0 h1
  refine ⟨hk1, hk2, ?_, ?_⟩
  · rw [nth_extend p _ (by omega)] at hl
    rwa [extIdx_mid _ _ hk1 (by omega)] at hl
  · rw [nth_extend p _ (by omega)] at hu
    rwa [extIdx_mid _ _ (by omega) (by omega)] at hu

example : findNearest (extend [(-1 : ℚ), 0, 2, 5, 9]) 3 = 3 ∧ findNearest [(-1 : ℚ), 0, 2, 5, 9] 3 = 2 := by
  decide +kernel

end Bisection

section Conversion
variable {α : Type} [Field α] [LinearOrder α]

/-- Along one isotherm with strictly increasing pressures (≥ 4 volumes) every quantity that is a cubic
    polynomial in P is converted *exactly*, for every requested pressure inside the tabulated range —
    including the two end intervals, where the window is the padded one. -/
theorem c06_v2p_exact_cubic (a b c d : α) (p desired : List α) (hn : 4 ≤ p.length) (hs : StrictIncr p)
    (hin : ∀ x ∈ desired, nth p 0 ≤ x ∧ x < nth p (p.length - 1)) :
    v2pRow (p.map fun x => a + b * x + c * x ^ 2 + d * x ^ 3) p desired
      = .ok (desired.map fun x => a + b * x + c * x ^ 2 + d * x ^ 3) := by
  unfold v2pRow
  have hlen : ¬ ((p.map fun x => a + b * x + c * x ^ 2 + d * x ^ 3).length < 4 ∨ p.length < 4) := by
    simp only [List.length_map]; omega
  rw [if_neg hlen]
  apply mapM_ok
  intro x hx
  obtain ⟨h0, h1⟩ := hin x hx
  obtain ⟨hk1, hk2, _, _⟩ := findNearest_extend p x hn h0 h1
  unfold v2pPoint
  rw [extend_map _ p hn]
  simp only [List.length_map, length_extend]
  set k := findNearest (extend p) x with hk
  have hcond : 1 ≤ k ∧ k + 3 ≤ p.length + 2 ∧ k + 3 ≤ p.length + 2 := ⟨hk1, by omega, by omega⟩
  rw [if_pos hcond]
  have hl : (extend p).length = p.length + 2 := length_extend p
  rw [nth_map _ _ (k - 1) (by omega), nth_map _ _ k (by omega), nth_map _ _ (k + 1) (by omega),
    nth_map _ _ (k + 2) (by omega)]
  obtain ⟨d01, d02, d03, d12, d13, d23⟩ := hs.window_ne hn hk1 hk2
  congr 1
  exact lagrange4_cubic a b c d x _ _ _ _ d01 d02 d03 d12 d13 d23

/-- "Converting the pressure field itself returns the requested pressures": `v2p(P_tv, P_tv, p) = p` in every
    row, for all isotherms with strictly increasing pressures and all requested pressures inside the range. -/
theorem c06_pressure_field_returns_requested (P : List (List α)) (desired : List α)
    (hrow : ∀ p ∈ P, 4 ≤ p.length ∧ StrictIncr p ∧ ∀ x ∈ desired, nth p 0 ≤ x ∧ x < nth p (p.length - 1)) :
    v2p P P desired = .ok (P.map fun _ => desired) := by
  unfold v2p
  rw [if_neg (lt_irrefl _)]
  have : ∀ fp ∈ P.zip P, v2pRow fp.1 fp.2 desired = .ok ((fun _ => desired) fp) := by
    intro fp hfp
    have h12 : fp.1 = fp.2 := by
      have := List.of_mem_zip hfp
      rcases List.mem_iff_getElem.mp hfp with ⟨i, hi, rfl⟩
      simp
    obtain ⟨hn, hs, hin⟩ := hrow fp.2 (List.of_mem_zip hfp).2
    have h := c06_v2p_exact_cubic 0 1 0 0 fp.2 desired hn hs hin
    simp only [zero_add, one_mul, zero_mul, add_zero, List.map_id'] at h
    rw [h12]; exact h
  rw [mapM_ok _ _ _ this]
  congr 1
  clear this hrow
  induction P with
  | nil => rfl
  | cons a t ih => simp only [List.zip_cons_cons, List.map_cons, ih]

/-- At a node pressure the tabulated value of *any* quantity is returned (no polynomial assumption):
    for `0 ≤ i < n-1`, `v2p` at `P = p_i` gives `f_i`. -/
theorem c06_v2p_node (f p : List α) (i : Nat) (hn : 4 ≤ p.length) (hf : f.length = p.length)
    (hs : StrictIncr p) (hi : i + 1 < p.length) :
    v2pPoint (extend f) (extend p) (nth p i) = .ok (nth f i) := by
  have h0 : nth p 0 ≤ nth p i := hs.le (Nat.zero_le _) (by omega)
  have h1 : nth p i < nth p (p.length - 1) := hs i (p.length - 1) (by omega) (by omega)
  obtain ⟨hk1, hk2, hl, hu⟩ := findNearest_padded_brackets p (nth p i) hn h0 h1
  unfold v2pPoint
  set k := findNearest (extend p) (nth p i) with hk
  -- the bracket p_{k-1} ≤ p_i < p_k pins k = i + 1
  have hki : k = i + 1 := by
    by_contra hne
    rcases Nat.lt_or_gt_of_ne hne with h | h
    · have := hs.le (i := k) (j := i) (by omega) (by omega)
      exact absurd (lt_of_lt_of_le hu this) (lt_irrefl _)
    · have := hs i (k - 1) (by omega) (by omega)
      exact absurd (lt_of_lt_of_le this hl) (lt_irrefl _)
  have hcond : 1 ≤ k ∧ k + 3 ≤ (extend p).length ∧ k + 3 ≤ (extend f).length := by
    rw [length_extend, length_extend, hf]; omega
  rw [if_pos hcond]
  obtain ⟨d01, d02, d03, d12, d13, d23⟩ := hs.window_ne hn hk1 hk2
  have hidx : extIdx p.length k = i := by
    rw [extIdx_mid _ _ hk1 (by omega)]
    omega
  have e1 : nth (extend p) k = nth p i := by rw [nth_extend p _ (by omega), hidx]
  have e1f : nth (extend f) k = nth f i := by rw [nth_extend f _ (by omega), hf, hidx]
  congr 1
  rw [← e1, e1f.symm]
  exact (lagrange4_node _ _ _ _ _ _ _ _ d01 d02 d03 d12 d13 d23).2.1

/- Full statement of the round-trip clause (NOT proved — numerical analysis, monitored by the harness):
     for every isotherm P(T,·) produced by qha and every requested P inside the range,
     |P(T, V(T,P)) − P| ≤ C·h⁴·max|∂⁴V/∂P⁴| and V(T,·) is strictly decreasing.
   Proved part: when P is affine in V along the isotherm (P = s + r·V, r ≠ 0), the reported volume
   `v2p(V, P_tv, p)` is exactly the volume at which the pressure equals the requested one, and it decreases
   with P when r < 0. -/
theorem c06_volume_roundtrip_affine_partial (r s : α) (hr : r ≠ 0) (p desired : List α) (hn : 4 ≤ p.length)
    (hs : StrictIncr p) (hin : ∀ x ∈ desired, nth p 0 ≤ x ∧ x < nth p (p.length - 1)) :
    -- the volumes of the grid points, recovered from P = s + r V
    ∃ vtp, v2pRow (p.map fun x => (x - s) / r) p desired = .ok vtp ∧
      vtp.map (fun v => s + r * v) = desired := by
  have h := c06_v2p_exact_cubic (-s / r) (1 / r) 0 0 p desired hn hs hin
  have e : (fun x : α => -s / r + 1 / r * x + 0 * x ^ 2 + 0 * x ^ 3) = fun x => (x - s) / r := by
    funext x; field_simp; ring
  rw [e] at h
  refine ⟨_, h, map_map_eq_self fun x _ => ?_⟩
  field_simp
  ring

/-- **Round trip, cubic case.**  `Pf` is the isotherm `V ↦ P(T, V)` (ANY function), `vs` the volume grid, so the tabulated
    pressures are `vs.map Pf` (strictly increasing along the grid, ≥ 4 volumes).  If along this isotherm the volume is a
    polynomial of degree ≤ 3 of the pressure — `g(P) = a + bP + cP² + dP³` with `g(Pf v) = v` at the grid volumes and
    `Pf (g x) = x` at the requested pressures (`g` is the inverse function of the isotherm there) — then for every requested
    pressure inside the tabulated range the reported volume `v2p(V, P_tv, p)` is EXACTLY `g(p)`, i.e. the volume at which the
    pressure equals the requested one: `P(T, V(T,P)) = P`.
    This is the exactness class of the scheme: `v2p` interpolates the ordinate (here V) over the ABSCISSA P by the 4-point
    Lagrange rule, which reproduces cubics in P (`c06_v2p_exact_cubic`). -/
theorem c06_volume_roundtrip_cubic (a b c d : α) (Pf : α → α) (vs desired : List α) (hn : 4 ≤ vs.length)
    (hs : StrictIncr (vs.map Pf))
    (hgrid : ∀ v ∈ vs, a + b * Pf v + c * Pf v ^ 2 + d * Pf v ^ 3 = v)
    (hinv : ∀ x ∈ desired, Pf (a + b * x + c * x ^ 2 + d * x ^ 3) = x)
    (hin : ∀ x ∈ desired, nth (vs.map Pf) 0 ≤ x ∧ x < nth (vs.map Pf) ((vs.map Pf).length - 1)) :
    ∃ vtp, v2pRow vs (vs.map Pf) desired = .ok vtp ∧
      vtp = desired.map (fun x => a + b * x + c * x ^ 2 + d * x ^ 3) ∧ vtp.map Pf = desired := by
  have hvs : (vs.map Pf).map (fun x => a + b * x + c * x ^ 2 + d * x ^ 3) = vs := map_map_eq_self hgrid
  have h := c06_v2p_exact_cubic a b c d (vs.map Pf) desired (by simpa using hn) hs hin
  rw [hvs] at h
  exact ⟨_, h, rfl, map_map_eq_self hinv⟩

/-- … and the reported volumes decrease with the requested pressure whenever the inverse isotherm `g` does (requested
    pressures in increasing order, as `desired_pressures` are) -/
theorem c06_volume_decreasing_cubic (a b c d : α) (Pf : α → α) (vs desired vtp : List α) (hn : 4 ≤ vs.length)
    (hs : StrictIncr (vs.map Pf))
    (hgrid : ∀ v ∈ vs, a + b * Pf v + c * Pf v ^ 2 + d * Pf v ^ 3 = v)
    (hin : ∀ x ∈ desired, nth (vs.map Pf) 0 ≤ x ∧ x < nth (vs.map Pf) ((vs.map Pf).length - 1))
    (hanti : ∀ x ∈ desired, ∀ y ∈ desired, x < y →
      a + b * y + c * y ^ 2 + d * y ^ 3 < a + b * x + c * x ^ 2 + d * x ^ 3)
    (hsorted : desired.Pairwise (· < ·)) (hv : v2pRow vs (vs.map Pf) desired = .ok vtp) :
    vtp.Pairwise (· > ·) := by
  have hvs : (vs.map Pf).map (fun x => a + b * x + c * x ^ 2 + d * x ^ 3) = vs := map_map_eq_self hgrid
  have h := c06_v2p_exact_cubic a b c d (vs.map Pf) desired (by simpa using hn) hs hin
  rw [hvs, hv] at h
  injection h with h
  subst h
  rw [List.pairwise_map]
  exact hsorted.imp_of_mem fun hx hy hxy => hanti _ hx _ hy hxy

/-- the same for the quantity cij reports, `pressure_base.volumes` = `volumesTp` (all temperatures): isotherm `i` is the
    function `I.1`, its inverse on the requested pressures the cubic with coefficients `I.2` -/
theorem c06_volumes_tp_roundtrip_cubic (q : Qha α) (isos : List ((α → α) × α × α × α × α)) (hn : 4 ≤ q.vArray.length)
    (hP : q.pressuresAu = isos.map fun I => q.vArray.map I.1)
    (hrow : ∀ I ∈ isos, StrictIncr (q.vArray.map I.1) ∧
      (∀ v ∈ q.vArray, I.2.1 + I.2.2.1 * I.1 v + I.2.2.2.1 * I.1 v ^ 2 + I.2.2.2.2 * I.1 v ^ 3 = v) ∧
      (∀ x ∈ q.pArrayAu, I.1 (I.2.1 + I.2.2.1 * x + I.2.2.2.1 * x ^ 2 + I.2.2.2.2 * x ^ 3) = x) ∧
      ∀ x ∈ q.pArrayAu, nth (q.vArray.map I.1) 0 ≤ x ∧ x < nth (q.vArray.map I.1) ((q.vArray.map I.1).length - 1)) :
    volumesTp q = .ok (isos.map fun I =>
        q.pArrayAu.map fun x => I.2.1 + I.2.2.1 * x + I.2.2.2.1 * x ^ 2 + I.2.2.2.2 * x ^ 3) ∧
      ∀ I ∈ isos, (q.pArrayAu.map fun x => I.2.1 + I.2.2.1 * x + I.2.2.2.1 * x ^ 2 + I.2.2.2.2 * x ^ 3).map I.1
        = q.pArrayAu := by
  constructor
  · unfold volumesTp v2p
    rw [if_neg (by simp)]
    rw [hP, List.map_map, List.zip_map']
    have hm : ∀ I ∈ isos, (fun fp : List α × List α => v2pRow fp.1 fp.2 q.pArrayAu)
          (((fun _ => q.vArray) ∘ fun I : (α → α) × α × α × α × α => q.vArray.map I.1) I, q.vArray.map I.1) =
        .ok (q.pArrayAu.map fun x => I.2.1 + I.2.2.1 * x + I.2.2.2.1 * x ^ 2 + I.2.2.2.2 * x ^ 3) := by
      intro I hI
      obtain ⟨h1, h2, h3, h4⟩ := hrow I hI
      obtain ⟨vtp, hv, he, _⟩ := c06_volume_roundtrip_cubic I.2.1 I.2.2.1 I.2.2.2.1 I.2.2.2.2 I.1 q.vArray q.pArrayAu hn
        h1 h2 h3 h4
      simp only [Function.comp]
      rw [hv, he]
    rw [List.mapM_map]
    exact mapM_ok _ _ _ hm
  · intro I hI
    exact map_map_eq_self (hrow I hI).2.2.1

/-- **What is NOT exact**: an isotherm whose PRESSURE is an invertible cubic of the volume (here `P = (6 − V)³`, strictly
    decreasing; five volumes 5 … 1, pressures 1, 8, 27, 64, 125).  `V` is then the cube root of an affine function of `P`,
    not a cubic in `P`, and the composed rule does not invert the isotherm: at the requested pressures 2, 10, 30, 100 the
    reported volumes give back the pressures 1.605…, 10.77…, 30.40…, 90.64…  The error is the interpolation error of
    `P ↦ V(T,P)` on the tabulated mesh (4th divided difference × node polynomial), monitored by the harness. -/
theorem c06_roundtrip_inexact_for_cubic_in_V :
    let Pf : ℚ → ℚ := fun v => (6 - v) ^ 3
    let vs : List ℚ := [5, 4, 3, 2, 1]
    vs.map Pf = [1, 8, 27, 64, 125] ∧
    v2pRow vs (vs.map Pf) [2, 10, 30, 100]
      = .ok [4325091 / 895622, 3395647 / 895622, 8278243 / 2875418, 41193221 / 27316471] ∧
    ([4325091 / 895622, 3395647 / 895622, 8278243 / 2875418, 41193221 / 27316471] : List ℚ).map Pf
      = [1153135922665238721 / 718413126674181848, 7739891078293764125 / 718413126674181848,
         722764259792036059625 / 23774038475817534632, 1847537249265764889320125 / 20383266238204058755111] ∧
    ∀ x ∈ ([4325091 / 895622, 3395647 / 895622, 8278243 / 2875418, 41193221 / 27316471] : List ℚ).zip [2, 10, 30, 100],
      Pf x.1 ≠ x.2 := by
  decide +kernel

/-- the situation of `c06_volume_roundtrip_cubic`, evaluated: along the isotherm `V = 10 − P³/8` (so `P = 2·∛(10 − V)`, here given on ℚ
    only through its values at the six volumes that occur), pressures 0 … 4 at the volumes 10, 79/8, 9, 53/8, 2; requested
    pressures 1/2 ↦ 639/64 = 10 − (1/2)³/8 and 3 ↦ 53/8 -/
example : v2pRow [(10 : ℚ), 79 / 8, 9, 53 / 8, 2] [0, 1, 2, 3, 4] [1 / 2, 3] = .ok [639 / 64, 53 / 8] ∧
    (10 : ℚ) - (1 / 2) ^ 3 / 8 = 639 / 64 := by decide +kernel

example : v2pRow [(10 : ℚ), 8, 6, 4, 2] [0, 1, 2, 3, 4] [0, 1/2, 5/2, 7/2] = .ok [10, 9, 5, 3] := by
  decide +kernel

/-- a row too short for the padding is an error, as in Python (`x[:, 3]` raises IndexError) -/
example : v2pRow [(1 : ℚ), 2, 3] [0, 1, 2] [1/2] = .error .indexError := by decide +kernel

/-- a requested pressure at or above the last tabulated one makes the 4-slice too short (ValueError in the
    unpacking) — the situation the range check exists to prevent -/
example : v2pRow [(10 : ℚ), 8, 6, 4, 2] [0, 1, 2, 3, 4] [4] = .error .valueError := by decide +kernel

end Conversion

section RangeCheck
variable {α : Type} [Field α] [LinearOrder α]

/-- Accepted ⇒ every requested pressure is ≤ P(T, V_last) for every T: nothing is extrapolated above. -/
theorem status_accept_in_range (pTvGpa : List (List α)) (desired : List α)
    (h : desiredPressureStatus pTvGpa desired = .ok ()) :
    ∀ row ∈ pTvGpa, ∀ x ∈ desired, x ≤ row.getLastD 0 := by
  unfold desiredPressureStatus at h
  split_ifs at h with hemp
  cases hlo : listMin (lastColumn pTvGpa) with
  | none => rw [hlo] at h; simp at h
  | some lo =>
    cases hhi : listMax desired with
    | none => rw [hlo, hhi] at h; simp at h
    | some hi =>
      rw [hlo, hhi] at h
      simp only at h
      split_ifs at h with hlt
      exact (not_min_lt_max_iff hlo hhi).mp hlt

/-- Overshooting grid ⇒ ValueError: if some requested pressure exceeds P(T, V_last) for some T, the check
    raises (rows non-empty as produced by qha). -/
theorem status_reject_overshoot (pTvGpa : List (List α)) (desired : List α)
    (hne : ∀ row ∈ pTvGpa, row ≠ [])
    (h : ∃ row ∈ pTvGpa, ∃ x ∈ desired, row.getLastD 0 < x) :
    desiredPressureStatus pTvGpa desired = .error .valueError := by
  obtain ⟨row, hrow, x, hx, hlt⟩ := h
  obtain ⟨lo, hlo⟩ := listMin_isSome (l := lastColumn pTvGpa) (List.ne_nil_of_mem (List.mem_map.mpr ⟨row, hrow, rfl⟩))
  obtain ⟨hi, hhi⟩ := listMax_isSome (List.ne_nil_of_mem hx)
  rw [status_of_rows_ne _ _ hne, hlo, hhi]
  refine if_pos (not_not.mp fun hc => ?_)
  exact absurd ((not_min_lt_max_iff hlo hhi).mp hc row hrow x hx) (not_le.mpr hlt)

/-- The same in terms of the settings, for all `P_MIN`, `DELTA_P`, `NTV`: the grid
    `P_MIN + DELTA_P·n (n < NTV)` is accepted iff all of it lies at or below `P(T, V_last)` for all T. -/
theorem status_iff_settings (pTvGpa : List (List α)) (pMin dP : α) (ntv : Nat)
    (hne : ∀ row ∈ pTvGpa, row ≠ []) (hnt : pTvGpa ≠ []) (hntv : 0 < ntv) :
    desiredPressureStatus pTvGpa (desiredPressuresGpa pMin dP ntv) = .ok () ↔
      ∀ row ∈ pTvGpa, ∀ n < ntv, pMin + dP * (n : α) ≤ row.getLastD 0 := by
  obtain ⟨row0, hrow0⟩ := List.exists_mem_of_ne_nil _ hnt
  obtain ⟨lo, hlo⟩ := listMin_isSome (l := lastColumn pTvGpa) (List.ne_nil_of_mem (List.mem_map.mpr ⟨row0, hrow0, rfl⟩))
  obtain ⟨hi, hhi⟩ := listMax_isSome (l := desiredPressuresGpa pMin dP ntv)
    (List.ne_nil_of_mem (List.mem_map.mpr ⟨0, List.mem_range.mpr hntv, rfl⟩))
  have hgrid : (∀ row ∈ pTvGpa, ∀ x ∈ desiredPressuresGpa pMin dP ntv, x ≤ row.getLastD 0) ↔
      ∀ row ∈ pTvGpa, ∀ n < ntv, pMin + dP * (n : α) ≤ row.getLastD 0 := by
    simp only [desiredPressuresGpa, List.forall_mem_map, List.mem_range]
  rw [status_of_rows_ne _ _ hne, hlo, hhi, ← hgrid, ← not_min_lt_max_iff hlo hhi]
  by_cases hlt : lo < hi
  · simp [hlt]
  · simp [hlt]

example : desiredPressureStatus [[(-3 : ℚ), 10, 40], [-1, 12, 38]] (desiredPressuresGpa 0 2 20) = .ok () ∧
          desiredPressureStatus [[(-3 : ℚ), 10, 40], [-1, 12, 38]] (desiredPressuresGpa 0 2 21)
            = .error .valueError := by
  decide +kernel

/-- **pressure_guard_is_source.**  The range check of the model is the meaning of the `if` test that
`QHACalculator.desired_pressure_status` contains NOW (translated on this run into `Generated.pressureGuard`: which field, which
column, which reduction on either side, the comparison operator, the exception), for every table and every requested grid. -/
theorem pressure_guard_is_source (pTvGpa : List (List α)) (desired : List α) :
    Cij.AdapterGuardSource.evalGuard Generated.pressureGuard pTvGpa desired = some (desiredPressureStatus pTvGpa desired) :=
  Cij.AdapterGuardSource.desiredPressureStatus_is_source pTvGpa desired

/-- … hence the two clauses above hold of the guard as written: a grid the translated guard accepts stays at or below
P(T, V_last) for every T … -/
theorem source_guard_accept_in_range (pTvGpa : List (List α)) (desired : List α)
    (h : Cij.AdapterGuardSource.evalGuard Generated.pressureGuard pTvGpa desired = some (.ok ())) :
    ∀ row ∈ pTvGpa, ∀ x ∈ desired, x ≤ row.getLastD 0 := by
  rw [pressure_guard_is_source] at h
  exact status_accept_in_range pTvGpa desired (Option.some.inj h)

/-- … and a non-empty grid that stays at or below P(T, V_last) for every T is NOT refused by the guard as written (no
off-by-one margin: a requested pressure equal to the smallest last-column pressure is still accepted). -/
theorem source_guard_accepts_in_range (pTvGpa : List (List α)) (desired : List α)
    (hne : ∀ row ∈ pTvGpa, row ≠ []) (hp : pTvGpa ≠ []) (hd : desired ≠ [])
    (h : ∀ row ∈ pTvGpa, ∀ x ∈ desired, x ≤ row.getLastD 0) :
    Cij.AdapterGuardSource.evalGuard Generated.pressureGuard pTvGpa desired = some (.ok ()) := by
  obtain ⟨row0, hrow0⟩ := List.exists_mem_of_ne_nil _ hp
  obtain ⟨lo, hlo⟩ := listMin_isSome (l := lastColumn pTvGpa) (List.ne_nil_of_mem (List.mem_map.mpr ⟨row0, hrow0, rfl⟩))
  obtain ⟨hi, hhi⟩ := listMax_isSome hd
  rw [pressure_guard_is_source, status_of_rows_ne _ _ hne, hlo, hhi]
  exact congrArg some (if_neg ((not_min_lt_max_iff hlo hhi).mpr h))

/-- **adapter_load_order_is_source.**  `_load_qha_calculator` hands the file to qha, refines the volume grid and applies the
guard last (on the refined grid), then returns that calculator: the order translated from the source on this run. -/
theorem adapter_load_order_is_source :
    Generated.adapterLoadCalls = [("read_input", "qha_input"), ("refine_grid", ""), ("desired_pressure_status", "")] :=
  Cij.AdapterGuardSource.load_order_is_source

end RangeCheck

section Wiring
variable {α : Type} [Field α] [LinearOrder α]

/-- Every pressure-base quantity is `v2p` of the volume-base quantity *of the same name*, with one and the
    same pressure field (`qha volume_base.pressures`, atomic units) and one and the same target grid
    (`qha pressure_base.p_array`, atomic units): named properties, `__getattr__` names (c11, c11s, c11t, s12 …),
    and the two modulus dictionaries. -/
theorem pressure_base_is_v2p_of_volume_base (q : Qha α) (volumeBase : String → Option (List (List α)))
    (name : String) (f : List (List α)) (hname : name ≠ "volumes") (hf : volumeBase name = some f) :
    pressureBase q volumeBase name = v2p f q.pressuresAu q.pArrayAu := by
  unfold pressureBase
  have h1 : (name == "volumes") = false := by simpa using hname
  simp only [h1, Bool.false_eq_true, if_false]
  have hsrc : sourceAttribute name = name := by
    unfold sourceAttribute
    cases hl : namedProperties.lookup name with
    | none => rfl
    | some s =>
      have hmem : (name, s) ∈ namedProperties := by
        obtain ⟨l1, l2, he, _⟩ := List.lookup_eq_some_iff.mp hl
        rw [he]; simp
      exact (namedProperties_diag _ hmem).symm
  rw [hsrc, hf]
  rfl

theorem pressure_base_modulus_is_v2p (q : Qha α) (modulus : String → Option (List (List α)))
    (key : String) (f : List (List α)) (hf : modulus key = some f) :
    pressureBaseModulus q modulus key = v2p f q.pressuresAu q.pArrayAu := by
  unfold pressureBaseModulus
  rw [hf]; rfl

/-- the reported volume `V(T,P)` is the same conversion applied to the volume grid itself -/
theorem pressure_base_volumes_is_v2p (q : Qha α) (volumeBase : String → Option (List (List α))) :
    pressureBase q volumeBase "volumes" = v2p (q.pressuresAu.map fun _ => q.vArray) q.pressuresAu q.pArrayAu := by
  unfold pressureBase volumesTp
  simp

end Wiring

/-- **model-is-source** for the named properties of `CijPressureBaseInterface`: the list `(property, volume-base attribute it
converts)` of the model is the one the translator extracts from `calculator.py` on this run, and every property converts the
attribute of its own name (so `pressure_base.x = v2p(volume_base.x)` for all eight, and by `__getattr__` for every other name). -/
theorem pressure_base_props_are_source :
    V2P.namedProperties = Generated.pressureBaseV2pProps ∧ (∀ e ∈ Generated.pressureBaseV2pProps, e.1 = e.2) ∧
    Generated.pressureBaseModulusProps = [("modulus_adiabatic", "modulus_adiabatic"), ("modulus_isothermal", "modulus_isothermal")] :=
  ⟨rfl, namedProperties_diag, rfl⟩

end Cij.C06
