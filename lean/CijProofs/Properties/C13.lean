/-
  C13 — results do not depend on how the same physical data are presented.

  The statements are about the SAME model functions the correspondence runs of C01/C02 (`CijModel/NonShear.lean`),
  C11 (`CijModel/Interp.lean`), C05 (`CijModel/LeastSq.lean`, `CijModel/FullModulus.lean`) and C17
  (`CijModel/ElastDat.lean`) execute against the real code; "listed in another order" is `List.Perm`.

  1  `avg_perm_q`, `avg_perm_q_point`, `values_perm_q`
                                             non-Γ q-points listed in another order together with their weights
  2  `avg_perm_modes`, `avg_perm_modes_gamma_slots`, `avg_perm_modes_point`, `values_perm_modes`
                                             modes listed in another order inside a q-point (Γ: the three acoustic slots stay)
  3  `avg_weight_scale`, `avg_weight_scale_point`, `values_weight_scale`   all weights times a common factor c ≠ 0
     (`…_point`: the five quantities the longitudinal / off-diagonal classes compute at one (T, V) point, any prefactors;
      `values_…`: their `value_isothermal` / `value_adiabatic`)
  4  `interp_perm_equivariant`, `interp_perm_equivariant_total`, `interp_perm_gamma_zero`
                                             the per-(q,m) interpolation loop commutes with re-indexing (q,m); one presentation
                                             returns iff the other does (`interp_perm_error_may_differ`: the exception itself
                                             may be another one — the first failing cell in loop order differs)
  5  `lsq_row_perm`, `polyfit_row_perm`, `fit_modulus_row_perm`   least squares does not see the order of the rows
  6  `lsq_affine_abscissa`, `lsq_unique`, `solvers_certified`, `eulerian_reference_affine`, `fit_modulus_answers`,
     `fit_modulus_affine`, `static_row_perm`
                                             another reference volume V₀ = volumes[0]: abscissa changes affinely, fitted values do not
  7  `static_keys_canonical`, `static_columns_reordered`   column prefix / letter case / order of the static table
  8  concrete instances of clauses 1–7 (examples)
  9  `vol_check_is_source`, `vol_check_accepts_iff`, `vol_relisting_rejected_or_identical`, `vol_order_unique`,
     `vol_relisting_accepted_same_volumes`, `vol_relisting_repeated_may_differ`, `vol_strict_check_rejects_repeats`, `vol_check_not_strict`,
     `vol_check_position_is_source`, `vol_blocks_file_order`
                                             volume blocks of the phonon file in another order: for a file listed by strictly decreasing
                                             volume EVERY re-listing is the identity or is rejected by the translated `read_input`
                                             (tools/gens/volorder_src.py → Generated/VolOrderSpec.lean; the test is read from the installed qha)
  10 `avg_source_presentation`, `values_source_perm_q`, `values_source_perm_modes`, `values_source_weight_scale`,
     `interp_cell_is_source`, `static_reader_is_source`
                                             clauses 1–4 and 7 restated for values assembled from the TRANSLATED pieces
                                             (Generated.NonShearGlue, Generated.ModeGammaSpec, Generated.Readers)

  SCOPE (details at the theorems):
    * 5/6 are unconditional: on ≥ deg+1 distinct abscissae both executable solvers answer (`Lemmas/SolveTotal.lean`,
      `Lemmas/GaussJordan.lean`; C11 `lsq_total`, `polyfit_total`), so `fit_modulus_affine` and `static_row_perm` are equalities
      of the results, "one answers iff the other does" included.
    * 4 is total (`interp_perm_equivariant_total`): for a bijective re-indexing of the index rectangle one run returns iff
      the other does, and then the entries correspond.  WHICH exception a failing run raises is not presentation-independent:
      the loop aborts at the first failing cell in loop order, which is another cell after re-indexing — counter-example
      `interp_perm_error_may_differ`.
    * volume blocks in another order: PROVED on the translated `read_input` for files listed by strictly decreasing volume (section 9).
      The installed qha's test is NOT strict (`diff <= 0`): a file with the same volume in neighbouring blocks is accepted, its accepted
      re-listings have the same volume list (`vol_relisting_accepted_same_volumes`) but may exchange the equal-volume blocks, and then the
      numbers can differ (`vol_relisting_repeated_may_differ`; harness site `vol-eqswap:differs`, a recorded finding).  What qha and scipy
      compute AFTER `read_input` is outside the model; it is irrelevant for the clause because the identity re-listing is the same input
      and every other one never gets past `read_input`.
    * rounding: theorems are over ℝ / ordered fields; "unchanged to rounding" is measured by the harness (1e-8 of scale).
-/
import CijProofs.Lemmas.Presentation
import CijProofs.Lemmas.InterpTotal
import CijProofs.Lemmas.GaussJordan
import CijProofs.Lemmas.Voigt
import CijProofs.Properties.C11
import CijProofs.Properties.C17
import Generated.FullModulusSpec
import Generated.AdapterSpec
import CijProofs.Lemmas.AdapterGuardSource
import CijProofs.Lemmas.NonShearSource
import Generated.ReadersSpec
import CijProofs.Lemmas.VolOrderSource
import CijProofs.Lemmas.NonShearGlueSource
import CijProofs.Lemmas.ModeGammaSource
import CijProofs.Lemmas.ReadersSource
import Generated.VolOrderSpec
import Generated.AdapterGuard
import Generated.CalcGlueSpec
import Generated.ModeGammaSpec

namespace Cij.C13

open Cij.NonShear

/-! ### 1. q-points in another order -/

/-- The Γ point keeps the first place; the other q-points are listed in another order TOGETHER WITH their
weights (the list of (row, weight) pairs is permuted).  For all arrays and weights `average_over_modes` is unchanged. -/
theorem avg_perm_q (r0 : List ℝ) (w0 : ℝ) (rs rs' : List (List ℝ)) (ws ws' : List ℝ)
    (hl : rs.length = ws.length) (hl' : rs'.length = ws'.length) (h : (rs.zip ws).Perm (rs'.zip ws')) :
    averageOverModes (r0 :: rs) (w0 :: ws) = averageOverModes (r0 :: rs') (w0 :: ws') :=
  average_perm_q r0 w0 rs rs' ws ws' hl hl' h

/-- **avg_perm_q at a (T, V) point.**  `freq_array`, the three `mode_gamma` arrays and the weights are the projections of
one list of q-point records; listing the records after Γ in another order changes none of the five quantities the
longitudinal / off-diagonal classes compute (zero-point, thermal, isothermal→adiabatic), for any prefactors, any T, V, C_V. -/
theorem avg_perm_q_point (h k hdk : ℝ) (na : ℕ) (T V cv : ℝ) (p : Pref ℝ) (g : QPoint) (qs qs' : List QPoint)
    (hq : qs.Perm qs') :
    pointValues h k hdk na T V cv p ((g :: qs).map (·.freq)) ((g :: qs).map (·.mg0)) ((g :: qs).map (·.mg1))
        ((g :: qs).map (·.mg2)) ((g :: qs).map (·.w))
      = pointValues h k hdk na T V cv p ((g :: qs').map (·.freq)) ((g :: qs').map (·.mg0)) ((g :: qs').map (·.mg1))
        ((g :: qs').map (·.mg2)) ((g :: qs').map (·.w)) := by
  unfold pointValues zeroPointLongAt thermalLongAt zeroPointOffAt thermalOffAt isoToAdiaAt
  simp only [modeGamma, Qarr, Q1arr, Q2arr, zw2_mapq, map2_mapq]
  simp only [average_perm_q_map _ _ g qs qs' hq]

/-- **the results of the classes**: `value_isothermal` and `value_adiabatic` of the longitudinal and the off-diagonal class at any
(T, V) point — any strain fractions e₀, e₁, any P, P_static, C_V — do not depend on the order of the q-points after Γ -/
theorem values_perm_q (c : Consts ℝ) (T P cv V e0 e1 pst : ℝ) (g : QPoint) (qs qs' : List QPoint) (hq : qs.Perm qs') :
    values c T P cv (sliceOfQ V e0 e1 pst (g :: qs)) ((g :: qs).map (·.w))
      = values c T P cv (sliceOfQ V e0 e1 pst (g :: qs')) ((g :: qs').map (·.w)) :=
  values_eq_of_pointValues c T P cv _ _ _ _ rfl rfl rfl rfl
    (avg_perm_q_point c.h c.k c.hdk c.na T V cv (prefactorsLong e0 e1) g qs qs' hq)
    (avg_perm_q_point c.h c.k c.hdk c.na T V cv (prefactorsOff e0 e1) g qs qs' hq)

/-! ### 2. modes in another order -/

/-- Inside every non-Γ q-point the modes may be listed in any other order; at Γ the entries after the
three acoustic slots may be listed in any other order (whatever stands IN the three slots is masked anyway). -/
theorem avg_perm_modes (r0 r0' : List ℝ) (rs rs' : List (List ℝ)) (w : List ℝ)
    (hΓ : (r0.drop 3).Perm (r0'.drop 3)) (hlen : r0.length = r0'.length) (hrs : List.Forall₂ List.Perm rs rs') :
    averageOverModes (r0 :: rs) w = averageOverModes (r0' :: rs') w :=
  average_perm_modes r0 r0' rs rs' w hΓ hlen hrs

/-- the Γ clause as the property words it: a permutation of the Γ row that keeps the three acoustic modes in the first
three slots (`a ~ a'` among themselves, the optical ones `b ~ b'` among themselves) -/
theorem avg_perm_modes_gamma_slots (a a' b b' : List ℝ) (rs : List (List ℝ)) (w : List ℝ)
    (ha : a.length = 3) (haa : a.Perm a') (hbb : b.Perm b') :
    averageOverModes ((a ++ b) :: rs) w = averageOverModes ((a' ++ b') :: rs) w := by
  have ha' : a'.length = 3 := haa.length_eq ▸ ha
  apply average_perm_modes
  · rw [List.drop_left' ha, List.drop_left' ha']; exact hbb
  · simp [ha, ha', hbb.length_eq]
  · exact List.forall₂_same.mpr fun r _ => List.Perm.refl r

/-- **avg_perm_modes at a (T, V) point.**  The four `[q][m]` arrays are the images of one spectrum of mode records; every
non-Γ q-point lists its modes in another order, Γ lists its non-acoustic modes in another order (the same order in all four
arrays — one `List.Perm` of records): none of the five quantities changes. -/
theorem avg_perm_modes_point (h k hdk : ℝ) (na : ℕ) (T V cv : ℝ) (p : Pref ℝ) (g g' : List ModeRec)
    (S S' : List (List ModeRec)) (w : List ℝ)
    (hΓ : (g.drop 3).Perm (g'.drop 3)) (hlen : g.length = g'.length) (hS : List.Forall₂ List.Perm S S') :
    pointValues h k hdk na T V cv p ((g :: S).map (List.map (·.f))) ((g :: S).map (List.map (·.m0)))
        ((g :: S).map (List.map (·.m1))) ((g :: S).map (List.map (·.m2))) w
      = pointValues h k hdk na T V cv p ((g' :: S').map (List.map (·.f))) ((g' :: S').map (List.map (·.m0)))
        ((g' :: S').map (List.map (·.m1))) ((g' :: S').map (List.map (·.m2))) w := by
  unfold pointValues zeroPointLongAt thermalLongAt zeroPointOffAt thermalOffAt isoToAdiaAt
  simp only [modeGamma, Qarr, Q1arr, Q2arr, zw2_map, map2_map]
  simp only [average_perm_modes_map _ g g' S S' w hΓ hlen hS]

/-- **the results of the classes** do not depend on the order of the modes inside the q-points (Γ: of its non-acoustic modes) -/
theorem values_perm_modes (c : Consts ℝ) (T P cv V e0 e1 pst : ℝ) (g g' : List ModeRec) (S S' : List (List ModeRec))
    (w : List ℝ) (hΓ : (g.drop 3).Perm (g'.drop 3)) (hlen : g.length = g'.length) (hS : List.Forall₂ List.Perm S S') :
    values c T P cv (sliceOfM V e0 e1 pst (g :: S)) w = values c T P cv (sliceOfM V e0 e1 pst (g' :: S')) w :=
  values_eq_of_pointValues c T P cv _ _ _ _ rfl rfl rfl rfl
    (avg_perm_modes_point c.h c.k c.hdk c.na T V cv (prefactorsLong e0 e1) g g' S S' w hΓ hlen hS)
    (avg_perm_modes_point c.h c.k c.hdk c.na T V cv (prefactorsOff e0 e1) g g' S S' w hΓ hlen hS)

/-! ### 3. all weights times a common factor -/

/-- `numpy.average(…, weights=w)` normalises by Σw: a common factor `c ≠ 0` on all weights
(multiplicities vs. normalised weights) changes nothing. -/
theorem avg_weight_scale (X : List (List ℝ)) (w : List ℝ) (c : ℝ) (hc : c ≠ 0) (hw : sumL w ≠ 0) :
    averageOverModes X (w.map fun x => c * x) = averageOverModes X w :=
  average_weight_scale X w c hc hw

/-- the same for the five quantities of a (T, V) point -/
theorem avg_weight_scale_point (h k hdk : ℝ) (na : ℕ) (T V cv : ℝ) (p : Pref ℝ) (freq mg0 mg1 mg2 : List (List ℝ))
    (w : List ℝ) (c : ℝ) (hc : c ≠ 0) (hw : sumL w ≠ 0) :
    pointValues h k hdk na T V cv p freq mg0 mg1 mg2 (w.map fun x => c * x)
      = pointValues h k hdk na T V cv p freq mg0 mg1 mg2 w := by
  unfold pointValues zeroPointLongAt thermalLongAt zeroPointOffAt thermalOffAt isoToAdiaAt
  simp only [average_weight_scale _ w c hc hw]

/-- **the results of the classes** do not depend on a common factor on the weights -/
theorem values_weight_scale (c : Consts ℝ) (T P cv : ℝ) (s : VolSlice ℝ) (w : List ℝ) (a : ℝ) (ha : a ≠ 0)
    (hw : sumL w ≠ 0) : values c T P cv s (w.map fun x => a * x) = values c T P cv s w :=
  values_eq_of_pointValues c T P cv _ _ _ _ rfl rfl rfl rfl
    (avg_weight_scale_point c.h c.k c.hdk c.na T s.V cv _ s.freq s.mg0 s.mg1 s.mg2 w a ha hw)
    (avg_weight_scale_point c.h c.k c.hdk c.na T s.V cv _ s.freq s.mg0 s.mg1 s.mg2 w a ha hw)

/-! ### 4. the interpolation loop is equivariant under re-indexing of (q, m) -/

section Interp
open Cij.Interp
variable {α : Type} [Neg α] [Zero α] [ExpLog α]

/-- `σ` re-indexes the (q-point, mode) positions — e.g. q-points 2…n_q listed in another order,
or the modes of a q-point listed in another order — without moving anything into or out of the three Γ-acoustic slots.
If the re-presented phonon data carry at `σ(j,k)` the series (over volumes) the original carries at `(j,k)`, then all three
outputs (ω, γ, V∂γ/∂V) of `interpolate_modes` on the whole (extrapolated) volume grid are re-indexed by the same `σ`: for
every interpolation method, order and kernel.  (Per-mode independence: the cell `(j,k)` is computed from its series alone —
`modes_cell`, the lemma behind C11 `modes_not_mixed`.) -/
theorem interp_perm_equivariant (m : Method) (order : ℕ) (I : Interpolant α) (vols vArray : List α) (nq np : ℕ)
    (freqs freqs' : List (List (List α))) (F G D F' G' D' : List (List (List α)))
    (h : interpolateModes m order I vols vArray nq np freqs = .ok (F, G, D))
    (h' : interpolateModes m order I vols vArray nq np freqs' = .ok (F', G', D'))
    (σ : ℕ × ℕ → ℕ × ℕ)
    (hrange : ∀ j k, j < nq → k < np → (σ (j, k)).1 < nq ∧ (σ (j, k)).2 < np)
    (hΓ : ∀ j k, j < nq → k < np → isΓac (σ (j, k)) = isΓac (j, k))
    (hser : ∀ j k, j < nq → k < np → series freqs' (σ (j, k)).1 (σ (j, k)).2 = series freqs j k)
    (t j k : ℕ) (ht : t < vArray.length) (hj : j < nq) (hk : k < np) :
    entry F' t (σ (j, k)).1 (σ (j, k)).2 = entry F t j k ∧ entry G' t (σ (j, k)).1 (σ (j, k)).2 = entry G t j k ∧
      entry D' t (σ (j, k)).1 (σ (j, k)).2 = entry D t j k := by
  obtain ⟨col, hcol, e1, e2, e3⟩ := modes_cell m order I vols vArray nq np freqs F G D h t j k ht hj hk
  obtain ⟨hj', hk'⟩ := hrange j k hj hk
  obtain ⟨col', hcol', e1', e2', e3'⟩ :=
    modes_cell m order I vols vArray nq np freqs' F' G' D' h' t (σ (j, k)).1 (σ (j, k)).2 ht hj' hk'
  rw [hser j k hj hk, cell_of_isΓac_eq m order I vols vArray (j, k) (σ (j, k)) (hΓ j k hj hk), hcol] at hcol'
  cases hcol'
  exact ⟨e1'.trans e1.symm, e2'.trans e2.symm, e3'.trans e3.symm⟩

/-- The same re-indexing hypotheses, with `σ` one-to-one on the `nq × np` index rectangle
(hence — the rectangle is finite — a bijection of it: `rect_surj`): NO assumption that either run returns.
* the re-presented run returns iff the original one does (equivalently: one raises iff the other raises);
* whenever the original run returns `(F, G, D)` the re-presented one returns some `(F', G', D')`, and all three arrays are
  re-indexed by `σ` at every grid volume.
Nothing is claimed about WHICH exception a failing run raises: the loop aborts at the first failing cell in loop order and
that is a different cell in the two presentations (`interp_perm_error_may_differ`).
(What each hypothesis is for: "re-presented returns ⇒ original returns" needs `hrange`, `hΓ`, `hser` only; the converse needs
every cell of the re-presented rectangle to BE the image of a cell — surjectivity, which on a finite rectangle is `hinj`;
without it a cell outside the image of `σ` carries data the hypotheses say nothing about and may raise.) -/
theorem interp_perm_equivariant_total (m : Method) (order : ℕ) (I : Interpolant α) (vols vArray : List α) (nq np : ℕ)
    (freqs freqs' : List (List (List α))) (σ : ℕ × ℕ → ℕ × ℕ)
    (hrange : ∀ j k, j < nq → k < np → (σ (j, k)).1 < nq ∧ (σ (j, k)).2 < np)
    (hinj : ∀ j k j' k', j < nq → k < np → j' < nq → k' < np → σ (j, k) = σ (j', k') → (j, k) = (j', k'))
    (hΓ : ∀ j k, j < nq → k < np → isΓac (σ (j, k)) = isΓac (j, k))
    (hser : ∀ j k, j < nq → k < np → series freqs' (σ (j, k)).1 (σ (j, k)).2 = series freqs j k) :
    ((∃ r, interpolateModes m order I vols vArray nq np freqs = .ok r) ↔
        ∃ r', interpolateModes m order I vols vArray nq np freqs' = .ok r') ∧
    ((∃ e, interpolateModes m order I vols vArray nq np freqs = .error e) ↔
        ∃ e', interpolateModes m order I vols vArray nq np freqs' = .error e') ∧
    ∀ F G D, interpolateModes m order I vols vArray nq np freqs = .ok (F, G, D) →
      ∃ F' G' D', interpolateModes m order I vols vArray nq np freqs' = .ok (F', G', D') ∧
        ∀ t j k, t < vArray.length → j < nq → k < np →
          entry F' t (σ (j, k)).1 (σ (j, k)).2 = entry F t j k ∧ entry G' t (σ (j, k)).1 (σ (j, k)).2 = entry G t j k ∧
            entry D' t (σ (j, k)).1 (σ (j, k)).2 = entry D t j k := by
  -- the cell at σ(j,k) of the re-presented data IS the cell at (j,k) of the original data
  have hcell : ∀ j k, j < nq → k < np →
      cell m order I vols vArray (σ (j, k)).1 (σ (j, k)).2 (series freqs' (σ (j, k)).1 (σ (j, k)).2)
        = cell m order I vols vArray j k (series freqs j k) := by
    intro j k hj hk
    rw [hser j k hj hk]
    exact cell_of_isΓac_eq m order I vols vArray (j, k) (σ (j, k)) (hΓ j k hj hk) _
  have hiff : (∃ r, interpolateModes m order I vols vArray nq np freqs = .ok r) ↔
      ∃ r', interpolateModes m order I vols vArray nq np freqs' = .ok r' := by
    rw [interpolateModes_isOk_iff, interpolateModes_isOk_iff]
    constructor
    · intro h j' hj' k' hk'
      obtain ⟨j, k, hj, hk, e⟩ := rect_surj nq np σ hrange hinj j' k' hj' hk'
      have := hcell j k hj hk
      rw [e] at this
      rw [this]
      exact h j hj k hk
    · intro h j hj k hk
      obtain ⟨hj', hk'⟩ := hrange j k hj hk
      rw [← hcell j k hj hk]
      exact h _ hj' _ hk'
  refine ⟨hiff, ?_, ?_⟩
  · rw [exists_error_iff_not_ok, exists_error_iff_not_ok, hiff]
  · intro F G D h
    obtain ⟨⟨F', G', D'⟩, h'⟩ := hiff.mp ⟨_, h⟩
    exact ⟨F', G', D', h', fun t j k ht hj hk =>
      interp_perm_equivariant m order I vols vArray nq np freqs freqs' F G D F' G' D' h h' σ hrange hΓ hser t j k ht hj hk⟩

/-- the Γ-acoustic positions stay exactly zero in the re-presented run as well (C11 `gamma_acoustic_zero` applied to it) -/
theorem interp_perm_gamma_zero (m : Method) (order : ℕ) (I : Interpolant α) (vols vArray : List α) (nq np : ℕ)
    (freqs' : List (List (List α))) (F' G' D' : List (List (List α)))
    (h' : interpolateModes m order I vols vArray nq np freqs' = .ok (F', G', D'))
    (t k : ℕ) (ht : t < vArray.length) (hq : 0 < nq) (hk : k < np) (hk3 : k < 3) :
    entry F' t 0 k = some 0 ∧ entry G' t 0 k = some 0 ∧ entry D' t 0 k = some 0 :=
  Cij.C11.gamma_acoustic_zero m order I vols vArray nq np freqs' F' G' D' h' t k ht hq hk hk3

end Interp

/-! ### 5. least squares does not see the order of the rows -/

section RowPerm
open Cij.Interp

/-- **lsq_row_perm** (`mode_gamma.lstsq_polyfit`).  The normal matrix `VᵀV`, the right-hand side `Vᵀy` and the certificate are
sums over the rows `(x_r, y_r)`; the solver is a function of these: rows in another order give the same normal system and
the same answer (same coefficients, or `none` for both). -/
theorem lsq_row_perm {K : Type} [Field K] [DecidableEq K] (xs ys xs' ys' : List K) (hl : xs.length = ys.length)
    (hl' : xs'.length = ys'.length) (h : (xs.zip ys).Perm (xs'.zip ys')) (order : ℕ) :
    normalMatrix xs (order + 1) = normalMatrix xs' (order + 1) ∧
      normalRhs xs ys (order + 1) = normalRhs xs' ys' (order + 1) ∧
      lstsqPolyfit xs ys order = lstsqPolyfit xs' ys' order :=
  ⟨normalMatrix_perm (fst_perm_of_zip_perm hl hl' h) _, normalRhs_perm h _, lstsqPolyfit_perm hl hl' h order⟩

/-- the same for the model of `numpy.polyfit` used by the static fit -/
theorem polyfit_row_perm {K : Type} [Field K] [BEq K] (xs ys xs' ys' : List K) (hl : xs.length = ys.length)
    (hl' : xs'.length = ys'.length) (h : (xs.zip ys).Perm (xs'.zip ys')) (deg : ℕ) :
    Cij.LeastSq.normalAug xs ys deg = Cij.LeastSq.normalAug xs' ys' deg ∧
      Cij.LeastSq.polyfit xs ys deg = Cij.LeastSq.polyfit xs' ys' deg :=
  ⟨Cij.LeastSq.normalAug_perm hl hl' h deg, Cij.LeastSq.polyfit_perm hl hl' h deg⟩

open Cij.FullModulus in
/-- **fit_modulus, rows in another order, same abscissae.**  The rows (strain, volume, tabulated value) of the static table are
listed in another order while the strains themselves are unchanged (the first row — the reference volume — keeps its
place, or the strains are simply given): `fit_modulus` returns the same array on the fine grid. -/
theorem fit_modulus_row_perm {K : Type} [Field K] [BEq K] (inp inp' : Inputs K) (moduli moduli' : List K) (order : ℕ)
    (hl1 : inp.strains.length = inp.volumes.length) (hl2 : inp.volumes.length = moduli.length)
    (hl1' : inp'.strains.length = inp'.volumes.length) (hl2' : inp'.volumes.length = moduli'.length)
    (hrows : (inp.strains.zip (inp.volumes.zip moduli)).Perm (inp'.strains.zip (inp'.volumes.zip moduli')))
    (hgrid : inp'.strainArray = inp.strainArray) (hv : inp'.vArray = inp.vArray) :
    fitModulus inp' moduli' order = fitModulus inp moduli order := by
  unfold fitModulus
  have hz : ∀ (s v c : List K), s.zip (List.zipWith (fun v c => v * c) v c)
      = (s.zip (v.zip c)).map fun t => (t.1, t.2.1 * t.2.2) := fun s v c => by
    rw [Cij.LeastSq.zipWith_eq_map_zip, List.zip_map_right]
    rfl
  have hperm : (inp.strains.zip (List.zipWith (fun v c => v * c) inp.volumes moduli)).Perm
      (inp'.strains.zip (List.zipWith (fun v c => v * c) inp'.volumes moduli')) := by
    rw [hz, hz]; exact hrows.map _
  rw [Cij.LeastSq.polyfit_perm (by simp [List.length_zipWith]; omega) (by simp [List.length_zipWith]; omega) hperm,
    hgrid, hv]

end RowPerm

/-! ### 6. another reference volume: the abscissa changes affinely, the fitted values do not -/

section Affine
open Cij.Interp
variable {K : Type} [Field K] [LinearOrder K] [IsStrictOrderedRing K]

/-- `p` is a least-squares polynomial of degree ≤ d of the rows `(x_r, y_r)` (it satisfies the normal
equations — by C05/C11 `lsq_minimises` it minimises the sum of squared residuals), `p'` one of the rows `(a·x_r + b, y_r)`,
`a ≠ 0`, and there are at least d + 1 distinct abscissae (the property's "≥ 4 distinct volumes" for the cubic).  Then the
fitted VALUES agree at corresponding points, everywhere: `p'(a·x + b) = p(x)` for all `x` — the affine image of a polynomial
of degree ≤ d is one, and the least-squares polynomial is unique. -/
theorem lsq_affine_abscissa (xs ys : List K) (hlen : xs.length = ys.length) (a b : K) (ha : a ≠ 0) (d : ℕ) (p p' : List K)
    (hp : NormalEqs xs ys d p) (hp' : NormalEqs (xs.map fun x => a * x + b) ys d p')
    (hdist : d + 1 ≤ xs.toFinset.card) : ∀ x, polyval p' (a * x + b) = polyval p x :=
  affine_unique xs ys hlen a b ha d p p' hp hp' hdist

/-- uniqueness itself (a = 1, b = 0): any two certified answers for the same rows are the same function -/
theorem lsq_unique (xs ys : List K) (hlen : xs.length = ys.length) (d : ℕ) (p p' : List K)
    (hp : NormalEqs xs ys d p) (hp' : NormalEqs xs ys d p') (hdist : d + 1 ≤ xs.toFinset.card) :
    ∀ x, polyval p' x = polyval p x :=
  normalEqs_unique xs ys hlen d p p' hp hp' hdist

omit [IsStrictOrderedRing K] in
/-- what the two executable solvers return satisfies the hypothesis of `lsq_affine_abscissa` -/
theorem solvers_certified (xs ys : List K) (d : ℕ) (p : List K) :
    (lstsqPolyfit xs ys d = some p → NormalEqs xs ys d p) ∧
      (Cij.LeastSq.polyfit xs ys d = some p → NormalEqs xs ys d p) :=
  ⟨fun h => normalEqs_of_normalEq xs ys d p (Cij.C11.lsq_sound xs ys d p h),
   fun h => (Cij.LeastSq.normalEqs_of_polyfit xs ys d p h).2⟩

open Cij.FullModulus in
/-- **fit_modulus answers** on every well-shaped table: as many strains as products `V·c` and at least `order + 2` distinct
strains (the property's "≥ 4 distinct volumes" for the default cubic, order = 2).  The unpivoted Gauss–Jordan elimination of
the model never meets a zero pivot on these normal equations (`AᵀA` is positive definite: `normalAug_leadingNonsing`) and its
result passes the certificate (`polyfit_total`). -/
theorem fit_modulus_answers (inp : Inputs K) (moduli : List K) (order : ℕ)
    (hlen : inp.strains.length = (List.zipWith (fun v c => v * c) inp.volumes moduli).length)
    (hdist : order + 2 ≤ inp.strains.toFinset.card) :
    ∃ r, fitModulus inp moduli order = some r := by
  obtain ⟨p, hp⟩ := Cij.LeastSq.polyfit_total inp.strains _ (order + 1) hlen hdist
  unfold fitModulus
  rw [hp]
  exact ⟨_, rfl⟩

open Cij.FullModulus in
/-- **fit_modulus with another reference volume.**  Strains of the table volumes and of the fine grid are both transformed by
the one affine map `f ↦ a·f + b` (`eulerian_reference_affine`); at least `order + 2` distinct strains.  The fitted static
modulus on the fine grid is unchanged — as results of the executable model: both fits answer (`fit_modulus_answers`) with the
same array, or (table columns of different lengths: numpy's TypeError) neither does. -/
theorem fit_modulus_affine (inp inp' : Inputs K) (a b : K) (ha : a ≠ 0) (moduli : List K) (order : ℕ)
    (hs : inp'.strains = inp.strains.map fun x => a * x + b)
    (hsa : inp'.strainArray = inp.strainArray.map fun x => a * x + b)
    (hv : inp'.volumes = inp.volumes) (hva : inp'.vArray = inp.vArray)
    (hdist : order + 2 ≤ inp.strains.toFinset.card) :
    fitModulus inp' moduli order = fitModulus inp moduli order := by
  unfold fitModulus
  rw [hs, hv]
  by_cases hlen : inp.strains.length = (List.zipWith (fun v c => v * c) inp.volumes moduli).length
  · obtain ⟨p, hp⟩ := Cij.LeastSq.polyfit_total inp.strains _ (order + 1) hlen hdist
    obtain ⟨p', hp'⟩ := Cij.LeastSq.polyfit_total (inp.strains.map fun x => a * x + b)
      (List.zipWith (fun v c => v * c) inp.volumes moduli) (order + 1) (by simpa using hlen)
      (by rw [Cij.LeastSq.card_map_affine _ a b ha]; exact hdist)
    obtain ⟨_, hne⟩ := Cij.LeastSq.normalEqs_of_polyfit _ _ _ _ hp
    obtain ⟨_, hne'⟩ := Cij.LeastSq.normalEqs_of_polyfit _ _ _ _ hp'
    have key := affine_unique _ _ hlen a b ha (order + 1) p p' hne hne' hdist
    simp only [hp, hp', Option.pure_def, Option.bind_eq_bind, Option.bind_some, Option.some.injEq]
    rw [hsa, hva, List.zipWith_map_left]
    have : ∀ s v : K, Cij.LeastSq.polyval p' (a * s + b) / v = Cij.LeastSq.polyval p s / v := fun s v => by
      rw [Cij.LeastSq.polyval_eq_interp, Cij.LeastSq.polyval_eq_interp, key]
    simp only [this]
  · rw [Cij.LeastSq.polyfit_none_of_length_ne _ _ _ hlen,
      Cij.LeastSq.polyfit_none_of_length_ne _ _ _ (by simpa using hlen)]
    rfl

open Cij.FullModulus in
/-- **rows of the static table in ANY other order** (clauses 5 and 6 together): the rows (volume, value) are permuted, hence the
reference volume `volumes[0]` may change, hence the strains of the permuted rows and of the fine grid are the affine image
of the original ones.  `fit_modulus` returns the same array on the fine grid (and answers: `fit_modulus_answers`). -/
theorem static_row_perm (inp inp' : Inputs K) (a b : K) (ha : a ≠ 0) (moduli moduli' : List K) (order : ℕ)
    (hl1 : inp.strains.length = inp.volumes.length) (hl2 : inp.volumes.length = moduli.length)
    (hl1' : inp'.strains.length = inp'.volumes.length) (hl2' : inp'.volumes.length = moduli'.length)
    (hrows : (inp'.strains.zip (inp'.volumes.zip moduli')).Perm
      ((inp.strains.map fun x => a * x + b).zip (inp.volumes.zip moduli)))
    (hsa : inp'.strainArray = inp.strainArray.map fun x => a * x + b) (hva : inp'.vArray = inp.vArray)
    (hdist : order + 2 ≤ inp.strains.toFinset.card) :
    fitModulus inp' moduli' order = fitModulus inp moduli order ∧ ∃ r, fitModulus inp moduli order = some r := by
  -- the original rows with the new reference volume
  let mid : Inputs K := { inp with strains := inp.strains.map fun x => a * x + b,
                                   strainArray := inp.strainArray.map fun x => a * x + b }
  have hmid : fitModulus inp' moduli' order = fitModulus mid moduli order :=
    Cij.C13.fit_modulus_row_perm mid inp' moduli moduli' order (by simp [mid, hl1]) hl2 hl1' hl2' hrows.symm hsa hva
  refine ⟨?_, fit_modulus_answers inp moduli order (by simp [List.length_zipWith]; omega) hdist⟩
  rw [hmid]
  exact fit_modulus_affine inp mid a b ha moduli order rfl rfl rfl rfl hdist

/-- qha's Eulerian strain `f = ((V₀/V)^(2/3) − 1)/2` with another reference volume `V₀'` is the
affine image `c·f + (c − 1)/2`, `c = (V₀'/V₀)^(2/3) ≠ 0`, of the strain with reference `V₀` — for the table volumes and the
fine grid alike: the hypothesis of `lsq_affine_abscissa`, `fit_modulus_affine` and `static_row_perm` is what reordering the rows does. -/
theorem eulerian_reference_affine (v0 v0' : ℝ) (h0 : 0 < v0) (h0' : 0 < v0') :
    (v0' / v0) ^ ((2 : ℝ) / 3) ≠ 0 ∧ ∀ v, 0 < v →
      Cij.FullModulus.eulerian v0' v
        = (v0' / v0) ^ ((2 : ℝ) / 3) * Cij.FullModulus.eulerian v0 v + ((v0' / v0) ^ ((2 : ℝ) / 3) - 1) / 2 :=
  ⟨(Cij.FullModulus.eulerian_factor_pos v0 v0' h0 h0').ne', fun v hv => Cij.FullModulus.eulerian_affine v0 v0' v h0 h0' hv⟩

end Affine

/-! ### 7. static table: column prefix, letter case, column order -/

section Static
open Cij.ElastDat Cij.Lex
variable {Num : Type}

/-- Any two digit-free prefixes (`c`, `C`, `c_`, `C_`, nothing, …) in front of the two Voigt digits
— in either order of the two digits — give the SAME dictionary key, and it is one of the 21 canonical keys
(corollary of C17 `key_any_prefix_voigt`, `key_canonical`, themselves resting on C10). -/
theorem static_keys_canonical (pre pre' : String) (hpre : ∀ c ∈ pre.toList, c.isDigit = false)
    (hpre' : ∀ c ∈ pre'.toList, c.isDigit = false) :
    ∀ p ∈ allPairs, ∃ q ∈ keys21,
      findModulusKey (pre ++ pairStr p) = some (.mod (keyOfVoigt q)) ∧
      findModulusKey (pre' ++ pairStr p) = some (.mod (keyOfVoigt q)) ∧
      findModulusKey (pre' ++ pairStr (p.2, p.1)) = some (.mod (keyOfVoigt q)) := by
  intro p hp
  obtain ⟨q, hq, h1, h2⟩ := Cij.C17.key_canonical p hp
  have hp' : (p.2, p.1) ∈ allPairs := by
    rw [Cij.mem_allPairs] at hp ⊢
    exact ⟨hp.2, hp.1⟩
  refine ⟨q, hq, ?_, ?_, ?_⟩
  · rw [Cij.C17.key_any_prefix_voigt pre hpre p hp, h1]; rfl
  · rw [Cij.C17.key_any_prefix_voigt pre' hpre' p hp, h1]; rfl
  · rw [Cij.C17.key_any_prefix_voigt pre' hpre' (p.2, p.1) hp', h2]; rfl

/-- A well-formed static table `t` (distinct canonical keys, every row as wide as the key line) is
re-presented with its component columns listed in the order `idx` (any permutation of the column numbers) and under new
names that denote the same keys (`static_keys_canonical`: other prefix, other letter case, transposed digits).  Followed by
ANY rest of the file (nothing, a blank line, a lattice block), `read_elast_data` either fails on both or returns the same
data: same header numbers, same lattice, and for every volume the same map key ↦ value. -/
theorem static_columns_reordered (F : NumFmt Num) (t : TableFile Num) (kv : Key) (keys : List Key) (h : t.Ok F kv keys)
    (hnd : keys.Nodup) (hwide : ∀ r ∈ t.rows, r.2.length = t.names.length)
    (idx : List ℕ) (hidx : idx.Perm (List.range t.names.length)) (names' : List Token)
    (hnames : names'.map findModulusKey = (pick idx t.names).map findModulusKey) (tail : List Line) :
    SameRead (readElastData F (t.lines ++ tail)) (readElastData F ((t.recolumn idx names').lines ++ tail)) := by
  have hklen : keys.length = t.names.length := length_of_mapM _ _ _ h.keys
  have hok' := recolumn_ok F t kv keys h idx names' hnames
  rw [read_elast_core F t kv keys h tail, read_elast_core F _ kv _ hok' tail]
  have hrl : (t.recolumn idx names').rows.length = t.rows.length := by simp [TableFile.recolumn]
  rw [hrl]
  cases readTail F t.rows.length tail with
  | none => trivial
  | some lat =>
    refine ⟨rfl, rfl, rfl, rfl, ?_⟩
    simp only [TableFile.recolumn, List.map_map]
    rw [List.forall₂_map_left_iff, List.forall₂_map_right_iff, List.forall₂_same]
    exact fun r hr => volume_recolumn kv keys hnd idx (hklen ▸ hidx) r (by rw [hwide r hr, hklen])

end Static

/-! ### 8. non-vacuity: concrete instances (3 q-points, 6 modes) -/

section Examples
open Cij.Interp Cij.ElastDat Cij.Lex

/-- the value on a 3-q-point, 6-mode instance: Γ row masked to (0,0,0,4,5,6), weights 1, 2, 5 -/
example : averageOverModes [[1, 2, 3, 4, 5, 6], [7, 8, 9, 10, 11, 12], [2, 4, 6, 8, 10, 12]] [1, 2, 5] = (113 : ℝ) / 16 := by
  norm_num [averageOverModes, clearGamma, zeroFirst, mean]

/-- `avg_perm_q` on it: q-points 2 and 3 exchanged together with their weights (a genuine transposition) -/
example : averageOverModes [[1, 2, 3, 4, 5, 6], [7, 8, 9, 10, 11, 12], [2, 4, 6, 8, 10, 12]] [1, 2, 5]
    = averageOverModes [[1, 2, 3, 4, 5, 6], [2, 4, 6, 8, 10, 12], [7, 8, 9, 10, 11, 12]] [(1 : ℝ), 5, 2] :=
  avg_perm_q _ _ _ _ _ _ rfl rfl (List.Perm.swap _ _ _)

/-- The hypothesis matters: exchanging the q-points WITHOUT their weights gives another number (8 ≠ 113/16) -/
example : averageOverModes [[1, 2, 3, 4, 5, 6], [2, 4, 6, 8, 10, 12], [7, 8, 9, 10, 11, 12]] [1, 2, 5] = (8 : ℝ) := by
  norm_num [averageOverModes, clearGamma, zeroFirst, mean]

/-- `avg_perm_modes` on it: Γ keeps its acoustic slots (permuted among themselves) and lists its optical modes in another order,
q-point 2 is reversed, q-point 3 rotated -/
example : averageOverModes [[1, 2, 3, 4, 5, 6], [7, 8, 9, 10, 11, 12], [2, 4, 6, 8, 10, 12]] [1, 2, 5]
    = averageOverModes [[3, 1, 2, 6, 4, 5], [12, 11, 10, 9, 8, 7], [4, 6, 8, 10, 12, 2]] [(1 : ℝ), 2, 5] := by
  apply avg_perm_modes
  · show List.Perm [(4 : ℝ), 5, 6] [6, 4, 5]
    exact (List.perm_cons_append_cons 6 (l₁ := [4, 5]) (l₂ := []) (List.Perm.refl _)).symm
  · rfl
  · refine List.Forall₂.cons ?_ (List.Forall₂.cons ?_ List.Forall₂.nil)
    · simpa using List.reverse_perm [(12 : ℝ), 11, 10, 9, 8, 7]
    · exact List.perm_append_comm (l₁ := [(2 : ℝ)]) (l₂ := [4, 6, 8, 10, 12])

/-- The Γ restriction matters: moving an acoustic mode out of the first three slots changes the result (7 ≠ 113/16) -/
example : averageOverModes [[4, 2, 3, 1, 5, 6], [7, 8, 9, 10, 11, 12], [2, 4, 6, 8, 10, 12]] [1, 2, 5] = (7 : ℝ) := by
  norm_num [averageOverModes, clearGamma, zeroFirst, mean]

/-- `avg_weight_scale`: weights scaled by 1/7 (multiplicities → un-normalised fractions) -/
example : averageOverModes [[1, 2, 3, 4, 5, 6], [7, 8, 9, 10, 11, 12], [2, 4, 6, 8, 10, 12]]
      (([1, 2, 5] : List ℝ).map fun x => 1 / 7 * x)
    = averageOverModes [[1, 2, 3, 4, 5, 6], [7, 8, 9, 10, 11, 12], [2, 4, 6, 8, 10, 12]] [1, 2, 5] :=
  avg_weight_scale _ _ _ (by norm_num) (by norm_num)

/-- the hypotheses of the (T, V)-point theorems are satisfiable by a genuine transposition of records -/
example (a b : QPoint) : [a, b].Perm [b, a] := List.Perm.swap _ _ _
example (m1 m2 m3 o1 o2 o3 : ModeRec) :
    (([m1, m2, m3, o1, o2, o3] : List ModeRec).drop 3).Perm (([m2, m1, m3, o3, o1, o2] : List ModeRec).drop 3) :=
  (List.perm_cons_append_cons o3 (l₁ := [o1, o2]) (l₂ := []) (List.Perm.refl _)).symm

/-- `interp_perm_equivariant`, an actual run (scalar ℚ with exp = log = id, least squares of order 2, 3 volumes, 3 q-points,
4 modes, 2 grid volumes; Γ-acoustic input entries 7, 8, 9 are ignored): the original presentation … -/
example :
    letI : ExpLog ℚ := ⟨id, id⟩
    interpolateModes .lsqPoly 2 (lsqInterpolant 2) ([1, 2, 3] : List ℚ) [4, 5] 3 4
        [[[7, 7, 7, 1], [2, 3, 5, 8], [1, 4, 9, 16]], [[8, 8, 8, 3], [3, 5, 6, 9], [2, 6, 12, 20]],
         [[9, 9, 9, 5], [5, 6, 9, 11], [3, 8, 15, 24]]]
      = .ok ([[[0, 0, 0, 7], [8, 6, 14, 14], [4, 10, 18, 28]], [[0, 0, 0, 9], [12, 5, 21, 18], [5, 12, 21, 32]]],
             [[[0, 0, 0, -2], [-7 / 2, 1 / 2, -6, -7 / 2], [-1, -2, -3, -4]],
              [[0, 0, 0, -2], [-9 / 2, 3 / 2, -8, -9 / 2], [-1, -2, -3, -4]]],
             [[[0, 0, 0, 0], [-1, 1, -2, -1], [0, 0, 0, 0]], [[0, 0, 0, 0], [-1, 1, -2, -1], [0, 0, 0, 0]]]) := by
  decide +kernel

/-- The same run re-presented: q-points 2 and 3 listed in the other order, the modes of the (new) second q-point reversed — all
three outputs are re-indexed the same way, the Γ-acoustic zeros stay -/
example :
    letI : ExpLog ℚ := ⟨id, id⟩
    interpolateModes .lsqPoly 2 (lsqInterpolant 2) ([1, 2, 3] : List ℚ) [4, 5] 3 4
        [[[7, 7, 7, 1], [16, 9, 4, 1], [2, 3, 5, 8]], [[8, 8, 8, 3], [20, 12, 6, 2], [3, 5, 6, 9]],
         [[9, 9, 9, 5], [24, 15, 8, 3], [5, 6, 9, 11]]]
      = .ok ([[[0, 0, 0, 7], [28, 18, 10, 4], [8, 6, 14, 14]], [[0, 0, 0, 9], [32, 21, 12, 5], [12, 5, 21, 18]]],
             [[[0, 0, 0, -2], [-4, -3, -2, -1], [-7 / 2, 1 / 2, -6, -7 / 2]],
              [[0, 0, 0, -2], [-4, -3, -2, -1], [-9 / 2, 3 / 2, -8, -9 / 2]]],
             [[[0, 0, 0, 0], [0, 0, 0, 0], [-1, 1, -2, -1]], [[0, 0, 0, 0], [0, 0, 0, 0], [-1, 1, -2, -1]]]) := by
  decide +kernel

/-- the re-indexing of that run: q-points 1 ↔ 2 (0-based), modes of the new q-point 1 reversed; it maps the 3 × 4 index range into
itself and keeps the Γ-acoustic flag — the hypotheses `hrange`, `hΓ` of `interp_perm_equivariant` -/
example :
    let σ : ℕ × ℕ → ℕ × ℕ := fun jk => if jk.1 = 1 then (2, jk.2) else if jk.1 = 2 then (1, 3 - jk.2) else jk
    ∀ j < 3, ∀ k < 4, ((σ (j, k)).1 < 3 ∧ (σ (j, k)).2 < 4) ∧ isΓac (σ (j, k)) = isΓac (j, k) := by
  decide

set_option synthInstance.maxSize 2000 in
/-- It is one-to-one on the rectangle — the extra hypothesis `hinj` of `interp_perm_equivariant_total` -/
example :
    let σ : ℕ × ℕ → ℕ × ℕ := fun jk => if jk.1 = 1 then (2, jk.2) else if jk.1 = 2 then (1, 3 - jk.2) else jk
    ∀ j < 3, ∀ k < 4, ∀ j' < 3, ∀ k' < 4, σ (j, k) = σ (j', k') → (j, k) = (j', k') := by
  intro σ
  -- undoing the exchange of q-points 1, 2 and the reversal of the modes is a left inverse
  exact inj_on_rect_of_leftInverse (τ := fun jk => if jk.1 = 2 then (1, jk.2) else if jk.1 = 1 then (2, 3 - jk.2) else jk)
    (by simp only [σ]; decide)

set_option synthInstance.maxSize 4000 in
open Cij.Interp in
/-- **interp_perm_error_may_differ** — why `interp_perm_equivariant_total` says "raises iff raises" and not "raises the same
exception".  One q-point (Γ), five modes, one volume; the library kernel rejects BOTH optical series, the series `[1]` with
`ValueError` and the series `[2]` with another exception.  The loop aborts at the first failing cell in loop order, which is
mode 3: it carries `[1]` in the original presentation and `[2]` after the two optical modes are listed in the other order —
the two runs raise different exceptions although the hypotheses of the theorem hold (second and third conjunct). -/
theorem interp_perm_error_may_differ :
    letI : ExpLog ℚ := ⟨id, id⟩
    let I : Interpolant ℚ := fun _ ys _ => if ys = [1] then .error .valueError else .error .linAlg
    let σ : ℕ × ℕ → ℕ × ℕ := fun jk => if jk = (0, 3) then (0, 4) else if jk = (0, 4) then (0, 3) else jk
    let freqs : List (List (List ℚ)) := [[[0, 0, 0, 1, 2]]]
    let freqs' : List (List (List ℚ)) := [[[0, 0, 0, 2, 1]]]
    (interpolateModes .spline 3 I [1] [1] 1 5 freqs = .error .valueError ∧
      interpolateModes .spline 3 I [1] [1] 1 5 freqs' = .error .linAlg) ∧
    (∀ j < 1, ∀ k < 5, ((σ (j, k)).1 < 1 ∧ (σ (j, k)).2 < 5) ∧ isΓac (σ (j, k)) = isΓac (j, k) ∧
        series freqs' (σ (j, k)).1 (σ (j, k)).2 = series freqs j k) ∧
    (∀ j < 1, ∀ k < 5, ∀ j' < 1, ∀ k' < 5, σ (j, k) = σ (j', k') → (j, k) = (j', k')) := by
  decide +kernel

/-- `lsq_row_perm`: an over-determined fit with non-zero residual, rows listed in another order — hypothesis and conclusion -/
example : (([0, 1, 2, 3] : List ℚ).zip [0, 1, 0, 1]).Perm (([3, 0, 2, 1] : List ℚ).zip [1, 0, 0, 1]) := by decide
example : lstsqPolyfit ([0, 1, 2, 3] : List ℚ) [0, 1, 0, 1] 1 = some [1 / 5, 1 / 5] ∧
    lstsqPolyfit ([3, 0, 2, 1] : List ℚ) [1, 0, 0, 1] 1 = some [1 / 5, 1 / 5] := by decide +kernel

/-- `lsq_affine_abscissa`: a cubic fit with non-zero residual on 5 distinct abscissae and on their image under x ↦ 2x + 1: both
solvers answer, the coefficient lists differ, the fitted values at corresponding points (x = 7 ↦ 15, outside the data) agree -/
example :
    Cij.LeastSq.polyfit [(0 : ℚ), 1, 2, 3, 5] [1, 2, 9, 29, 126] 3 = some [143 / 159, 247 / 371, -914 / 1113, 391 / 371] ∧
    Cij.LeastSq.polyfit (([0, 1, 2, 3, 5] : List ℚ).map fun x => 2 * x + 1) [1, 2, 9, 29, 126] 3
      = some [143 / 1272, -507 / 2968, -3617 / 8904, 4507 / 2968] ∧
    Cij.LeastSq.polyval [143 / 1272, -507 / 2968, -3617 / 8904, 4507 / 2968] (2 * 7 + 1 : ℚ)
      = Cij.LeastSq.polyval [143 / 159, 247 / 371, -914 / 1113, 391 / 371] 7 ∧
    3 + 1 ≤ ([0, 1, 2, 3, 5] : List ℚ).toFinset.card := by
  decide +kernel

/-- `fit_modulus_affine` / `fit_modulus_answers` on an instance (ℚ; 5 rows, cubic, non-zero residual; strains ↦ 2·f + 1 for
the table and the grid): the hypotheses hold, both fits answer, with the same array -/
example :
    let inp : Cij.FullModulus.Inputs ℚ :=
      { strains := [0, 1, 2, 3, 5], strainArray := [0, 4, 7], volumes := [1, 1, 2, 1, 1], vArray := [1, 2, 4],
        table := [], lattice := [], gpaFactor := 1 }
    let inp' : Cij.FullModulus.Inputs ℚ :=
      { inp with strains := inp.strains.map (fun x => 2 * x + 1), strainArray := inp.strainArray.map (fun x => 2 * x + 1) }
    2 + 2 ≤ inp.strains.toFinset.card ∧
    inp.strains.length = (List.zipWith (fun v c => v * c) inp.volumes [1, 2, 9 / 2, 29, 126]).length ∧
    (Cij.FullModulus.fitModulus inp [1, 2, 9 / 2, 29, 126] 2).isSome = true ∧
    Cij.FullModulus.fitModulus inp' [1, 2, 9 / 2, 29, 126] 2 = Cij.FullModulus.fitModulus inp [1, 2, 9 / 2, 29, 126] 2 := by
  decide +kernel

/-- the affine map of the Eulerian strain is a genuine one: V₀ = 8, V₀' = 27 gives c = (27/8)^(2/3) = 9/4 ≠ 1 -/
example : ((27 : ℝ) / 8) ^ ((2 : ℝ) / 3) = 9 / 4 := by
  have h : ((27 : ℝ) / 8) = (3 / 2) ^ (3 : ℝ) := by norm_num
  rw [h, ← Real.rpow_mul (by norm_num)]
  norm_num

/-- `static_columns_reordered` / `static_keys_canonical`: the hypotheses on an instance — columns (c11, c12, c44) listed as
(C44, C_11, c21): a permutation of the column numbers, and names that denote the same keys -/
example : ([2, 0, 1] : List ℕ).Perm (List.range 3) ∧
    (["C44", "C_11", "c21"] : List Token).map findModulusKey = (pick [2, 0, 1] ["c11", "c12", "c44"]).map findModulusKey ∧
    (["c11", "c12", "c44"].mapM findModulusKey).isSome := by
  decide +kernel

/-- a static table with a lattice block … -/
def fileA : List Line :=
  [["title"], ["586.01996", "2", "200.782"], ["V", "c11", "c12", "c44"],
   ["617.47767", "399.2", "124.3", "88.35"], ["586.01996", "460.9", "156.2", "112.35"],
   ["lattice_a", "lattice_b", "lattice_c"], ["1.0", "0.8", "2.9"], ["0.9", "0.8", "2.8"]]
/-- The same table with the columns listed as (c44, c11, c12) under the names C44, C_11, c21 -/
def fileB : List Line :=
  [["title"], ["586.01996", "2", "200.782"], ["V", "C44", "C_11", "c21"],
   ["617.47767", "88.35", "399.2", "124.3"], ["586.01996", "112.35", "460.9", "156.2"],
   ["lattice_a", "lattice_b", "lattice_c"], ["1.0", "0.8", "2.9"], ["0.9", "0.8", "2.8"]]
/-- what a reader of the dictionaries sees: per volume the values under c11, c12, c44 -/
def view (d : ElastData Rat) : List (Rat × List (Option Rat)) :=
  d.volumes.map fun v => (v.volume, [((1 : Int), (1 : Int)), (1, 2), (4, 4)].map fun p => v.moduli.lookup (.mod (keyOfVoigt p)))

/-- The conclusion computed on the two files: both parse, header numbers, lattice and the views agree, while the raw
dictionaries are listed in different orders -/
example : (readElastData ratFmt fileA).map view = (readElastData ratFmt fileB).map view ∧
    (readElastData ratFmt fileA).map (fun d => (d.vref, d.nv, d.cellmass)) = (readElastData ratFmt fileB).map (fun d => (d.vref, d.nv, d.cellmass)) ∧
    (readElastData ratFmt fileA).map (·.lattice) = (readElastData ratFmt fileB).map (·.lattice) := by
  decide +kernel
example : (readElastData ratFmt fileA).isSome = true ∧
    (readElastData ratFmt fileA).map (·.volumes.map (·.moduli.map (·.1)))
      ≠ (readElastData ratFmt fileB).map (·.volumes.map (·.moduli.map (·.1))) := by
  decide +kernel

/-- the two files ARE an instance of `static_columns_reordered`: `fileA` is the well-formed table `tableA` followed by its lattice
block, `fileB` is `tableA.recolumn [2, 0, 1] ["C44", "C_11", "c21"]` followed by the same block; keys distinct, rows as wide as
the key line -/
def tableA : TableFile Rat :=
  { title := ["title"], vref := ("586.01996", mkRat 58601996 100000), nvTok := "2", mass := ("200.782", mkRat 200782 1000),
    extra := [], vname := "V", names := ["c11", "c12", "c44"],
    rows := [(("617.47767", mkRat 61747767 100000), [("399.2", mkRat 3992 10), ("124.3", mkRat 1243 10), ("88.35", mkRat 8835 100)]),
             (("586.01996", mkRat 58601996 100000), [("460.9", mkRat 4609 10), ("156.2", mkRat 1562 10), ("112.35", mkRat 11235 100)])] }

example : tableA.lines ++ fileA.drop 5 = fileA ∧
    (tableA.recolumn [2, 0, 1] ["C44", "C_11", "c21"]).lines ++ fileA.drop 5 = fileB := by decide +kernel

example : tableA.Ok ratFmt (.raw "V") [.mod (keyOfVoigt (1, 1)), .mod (keyOfVoigt (1, 2)), .mod (keyOfVoigt (4, 4))] ∧
    [Key.mod (keyOfVoigt (1, 1)), .mod (keyOfVoigt (1, 2)), .mod (keyOfVoigt (4, 4))].Nodup ∧
    ∀ r ∈ tableA.rows, r.2.length = tableA.names.length := by
  refine ⟨⟨by decide +kernel, by decide +kernel, by decide +kernel, by decide +kernel, by decide +kernel, ?_⟩,
    by decide +kernel, by decide +kernel⟩
  unfold Row.ok cellsOk
  decide +kernel

end Examples

/-! ### 9. volume blocks of the phonon file listed in another order: identical or rejected

The reader returns the blocks in file order (`vol_blocks_file_order`, from C17's round trip); `QHACalculator.read_input` — translated on
every run into `Generated.VolOrder.readInputSteps` by tools/gens/volorder_src.py, its test read from the INSTALLED qha — stores the
per-block arrays in that order and first demands `numpy.all(numpy.diff(volumes) <= 0)`.  It is the first thing done with the blocks
(`vol_check_position_is_source`).  `runSteps Generated.VolOrder.readInputSteps` is the meaning of the translated method. -/

section VolOrder
open Cij.QhaInput Cij.VolOrder

/-- For every scalar type (Float in the driver, ordered fields below) and every data set the hand-written
`readInput` is the translated statement list run in order — same exception or same five arrays; its test is the expression the
installed qha spells in `is_monotonic_decreasing` (operator read from qha/tools.py on this run), which is what the guard calls. -/
theorem vol_check_is_source {α : Type} [Sub α] [OfNat α 0] [LT α] [DecidableLT α] [LE α] [DecidableLE α] (d : Data α) (a : List α) :
    runSteps Generated.VolOrder.readInputSteps d = (readInput d).map QhaArrays.toStore ∧
    isMonotonicDecreasing a = allDiff Generated.VolOrder.qhaMonotonicOp a ∧
    Generated.VolOrder.guardTestOrigin = "qha.tools.is_monotonic_decreasing" :=
  ⟨readInput_is_source d, rfl, rfl⟩

variable {K : Type} [Field K] [LinearOrder K] [IsStrictOrderedRing K]

/-- The translated `read_input` returns iff the volumes are non-increasing in FILE order — and then it has
stored every array in file order, nothing sorted, nothing dropped — and raises exactly `RuntimeError` otherwise.  (The installed
qha's test is `<= 0`, not `< 0`: equal neighbours pass.) -/
theorem vol_check_accepts_iff (d : Data K) :
    (runSteps Generated.VolOrder.readInputSteps d
        = .ok (QhaArrays.toStore { nm := d.nm, volumes := d.volumes.map (·.volume), energies := d.volumes.map (·.energy),
                                   frequencies := d.volumes.map fun v => v.qPoints.map (·.modes),
                                   weights := d.weights.map (·.weight) })
      ↔ d.volumes.Pairwise fun a b => b.volume ≤ a.volume) ∧
    (runSteps Generated.VolOrder.readInputSteps d = .error (.raised "RuntimeError")
      ↔ ¬ d.volumes.Pairwise fun a b => b.volume ≤ a.volume) := by
  have hs : runSteps Generated.VolOrder.readInputSteps d = (readInput d).map QhaArrays.toStore := readInput_is_source d
  rw [hs]
  -- `readInput` has exactly two outcomes, decided by the order of the volumes
  by_cases hp : d.volumes.Pairwise fun a b => b.volume ≤ a.volume
  · rw [(readInput_ok_iff d).mpr hp]
    exact ⟨iff_of_true rfl hp, iff_of_false (fun h => by cases h) (not_not.mpr hp)⟩
  · rw [(readInput_error_iff d).mpr hp]
    exact ⟨iff_of_false (fun h => by cases h) hp, iff_of_true rfl hp⟩

/-- **the last clause of the property, on the translated `read_input`, at full strength.**
A phonon file whose blocks are listed by strictly decreasing volume is accepted; for EVERY re-listing `bs'` of its blocks (any
permutation of the list of blocks — reversed, shuffled, one swap, …) the re-listed data set either IS the original one (the identity
re-listing: same results trivially) or is rejected with `RuntimeError` before anything is computed.  Never a third outcome. -/
theorem vol_relisting_rejected_or_identical (d : Data K) (bs' : List (VolumeData K)) (hperm : bs'.Perm d.volumes)
    (hdec : d.volumes.Pairwise fun a b => b.volume < a.volume) :
    (∃ r, runSteps Generated.VolOrder.readInputSteps d = .ok r) ∧
    (relist d bs' = d ∨ runSteps Generated.VolOrder.readInputSteps (relist d bs') = .error (.raised "RuntimeError")) := by
  refine ⟨⟨_, (vol_check_accepts_iff d).1.mpr (hdec.imp le_of_lt)⟩, ?_⟩
  by_cases hacc : (relist d bs').volumes.Pairwise fun a b => b.volume ≤ a.volume
  · left
    have : bs' = d.volumes := perm_eq_of_decreasing (fun v => v.volume) d.volumes bs' hperm hdec hacc
    rw [this]; rfl
  · right
    exact (vol_check_accepts_iff (relist d bs')).2.mpr hacc

/-- the same statement on the volumes alone: a permutation of a strictly decreasing list of volumes passes the installed qha's test
iff it is that list -/
theorem vol_order_unique (vols vols' : List K) (hperm : vols'.Perm vols) (hdec : vols.Pairwise fun a b => b < a) :
    allDiff Generated.VolOrder.qhaMonotonicOp vols' = true ↔ vols' = vols := by
  constructor
  · intro h
    exact perm_eq_of_decreasing (fun v => v) vols vols' hperm hdec ((allDiff_le_iff vols').mp h)
  · intro h
    rw [h]
    exact (allDiff_le_iff vols).mpr (hdec.imp le_of_lt)

/-- **files with a repeated volume.**  Because the test is not strict, a file with equal volumes
in neighbouring blocks IS accepted.  For ANY accepted file and ANY accepted re-listing of its blocks the list of volumes (hence qha's
`_volumes`) is the same: the two listings can differ only in the order of blocks that carry the SAME volume. -/
theorem vol_relisting_accepted_same_volumes (d : Data K) (bs' : List (VolumeData K)) (hperm : bs'.Perm d.volumes)
    (hacc : ∃ r, runSteps Generated.VolOrder.readInputSteps d = .ok r)
    (hacc' : ∃ r, runSteps Generated.VolOrder.readInputSteps (relist d bs') = .ok r) :
    bs'.map (·.volume) = d.volumes.map (·.volume) ∧
      ∀ v, (bs'.filter fun b => decide (b.volume = v)).Perm (d.volumes.filter fun b => decide (b.volume = v)) := by
  have h1 : d.volumes.Pairwise fun a b => b.volume ≤ a.volume := by
    by_contra hn
    obtain ⟨r, hr⟩ := hacc
    rw [(vol_check_accepts_iff d).2.mpr hn] at hr; cases hr
  have h2 : bs'.Pairwise fun a b => b.volume ≤ a.volume := by
    by_contra hn
    obtain ⟨r, hr⟩ := hacc'
    rw [(vol_check_accepts_iff (relist d bs')).2.mpr hn] at hr; cases hr
  exact ⟨perm_map_eq_of_nonincreasing (fun v => v.volume) d.volumes bs' hperm h1 h2, fun v => hperm.filter _⟩

/-- The blocks that share a volume are NOT protected: **vol_relisting_repeated_may_differ**.  Four blocks with volumes 3, 2, 2, 1
(the two blocks at volume 2 carry different frequencies, 5 and 7): the file and the re-listing that exchanges the two middle blocks are
both accepted by the translated `read_input`, they are different data sets, qha receives different `_frequencies`, and an interpolator
that thins its nodes by POSITION (`[::ceil(nv/order)]`, order 2: positions 0 and 2) builds on different frequencies — the numbers can
differ although no error is raised.  Reproduced on the real code by harness/c13.py (`vol-eqswap`). -/
theorem vol_relisting_repeated_may_differ :
    let blk : ℚ → ℚ → VolumeData ℚ := fun v f => ⟨0, v, 0, [⟨[], [0, 0, 0, f]⟩]⟩
    let d : Data ℚ := { nv := 4, nq := 1, np := 4, nm := 1, na := 1, weights := [⟨[0, 0, 0], 1⟩],
                        volumes := [blk 3 4, blk 2 5, blk 2 7, blk 1 9] }
    let bs' := [blk 3 4, blk 2 7, blk 2 5, blk 1 9]
    bs'.Perm d.volumes ∧ relist d bs' ≠ d ∧
    (runSteps Generated.VolOrder.readInputSteps d).toBool = true ∧
    (runSteps Generated.VolOrder.readInputSteps (relist d bs')).toBool = true ∧
    (runSteps Generated.VolOrder.readInputSteps d).map (·.lookup "_volumes")
      = (runSteps Generated.VolOrder.readInputSteps (relist d bs')).map (·.lookup "_volumes") ∧
    (runSteps Generated.VolOrder.readInputSteps d).map (·.lookup "_frequencies")
      ≠ (runSteps Generated.VolOrder.readInputSteps (relist d bs')).map (·.lookup "_frequencies") ∧
    Cij.Interp.thin 2 (d.volumes.map fun b => (b.qPoints.map (·.modes)).flatten.getD 3 0) = [4, 7] ∧
    Cij.Interp.thin 2 (bs'.map fun b => (b.qPoints.map (·.modes)).flatten.getD 3 0) = [4, 5] := by
  decide +kernel

/-- what a STRICT test would give (`numpy.all(numpy.diff(volumes) < 0)`, the repair suggested for the finding above): no list with a
repeated volume passes, in any order — a file with a repeated volume would never be accepted -/
theorem vol_strict_check_rejects_repeats (vols : List K) (h : ¬ vols.Nodup) : allDiff .lt vols = false := by
  by_contra hn
  exact h (allDiff_lt_nodup vols (by simpa using hn))

/-- The test the installed qha spells accepts equal neighbours -/
theorem vol_check_not_strict (x y : K) (hxy : y ≤ x) : allDiff Generated.VolOrder.qhaMonotonicOp [x, y, y] = true :=
  (allDiff_le_iff [x, y, y]).mpr (by simp [hxy])

/-- WHEN the check runs, from four translated pieces:
* inside `read_input` the guard tests `_volumes`, negated (`if not …`), directly after the statement that stores the file's volumes in
  file order, and no per-block array is stored before it;
* `read_input` is the first call `_load_qha_calculator` makes on the qha calculator (before `refine_grid`);
* the adapter is built in `Calculator._load`, the first step of `Calculator.__init__`, right after the two readers, and is the only
  statement of `_load` that is handed `self.qha_input`;
* the only other functions of cij/core that read the volume blocks are `interpolate_modes` and `_calculate_pressure_static`, both called
  by later steps of `__init__`.
So no number is computed from the blocks before their order has been checked. -/
theorem vol_check_position_is_source :
    (∃ pre post, Generated.VolOrder.readInputSteps
        = pre ++ [.perBlock "_volumes" .volume, .guard ⟨"_volumes", true, Generated.VolOrder.qhaMonotonicOp, "RuntimeError"⟩] ++ post ∧
      pre.all (fun s => match s with | .scalar _ _ => true | _ => false) = true ∧
      post.all (fun s => match s with | .guard _ => false | _ => true) = true) ∧
    Generated.adapterLoadCalls.head? = some ("read_input", "qha_input") ∧
    Generated.CalcGlue.initSteps.head? = some ("call", "_load", ["config_fname"]) ∧
    "Calculator._load" ∈ Generated.CalcGlue.pinnedMethods ∧
    Generated.VolOrder.loadSteps.map (fun s => (s.1, s.2.2))
      = [("config", false), ("config", false), ("qha_input", false), ("elast_data", false), ("qha_calculator", true)] ∧
    Generated.VolOrder.loadSteps.getLast? = some ("qha_calculator", "QHACalculatorAdapter", true) ∧
    Generated.VolOrder.volumeBlockReaders.map (fun r => (r.1, r.2.1))
      = [("calculator", "Calculator._calculate_pressure_static"), ("mode_gamma", "interpolate_modes"),
         ("qha_adapter", "QHACalculator.read_input")] ∧
    ("call", "_interpolate_modes", []) ∈ Generated.CalcGlue.initSteps.tail ∧
    ("call", "_calculate_pressure_static", []) ∈ Generated.CalcGlue.initSteps.tail := by
  exact ⟨⟨[.scalar "_formula_unit_number" "nm"], _, rfl, by decide +kernel, by decide +kernel⟩, by decide +kernel⟩

omit [Field K] [LinearOrder K] [IsStrictOrderedRing K] in
/-- "Listing the blocks in another order" in the FILE is `relist` on the reader's result: for every
well-formed data set and every list of blocks `bs'`, the file `write_energy` prints for the re-listed data set is read back by
`read_energy` with exactly the blocks `bs'`, in that order (numbers rounded to the printed precision) — the reader neither sorts nor
drops blocks (C17 `read_write_energy_source`, i.e. through the formats and regexes `Generated.Readers` holds now). -/
theorem vol_blocks_file_order {Num : Type} (F : NumFmt Num) (hF : F.Lawful) (d : Data Num) (bs' : List (VolumeData Num))
    (hd : WellFormed (relist d bs')) (comment : Line) (hc : matchInfo comment = none) :
    ∃ ls, writeEnergy F (relist d bs') comment = some ls ∧
      (readEnergy F ls).map (·.volumes) = some (bs'.map (roundVolume F)) := by
  obtain ⟨ls, hw, hr⟩ := Cij.C17.read_write_energy F hF (relist d bs') hd comment hc
  exact ⟨ls, hw, by rw [hr]; rfl⟩

end VolOrder

/-! ### 10. clauses 1–4 and 7 restated on the translated code

`Cij.NSGlue.srcLong` / `srcOff` bundle what tools/gens/nonshear_src.py reads off `nonshear.py` on this run (averaging method → module
function → reduction tree, `clear_gamma_point`, prefactor expressions, wiring, `Q`, bodies, T = 0 statements); `q1Src`/`q2Src` are the
translated `Q1`/`Q2`.  The invariance theorems of sections 1–3 are stated here for values ASSEMBLED FROM THOSE PIECES ONLY. -/

section OnSource
open Cij.NSGlue

/-- `self.average_over_modes` as translated (both classes) does not depend on the order of the q-points
after Γ listed together with their weights, on the order of the modes inside a q-point (Γ: of its non-acoustic modes), nor on a common
factor on all weights. -/
theorem avg_source_presentation :
    (∀ (r0 : List ℝ) (w0 : ℝ) (rs rs' : List (List ℝ)) (ws ws' : List ℝ), rs.length = ws.length → rs'.length = ws'.length →
      (rs.zip ws).Perm (rs'.zip ws') →
      srcLong.avg (r0 :: rs) (w0 :: ws) = srcLong.avg (r0 :: rs') (w0 :: ws') ∧
      srcOff.avg (r0 :: rs) (w0 :: ws) = srcOff.avg (r0 :: rs') (w0 :: ws')) ∧
    (∀ (r0 r0' : List ℝ) (rs rs' : List (List ℝ)) (w : List ℝ), (r0.drop 3).Perm (r0'.drop 3) → r0.length = r0'.length →
      List.Forall₂ List.Perm rs rs' →
      srcLong.avg (r0 :: rs) w = srcLong.avg (r0' :: rs') w ∧ srcOff.avg (r0 :: rs) w = srcOff.avg (r0' :: rs') w) ∧
    (∀ (X : List (List ℝ)) (w : List ℝ) (c : ℝ), c ≠ 0 → sumL w ≠ 0 →
      srcLong.avg X (w.map fun x => c * x) = srcLong.avg X w ∧ srcOff.avg X (w.map fun x => c * x) = srcOff.avg X w) := by
  refine ⟨fun r0 w0 rs rs' ws ws' hl hl' h => ?_, fun r0 r0' rs rs' w hΓ hlen hrs => ?_, fun X w c hc hw => ?_⟩
  · simp only [srcLong_avg, srcOff_avg, avg_perm_q r0 w0 rs rs' ws ws' hl hl' h, and_self]
  · simp only [srcLong_avg, srcOff_avg, avg_perm_modes r0 r0' rs rs' w hΓ hlen hrs, and_self]
  · simp only [srcLong_avg, srcOff_avg, avg_weight_scale X w c hc hw, and_self]

/-- `value_isothermal` of both non-shear classes, assembled from the translated pieces only, at any (T, V)
point: unchanged when the q-points after Γ are listed in another order together with their weights. -/
theorem values_source_perm_q (c : Consts ℝ) (T P cv V e0 e1 pst : ℝ) (g : QPoint) (qs qs' : List QPoint) (hq : qs.Perm qs') :
    srcLong.valueIsothermalAt q1Src q2Src c ((g :: qs).map (·.w)) T P cv (sliceOfQ V e0 e1 pst (g :: qs))
      = srcLong.valueIsothermalAt q1Src q2Src c ((g :: qs').map (·.w)) T P cv (sliceOfQ V e0 e1 pst (g :: qs')) ∧
    srcOff.valueIsothermalAt q1Src q2Src c ((g :: qs).map (·.w)) T P cv (sliceOfQ V e0 e1 pst (g :: qs))
      = srcOff.valueIsothermalAt q1Src q2Src c ((g :: qs').map (·.w)) T P cv (sliceOfQ V e0 e1 pst (g :: qs')) := by
  have h := isothermal_of_values (values_perm_q c T P cv V e0 e1 pst g qs qs' hq)
  exact srcValues_congr c T P cv _ _ _ _ h.1 h.2

/-- The same when the modes inside the q-points are listed in another order (Γ: its non-acoustic modes) -/
theorem values_source_perm_modes (c : Consts ℝ) (T P cv V e0 e1 pst : ℝ) (g g' : List ModeRec) (S S' : List (List ModeRec))
    (w : List ℝ) (hΓ : (g.drop 3).Perm (g'.drop 3)) (hlen : g.length = g'.length) (hS : List.Forall₂ List.Perm S S') :
    srcLong.valueIsothermalAt q1Src q2Src c w T P cv (sliceOfM V e0 e1 pst (g :: S))
      = srcLong.valueIsothermalAt q1Src q2Src c w T P cv (sliceOfM V e0 e1 pst (g' :: S')) ∧
    srcOff.valueIsothermalAt q1Src q2Src c w T P cv (sliceOfM V e0 e1 pst (g :: S))
      = srcOff.valueIsothermalAt q1Src q2Src c w T P cv (sliceOfM V e0 e1 pst (g' :: S')) := by
  have h := isothermal_of_values (values_perm_modes c T P cv V e0 e1 pst g g' S S' w hΓ hlen hS)
  exact srcValues_congr c T P cv _ _ _ _ h.1 h.2

/-- The same when all weights are multiplied by a common factor -/
theorem values_source_weight_scale (c : Consts ℝ) (T P cv : ℝ) (s : VolSlice ℝ) (w : List ℝ) (a : ℝ) (ha : a ≠ 0)
    (hw : sumL w ≠ 0) :
    srcLong.valueIsothermalAt q1Src q2Src c (w.map fun x => a * x) T P cv s = srcLong.valueIsothermalAt q1Src q2Src c w T P cv s ∧
    srcOff.valueIsothermalAt q1Src q2Src c (w.map fun x => a * x) T P cv s = srcOff.valueIsothermalAt q1Src q2Src c w T P cv s := by
  have h := isothermal_of_values (values_weight_scale c T P cv s w a ha hw)
  exact srcValues_congr c T P cv _ _ _ _ h.1 h.2

open Cij.Interp in
/-- **mode-by-mode independence on the translated glue.**  For every method that dispatches to a source function
`f` (order ≥ 1): the loop body of `interpolate_modes` for the position (j, k) is a function of THAT position's series alone — zeros in the
three Γ-acoustic slots, otherwise the nodes prepared as `Generated.modeNodesSpec` says `f` prepares them (thinned?/flipped?), handed to the
kernel, the samples mapped by the triple pattern `Generated.modeReturnPattern` holds for `f`; and the loop (skip condition, series
extraction, dispatch) is the one the translator compared.  This is the per-cell fact `interp_perm_equivariant(_total)` rests on. -/
theorem interp_cell_is_source {α : Type} [Neg α] [Zero α] [ExpLog α] (m : Method) (f : String) (h : m.pyFunction = some f)
    (order : ℕ) (ho : order ≠ 0) (I : Interpolant α) (vols vArray : List α) :
    Generated.interpolateModesLoopCanonical = true ∧
    Generated.modeReturnPattern.lookup f = some canonicalPattern ∧
    ∃ sp, Generated.modeNodesSpec.lookup f = some sp ∧ ∀ (j k : ℕ) (ser : List α),
      cell m order I vols vArray j k ser =
        if isΓac (j, k) then .ok (vArray.map fun _ => (0, 0, 0))
        else if m = .hermite then .error .typeError
        else (do
          let r ← I ((nodesBySpec sp order vols).map ExpLog.log) ((nodesBySpec sp order ser).map ExpLog.log) (vArray.map ExpLog.log)
          pure (r.map fun t => (applyElem t (true, false, 0), applyElem t (false, true, 1), applyElem t (false, true, 2)))) := by
  obtain ⟨hpat, -, sp, hsp, hnodes⟩ := Cij.C11.mode_glue_is_source m f h order ho I vols vols vols vols vArray
  refine ⟨rfl, hpat, sp, hsp, fun j k ser => ?_⟩
  obtain ⟨sp', hsp', hn⟩ := mode_nodes_is_source m f h order ho vols ser
  rw [hsp] at hsp'
  cases hsp'
  have hunk : m ≠ .unknown := by
    intro hm; rw [hm] at h; cases h
  unfold cell isΓac interpolateMode
  rw [hn, beq_eq_false_iff_ne.mpr hunk]
  simp only [beq_iff_eq, Bool.false_eq_true, if_false]
  rfl

open Cij.ElastDat Cij.ReadersSource Generated in
/-- **columns by name, rows in file order.**  `read_elast_data` as `Generated.Readers` describes it now: a table
row is read as `fields[rowVolumeIndex]` + `zip(keys[rowKeySlice:], fields[rowValueSlice:])` — every value is stored under the KEY of its
column (the key line through `_find_modulus_key`, whatever prefix/case), the rows are consed in FILE order (nothing sorted: the reference
volume of `fit_modulus` is the first listed row, which `static_row_perm` shows to be immaterial), and the lattice rows likewise. -/
theorem static_reader_is_source {Num : Type} (F : NumFmt Num) :
    (∀ keys n ls, readRows F keys (n + 1) ls = ((ls.headD []).mapM (convNum F Readers.rowConv)).bind fun fields =>
      (fields[Readers.rowVolumeIndex]?).bind fun v =>
        (readRows F keys n ls.tail).bind fun (vs, r) =>
          some (⟨v, dictOfZip (keys.drop Readers.rowKeySlice) (fields.drop Readers.rowValueSlice)⟩ :: vs, r)) ∧
    (∀ n ls, readLattice F (n + 1) ls = ((ls.headD []).mapM (convNum F Readers.latticeConv)).bind fun fields =>
      (readLattice F n ls.tail).bind fun rest => some (fields :: rest)) ∧
    Readers.rowKeySlice = Readers.rowValueSlice :=
  ⟨(Cij.C17.readers_model_is_source_elast F).2.1, (Cij.C17.readers_model_is_source_elast F).2.2.1, by decide +kernel⟩

end OnSource

/-! #### non-vacuity of sections 9 and 10 -/

section Examples2
open Cij.QhaInput Cij.VolOrder

/-- a 4-block data set over ℚ listed by decreasing volume (hypothesis of `vol_relisting_rejected_or_identical`) … -/
def blocks4 : List (VolumeData ℚ) :=
  [⟨0, 40, -1, [⟨[], [0, 0, 0, 9]⟩]⟩, ⟨1, 35, -2, [⟨[], [0, 0, 0, 10]⟩]⟩, ⟨2, 30, -2, [⟨[], [0, 0, 0, 12]⟩]⟩,
   ⟨3, 25, -1, [⟨[], [0, 0, 0, 15]⟩]⟩]
/-- the same blocks with the two middle ones exchanged -/
def blocks4swap : List (VolumeData ℚ) :=
  [⟨0, 40, -1, [⟨[], [0, 0, 0, 9]⟩]⟩, ⟨2, 30, -2, [⟨[], [0, 0, 0, 12]⟩]⟩, ⟨1, 35, -2, [⟨[], [0, 0, 0, 10]⟩]⟩,
   ⟨3, 25, -1, [⟨[], [0, 0, 0, 15]⟩]⟩]
def data4 : Data ℚ := { nv := 4, nq := 1, np := 4, nm := 2, na := 1, weights := [⟨[0, 0, 0], 1⟩], volumes := blocks4 }

example : (blocks4.Pairwise fun a b => b.volume < a.volume) ∧ blocks4swap.Perm blocks4 ∧ blocks4.reverse.Perm blocks4 ∧
    (blocks4.rotate 1).Perm blocks4 := by decide +kernel

/-- `data4` is accepted by the translated `read_input`, arrays in file order; reversed, with the two middle blocks exchanged, and rotated it is
rejected with RuntimeError — the three non-identity re-listings tried here are all instances of the second disjunct -/
example : runSteps Generated.VolOrder.readInputSteps data4
      = .ok [("_q_weights", .vec [1]), ("_frequencies", .cube [[[0, 0, 0, 9]], [[0, 0, 0, 10]], [[0, 0, 0, 12]], [[0, 0, 0, 15]]]),
             ("_static_energies", .vec [-1, -2, -2, -1]), ("_volumes", .vec [40, 35, 30, 25]), ("_formula_unit_number", .nat 2)] ∧
    runSteps Generated.VolOrder.readInputSteps (relist data4 blocks4.reverse) = .error (.raised "RuntimeError") ∧
    runSteps Generated.VolOrder.readInputSteps (relist data4 blocks4swap) = .error (.raised "RuntimeError") ∧
    runSteps Generated.VolOrder.readInputSteps (relist data4 (blocks4.rotate 1)) = .error (.raised "RuntimeError") := by
  decide +kernel

/-- the boundary cases of the test as the installed qha spells it: no block / one block pass; equal neighbours pass; an increase fails -/
example : allDiff Generated.VolOrder.qhaMonotonicOp ([] : List ℚ) = true ∧ allDiff Generated.VolOrder.qhaMonotonicOp [(7 : ℚ)] = true ∧
    allDiff Generated.VolOrder.qhaMonotonicOp [(3 : ℚ), 2, 2, 1] = true ∧ allDiff Generated.VolOrder.qhaMonotonicOp [(3 : ℚ), 2, 5 / 2, 1] = false ∧
    allDiff .lt [(3 : ℚ), 2, 2, 1] = false := by
  decide +kernel

/-- `avg_source_presentation` is about a non-trivial function: the translated averaging on a 2-q-point array -/
example : Cij.NSGlue.srcOff.avg [[7, 7, 7, 3], [1, 1, 1, 1]] ([1, 3] : List ℝ) = some (15 / 16) := by
  rw [Cij.NSGlue.srcOff_avg]
  norm_num [averageOverModes, clearGamma, zeroFirst, mean, sumL]

/-- `interp_cell_is_source`: every method has a source function, and the node preparation differs between them (lsq_poly: file order;
lagrange: thinned and flipped) -/
example : (Cij.Interp.Method.lsqPoly).pyFunction = some "interpolate_mode_lsq_poly" ∧
    Generated.modeNodesSpec.lookup "interpolate_mode_lsq_poly" = some (false, false) ∧
    Generated.modeNodesSpec.lookup "interpolate_mode_lagrange" = some (true, true) ∧
    Cij.Interp.nodesBySpec (true, true) 2 [(40 : ℚ), 35, 30, 25] = [30, 40] := by
  decide +kernel

end Examples2

/-! #### ties shared with other properties

The statement of this property also rests on code whose translation is owned by another property's file; the theorems are restated
here so that this property's obligations are re-checked against those files too (a change there breaks THIS check's proof as well). -/

/-- `full_modulus.py` / `_calculate_pressure_static` as translated on this run: default fit orders, degree offset, and the bodies of
`fit_modulus`, `get_axial_strains`, `get_static_modulus`, `modulus_adiabatic`, `modulus_isothermal` are the ones the model implements -/
theorem c13_full_modulus_is_source :
    Generated.fitModulusDegOffset = 1 ∧ Generated.fullModulusBodiesCanonical = true ∧
    Generated.fitModulusDefaultOrder = 2 ∧ Generated.staticPressureDefaultOrder = 3 := by decide +kernel

/-- `qha_adapter.py` as translated on this run: the (T,V) interface hands over qha's (T,V) fields (`heat_capacity = cv_tv_au`,
`pressures = p_tv_au`), the (T,P) interface `volumes = v_tp_bohr3`, `p_array = desired_pressures`; `read_input` passes the file's
fields unchanged; the requested grid is accepted by exactly the guard the model implements -/
theorem c13_qha_adapter_is_source {α : Type} [OfNat α 0] [LT α] [DecidableLT α] (pTvGpa : List (List α)) (desiredGpa : List α) :
    Generated.qhaVolumeBaseAttrs.lookup "heat_capacity" = some "cv_tv_au" ∧
    Generated.qhaVolumeBaseAttrs.lookup "pressures" = some "p_tv_au" ∧
    Generated.qhaPressureBaseAttrs.lookup "volumes" = some "v_tp_bohr3" ∧
    Generated.qhaPressureBaseAttrs.lookup "p_array" = some "desired_pressures" ∧
    Generated.qhaReadInputCanonical = true ∧
    Cij.AdapterGuardSource.evalGuard Generated.pressureGuard pTvGpa desiredGpa = some (Cij.V2P.desiredPressureStatus pTvGpa desiredGpa) :=
  ⟨by decide +kernel, by decide +kernel, by decide +kernel, by decide +kernel, rfl, Cij.AdapterGuardSource.desiredPressureStatus_is_source pTvGpa desiredGpa⟩

/-- `nonshear.py` as translated on this run: the model's isothermal and adiabatic values of both non-shear classes are the
translated bodies (zero-point + thermal; isothermal + gap), for every scalar type -/
theorem c13_nonshear_is_source {α : Type} [Cij.NonShear.Scalar α] [Add α] [Sub α] [Mul α] [Div α] [Neg α]
    (c : Cij.NonShear.Consts α) (w : List α) (T P cv : α) (s : Cij.NonShear.VolSlice α) (a b : α) :
    Cij.NonShear.valueAdiabaticLongAt c w T cv s =
      Cij.NSExpr.evalBody (Cij.NSExpr.envAt c w T P cv s (Cij.NonShear.mgLong s) a b (Cij.NonShear.valueIsothermalLongAt c w T s)
        (Cij.NonShear.isoToAdiaAt c.k c.hdk c.na T s.V cv (Cij.NonShear.mgLong s) s.freq w)) Generated.nsAdiaLong ∧
    Cij.NonShear.valueAdiabaticOffAt c w T P cv s =
      Cij.NSExpr.evalBody (Cij.NSExpr.envAt c w T P cv s (Cij.NonShear.mgOff s) a b (Cij.NonShear.valueIsothermalOffAt c w T P s)
        (Cij.NonShear.isoToAdiaAt c.k c.hdk c.na T s.V cv (Cij.NonShear.mgOff s) s.freq w)) Generated.nsAdiaOff :=
  ⟨Cij.NSExpr.valueAdiabaticLong_is_source c w T P cv s a b, Cij.NSExpr.valueAdiabaticOff_is_source c w T P cv s a b⟩

/-- `cij/io/traditional/elast_dat.py` (+ package glue) as translated on this run: `read_elast_data` and
`apply_symetry_on_elast_data` are the statements the reader model mirrors (rows in file order, lattice block in file order, one frame row
per volume BY NAME `"c%s%s" % key.v`, `fill_cij(df, **symmetry)` with the caller's dictionary untouched, rows written back as fresh
mappings from `c_(key[1:])`), and the package re-exports the readers themselves (no caching wrapper) -/
theorem c13_readers_are_source :
    Generated.Readers.elastDatCanonical = true ∧ Generated.Readers.columnLiterals = ["c", ""] ∧ Generated.Readers.backSlice = 1 ∧
    Generated.Readers.fillPositional = 1 ∧ Generated.Readers.fillKeywords = ["**<symmetry>"] ∧
    Generated.Readers.rowVolumeIndex = 0 ∧ Generated.Readers.rowKeySlice = 1 ∧ Generated.Readers.rowValueSlice = 1 ∧
    ("read_energy", "qha_input", "read_energy") ∈ Generated.Readers.packageImports ∧
    ("read_elast_data", "elast_dat", "read_elast_data") ∈ Generated.Readers.packageImports := by decide +kernel

end Cij.C13
