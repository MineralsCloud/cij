/-
  C20 — eigenvector tools: sorting recovers the permutation; displacement → eigenvector conversion; loader.

  Statements are about `CijModel/Evec.lean` (the functions the driver runs against the real `evec_sort`,
  `evec_disp2eig`, `evec_load`).  The greedy loop is proved over ANY linearly ordered type with a zero; the
  margin theorem over any real or complex inner-product space; the conversion over ℝ-pairs (`Cx ℝ`).
  The two are joined: the model's `overlap` on ℝ-pairs is Mathlib's `inner` on `EuclideanSpace ℂ (Fin n)`
  (`overlap_is_inner`), hence `evecSort_recovers` — the end-to-end statement about `Evec.evecSort` itself.
  Floating-point rounding and `float()` are outside the model.
  The last section (`evec_model_is_source…`) ties the model to the SOURCE of the three files: `tools/gens/evec_src.py` extracts set
  display, tests, matrix expressions, loop statements, both regex literals, column slices, converters and step lists into
  `Generated/EvecSpec.lean`; `CijModel/EvecSrc.lean` interprets that data with its Python/numpy meaning (the regexes by a backtracking
  matcher); the theorems say the interpreted source IS the model, for all inputs.
-/
import CijProofs.Lemmas.Evec
import CijProofs.Lemmas.EvecBridge
import CijProofs.Lemmas.EvecSource

namespace Cij.C20
open Cij Cij.Evec

/-! ### evec_sort: the greedy loop recovers a planted permutation -/

section sort
variable {α : Type} [LinearOrder α] [Zero α] {ι : Type}

/-- If `π` permutes the indices `< n` and every planted entry `a i (π i)` is positive and strictly
larger than every other entry of its row, the loop of `evec_sort` puts `target[π i]` at position `i`, for all `i`.
(Induction over the rounds: the eliminated rows/columns are always planted pairs, `Evec.greedyLoop_elim`.)
Dominance over the column is NOT needed. -/
theorem greedy_recovers (n : Nat) (a : Nat → Nat → α) (π : Nat → Nat) (hP : Planted n a π) (target : Nat → ι) :
    ∀ i < n, evecSortMag n a target i = some (target (π i)) :=
  evecSortMag_planted n a π hP target

/-- the form of the loop that the driver executes (`evecSortRun`, picked pairs as an explicit list) is the same function,
so it returns exactly the planted arrangement -/
theorem greedy_recovers_run (n : Nat) (a : Nat → Nat → α) (π : Nat → Nat) (hP : Planted n a π) (target : Nat → ι) :
    evecSortRun n a target = (List.range n).map fun i => some (target (π i)) := by
  rw [evecSortRun_eq]
  apply List.map_congr_left
  intro i hi
  exact greedy_recovers n a π hP target i (List.mem_range.mp hi)

/-- the same from the hypothesis as the property words it: non-negative magnitudes, `n ≥ 2`, every planted entry
strictly dominates the other entries of its row (positivity then follows) -/
theorem greedy_recovers' (n : Nat) (hn : 2 ≤ n) (a : Nat → Nat → α) (π : Nat → Nat)
    (hrange : ∀ i < n, π i < n) (hinj : ∀ i < n, ∀ j < n, π i = π j → i = j)
    (hnonneg : ∀ i < n, ∀ j < n, 0 ≤ a i j)
    (hrow : ∀ i < n, ∀ j < n, j ≠ π i → a i j < a i (π i)) (target : Nat → ι) :
    ∀ i < n, evecSortMag n a target i = some (target (π i)) := by
  apply greedy_recovers n a π ⟨hrange, hinj, ?_, hrow⟩
  intro i hi
  -- some other column exists because n ≥ 2
  obtain ⟨j, hj, hne⟩ : ∃ j < n, j ≠ π i := by
    by_cases h0 : π i = 0
    · exact ⟨1, by omega, by omega⟩
    · exact ⟨0, by omega, fun h => h0 h.symm⟩
  exact lt_of_le_of_lt (hnonneg i hi j hj) (hrow i hi j hj hne)

/-- Under the same hypothesis the output list is a permutation of the input list. -/
theorem greedy_perm (n : Nat) (a : Nat → Nat → α) (π : Nat → Nat) (hP : Planted n a π) (target : Nat → ι) :
    List.Perm ((List.range n).map (evecSortMag n a target)) ((List.range n).map fun j => some (target j)) := by
  have h1 : (List.range n).map (evecSortMag n a target) = ((List.range n).map π).map fun j => some (target j) := by
    rw [List.map_map]
    apply List.map_congr_left
    intro i hi
    exact greedy_recovers n a π hP target i (List.mem_range.mp hi)
  rw [h1]
  exact (map_perm_range n π hP.range hP.inj).map _

end sort

/-- Without dominance the result need not be a permutation (outside C20's quantifier — this is why the
hypothesis is there): two identical target vectors give the magnitude matrix [[1,1],[0,0]]; after the first round the
remainder is all zero, numpy's argmax returns (0,0) again, position 0 is assigned twice and position 1 stays `None`. -/
theorem greedy_not_perm_without_dominance :
    let a : Nat → Nat → Nat := fun i _ => if i = 0 then 1 else 0
    (List.range 2).map (evecSortMag 2 a (fun j => j)) = [some 0, none] := by
  decide

/-! ### the dominance hypothesis holds, with margin, for a permuted / re-phased / perturbed copy of an orthonormal basis -/

section margin
variable {𝕜 E : Type*} [RCLike 𝕜] [NormedAddCommGroup E] [InnerProductSpace 𝕜 E] {ι : Type}

/-- `b` orthonormal (real or complex), `t j = c j • b (σ j) + δ j` with unit phases `c j` and perturbations
`‖δ j‖ ≤ ε`: every planted overlap magnitude is ≥ 1 − ε and every other one ≤ ε, so for ε < 1/2 the planted entry
dominates its row AND its column with margin ≥ 1 − 2ε. -/
theorem dominance_margin (n : ℕ) (b t δ : ℕ → E) (c : ℕ → 𝕜) (σ π : ℕ → ℕ) (ε : ℝ)
    (hnorm : ∀ i < n, ‖b i‖ = 1) (horth : ∀ i < n, ∀ k < n, i ≠ k → inner 𝕜 (b i) (b k) = 0)
    (hc : ∀ j < n, ‖c j‖ = 1) (ht : ∀ j < n, t j = c j • b (σ j) + δ j) (hδ : ∀ j < n, ‖δ j‖ ≤ ε)
    (hσ : ∀ j < n, σ j < n) (hπ : ∀ i < n, π i < n) (hσπ : ∀ i < n, σ (π i) = i) (hπσ : ∀ j < n, π (σ j) = j) :
    ∀ i < n, ∀ j < n, j ≠ π i →
      (1 - 2 * ε ≤ ‖inner 𝕜 (b i) (t (π i))‖ - ‖inner 𝕜 (b i) (t j)‖) ∧          -- row
      (1 - 2 * ε ≤ ‖inner 𝕜 (b (σ j)) (t j)‖ - ‖inner 𝕜 (b i) (t j)‖) := by     -- column of t j
  intro i hi j hj hne
  have hb := overlap_bounds n b t δ c σ ε hnorm horth hc ht hδ hσ
  have h1 := (hb i (π i) hi (hπ i hi)).1 (hσπ i hi)
  have h2 := (hb i j hi hj).2 (fun h => hne (by rw [← h, hπσ j hj]))
  have h3 := (hb (σ j) j (hσ j hj) hj).1 rfl
  constructor <;> linarith

/-- Sort recovers for any perturbation below one half (the property's 5 % is `ε = 1/20`): the loop of `evec_sort`
on the exact overlap magnitudes places `items[π i]` — the item whose vector is the re-phased, perturbed copy of base
vector `i` — at position `i`, and the result is a permutation of the items. -/
theorem sort_recovers_perturbed (n : ℕ) (b t δ : ℕ → E) (c : ℕ → 𝕜) (σ π : ℕ → ℕ) (ε : ℝ)
    (hnorm : ∀ i < n, ‖b i‖ = 1) (horth : ∀ i < n, ∀ k < n, i ≠ k → inner 𝕜 (b i) (b k) = 0)
    (hc : ∀ j < n, ‖c j‖ = 1) (ht : ∀ j < n, t j = c j • b (σ j) + δ j) (hδ : ∀ j < n, ‖δ j‖ ≤ ε) (hε : ε < 1 / 2)
    (hσ : ∀ j < n, σ j < n) (hπ : ∀ i < n, π i < n) (hσπ : ∀ i < n, σ (π i) = i) (hπσ : ∀ j < n, π (σ j) = j)
    (items : ℕ → ι) :
    (∀ i < n, evecSortMag n (fun i j => ‖inner 𝕜 (b i) (t j)‖) items i = some (items (π i))) ∧
    List.Perm ((List.range n).map (evecSortMag n (fun i j => ‖inner 𝕜 (b i) (t j)‖) items))
      ((List.range n).map fun j => some (items j)) := by
  have hP := planted_of_perturbed n b t δ c σ π ε hnorm horth hc ht hδ hε hσ hπ hσπ hπσ
  exact ⟨greedy_recovers n _ π hP items, greedy_perm n _ π hP items⟩

/-- the exact case ε = 0 (pure permutation and phases) as an instance -/
example (n : ℕ) (b t : ℕ → E) (c : ℕ → 𝕜) (σ π : ℕ → ℕ)
    (hnorm : ∀ i < n, ‖b i‖ = 1) (horth : ∀ i < n, ∀ k < n, i ≠ k → inner 𝕜 (b i) (b k) = 0)
    (hc : ∀ j < n, ‖c j‖ = 1) (ht : ∀ j < n, t j = c j • b (σ j))
    (hσ : ∀ j < n, σ j < n) (hπ : ∀ i < n, π i < n) (hσπ : ∀ i < n, σ (π i) = i) (hπσ : ∀ j < n, π (σ j) = j)
    (items : ℕ → ι) : ∀ i < n, evecSortMag n (fun i j => ‖inner 𝕜 (b i) (t j)‖) items i = some (items (π i)) :=
  (sort_recovers_perturbed n b t (fun _ => 0) c σ π 0 hnorm horth hc (fun j hj => by rw [ht j hj, add_zero])
    (fun _ _ => by simp) (by norm_num) hσ hπ hσπ hπσ items).1

/-- the 5 % case -/
example (n : ℕ) (b t δ : ℕ → E) (c : ℕ → 𝕜) (σ π : ℕ → ℕ)
    (hnorm : ∀ i < n, ‖b i‖ = 1) (horth : ∀ i < n, ∀ k < n, i ≠ k → inner 𝕜 (b i) (b k) = 0)
    (hc : ∀ j < n, ‖c j‖ = 1) (ht : ∀ j < n, t j = c j • b (σ j) + δ j) (hδ : ∀ j < n, ‖δ j‖ ≤ 1 / 20)
    (hσ : ∀ j < n, σ j < n) (hπ : ∀ i < n, π i < n) (hσπ : ∀ i < n, σ (π i) = i) (hπσ : ∀ j < n, π (σ j) = j)
    (items : ℕ → ι) : ∀ i < n, evecSortMag n (fun i j => ‖inner 𝕜 (b i) (t j)‖) items i = some (items (π i)) :=
  (sort_recovers_perturbed n b t δ c σ π (1 / 20) hnorm horth hc ht hδ (by norm_num) hσ hπ hσπ hπσ items).1

end margin

/-! ### the bridge: the model's overlaps ARE Mathlib's inner products; end-to-end statement about `Evec.evecSort` -/

section bridge
variable {ι : Type}

/-- `Cx.toC : Cx ℝ → ℂ` and `toVec n : List (Cx ℝ) → EuclideanSpace ℂ (Fin n)` (Lemmas/EvecBridge.lean) turn the
model's ℝ-pairs and lists into Mathlib's complex numbers and Euclidean vectors.  One entry of
`numpy.conj(base) @ target.T` — the model's `overlap b t = Σ_k conj(b_k)·t_k` — is `⟪b, t⟫_ℂ` (Mathlib's inner product
is conjugate-linear in its FIRST argument: the base vector is the conjugated one, as in the Python), and `numpy.abs` of
it (`Cx.abs`, √(re²+im²) on pairs) is the norm `‖⟪b, t⟫‖` the margin theorems are about. -/
theorem overlap_is_inner (n : ℕ) (b t : List (Cx ℝ)) (hb : b.length = n) (ht : t.length = n) :
    Cx.toC (overlap b t) = inner ℂ (toVec n b) (toVec n t) ∧
    Cx.abs (overlap b t) = ‖inner ℂ (toVec n b) (toVec n t)‖ :=
  ⟨toC_overlap_eq_inner n b t hb ht, abs_overlap_eq_norm_inner n b t hb ht⟩

/-- … and the squared norm is `Σ|v_k|²` on pairs -/
theorem norm_sq_is_sumNormSq (n : ℕ) (v : List (Cx ℝ)) (hv : v.length = n) : ‖toVec n v‖ ^ 2 = sumNormSq v :=
  norm_toVec_sq n v hv

/-- Sort recovers, end to end — about `Evec.evecSort` itself (the function the driver runs against the real
`evec_sort`), over ℝ-pairs.  `B`: `n = len(items)` base vectors, orthonormal for the model's Hermitian product;
`T[j] = c_j · B[σ j] + D_j` component by component, with unit phases `|c_j|² = 1` and perturbation rows
`Σ_k |D_j[k]|² ≤ ε²` (row norm ≤ ε; a perturbation matrix of operator norm ≤ ε has such rows), `0 ≤ ε < 1/2`; `σ`, `π`
mutually inverse on `{0,…,n-1}`.  Then `evec_sort(items, T, B)` answers, position `i` holds `items[π i]` — the item
whose vector is the re-phased, perturbed copy of base vector `i` — and the answer is a permutation of the items
(in particular no `None` entry). -/
theorem evecSort_recovers (items : List ι) (B T : List (List (Cx ℝ))) (c : ℕ → Cx ℝ) (D : ℕ → List (Cx ℝ))
    (σ π : ℕ → ℕ) (ε : ℝ)
    (hB : B.length = items.length) (hT : T.length = items.length) (hBl : ∀ v ∈ B, v.length = items.length)
    (horth : ∀ (i k : ℕ) (hi : i < B.length) (hk : k < B.length),
      overlap B[i] B[k] = if i = k then ⟨1, 0⟩ else ⟨0, 0⟩)
    (hc : ∀ j < items.length, Cx.normSq (c j) = 1)
    (hDl : ∀ j < items.length, (D j).length = items.length)
    (hD : ∀ j < items.length, sumNormSq (D j) ≤ ε ^ 2) (hε0 : 0 ≤ ε) (hε : ε < 1 / 2)
    (hTj : ∀ (j : ℕ) (hj : j < T.length),
      T[j] = List.zipWith (fun bk dk => Cx.add (Cx.mul (c j) bk) dk) (B.getD (σ j) []) (D j))
    (hσ : ∀ j < items.length, σ j < items.length) (hπ : ∀ i < items.length, π i < items.length)
    (hσπ : ∀ i < items.length, σ (π i) = i) (hπσ : ∀ j < items.length, π (σ j) = j) :
    evecSort items T B = some ((List.range items.length).map fun i => items[π i]?) ∧
    (∀ i < items.length, ∃ x, items[π i]? = some x) ∧
    ((List.range items.length).map fun i => items[π i]?).Perm (items.map some) := by
  set n := items.length with hn
  have hBget : ∀ i (hi : i < n), B.getD i [] = B[i]'(hB ▸ hi) := by
    intro i hi; simp [List.getD_eq_getElem?_getD, hB, hi]
  have hTget : ∀ j (hj : j < n), T.getD j [] = T[j]'(hT ▸ hj) := by
    intro j hj; simp [List.getD_eq_getElem?_getD, hT, hj]
  have hBlen : ∀ i < n, (B.getD i []).length = n := by
    intro i hi; rw [hBget i hi]; exact hBl _ (List.getElem_mem _)
  have hTlen : ∀ j < n, (T.getD j []).length = n := by
    intro j hj
    rw [hTget j hj, hTj j (hT ▸ hj), List.length_zipWith, hBlen _ (hσ j hj), hDl j hj, Nat.min_self]
  -- the Mathlib side
  have hnorm : ∀ i < n, ‖toVec n (B.getD i [])‖ = 1 := by
    intro i hi
    have h1 := norm_toVec_sq n _ (hBlen i hi)
    have h2 := horth i i (hB ▸ hi) (hB ▸ hi)
    rw [overlap_self, if_pos rfl] at h2
    have h3 : sumNormSq (B.getD i []) = 1 := by rw [hBget i hi]; exact congrArg Cx.re h2
    rw [h3] at h1
    exact (pow_eq_one_iff_of_nonneg (norm_nonneg _) two_ne_zero).mp h1
  have horth' : ∀ i < n, ∀ k < n, i ≠ k → inner ℂ (toVec n (B.getD i [])) (toVec n (B.getD k [])) = 0 := by
    intro i hi k hk hik
    rw [← toC_overlap_eq_inner n _ _ (hBlen i hi) (hBlen k hk), hBget i hi, hBget k hk,
      horth i k (hB ▸ hi) (hB ▸ hk), if_neg hik]
    exact toC_zero
  have hc' : ∀ j < n, ‖Cx.toC (c j)‖ = 1 := by
    intro j hj
    have h1 := normSq_eq_norm_sq (c j)
    rw [hc j hj] at h1
    exact (pow_eq_one_iff_of_nonneg (norm_nonneg _) two_ne_zero).mp h1.symm
  have ht : ∀ j < n, toVec n (T.getD j []) = Cx.toC (c j) • toVec n (B.getD (σ j) []) + toVec n (D j) := by
    intro j hj
    rw [hTget j hj, hTj j (hT ▸ hj)]
    exact toVec_combination n (c j) _ _ (hBlen _ (hσ j hj)) (hDl j hj)
  have hδ : ∀ j < n, ‖toVec n (D j)‖ ≤ ε := by
    intro j hj
    calc ‖toVec n (D j)‖ = Real.sqrt (‖toVec n (D j)‖ ^ 2) := (Real.sqrt_sq (norm_nonneg _)).symm
      _ ≤ Real.sqrt (ε ^ 2) := Real.sqrt_le_sqrt (by rw [norm_toVec_sq n _ (hDl j hj)]; exact hD j hj)
      _ = ε := Real.sqrt_sq hε0
  have hP' := planted_of_perturbed n (fun i => toVec n (B.getD i [])) (fun j => toVec n (T.getD j []))
    (fun j => toVec n (D j)) (fun j => Cx.toC (c j)) σ π ε hnorm horth' hc' ht hδ hε hσ hπ hσπ hπσ
  -- the model side: the matrix inside `evecSort` is that matrix
  have hP : Planted n (magMat T B) π := by
    apply Planted.congr hP'
    intro i hi j hj
    rw [magMat_apply T B i j (hB ▸ hi) (hT ▸ hj), ← hBget i hi, ← hTget j hj]
    exact abs_overlap_eq_norm_inner n _ _ (hBlen i hi) (hTlen j hj)
  have hd : dimsOk n T B = true := by
    rw [dimsOk_iff]
    refine ⟨hT, hB, ?_⟩
    intro v hv
    rcases List.mem_append.mp hv with hv | hv
    · obtain ⟨j, hj, rfl⟩ := List.getElem_of_mem hv
      rw [← hTget j (hT ▸ hj)]; exact hTlen j (hT ▸ hj)
    · exact hBl v hv
  obtain ⟨h1, h2⟩ := evecSort_planted items T B π hd hP
  refine ⟨h1, ?_, h2⟩
  intro i hi
  exact ⟨items[π i]'(hπ i hi), List.getElem?_eq_getElem (hπ i hi)⟩

/-- non-vacuity, explicit numbers (n = 2): base = the rotation (3/5, 4/5), (−4/5, 3/5); the two targets are the base
vectors SWAPPED, multiplied by the phases `i` and `−1`, and perturbed by 1/10 in one component (ε = 1/10):
`evec_sort(["x", "y"], T, B)` returns `["y", "x"]`. -/
example :
    evecSort ["x", "y"]
      [[⟨1 / 10, -4 / 5⟩, ⟨0, 3 / 5⟩], [⟨-3 / 5, 0⟩, ⟨-4 / 5, -1 / 10⟩]]
      [[(⟨3 / 5, 0⟩ : Cx ℝ), ⟨4 / 5, 0⟩], [⟨-4 / 5, 0⟩, ⟨3 / 5, 0⟩]] = some [some "y", some "x"] := by
  have h := (evecSort_recovers ["x", "y"]
    [[(⟨3 / 5, 0⟩ : Cx ℝ), ⟨4 / 5, 0⟩], [⟨-4 / 5, 0⟩, ⟨3 / 5, 0⟩]]
    [[⟨1 / 10, -4 / 5⟩, ⟨0, 3 / 5⟩], [⟨-3 / 5, 0⟩, ⟨-4 / 5, -1 / 10⟩]]
    (fun j => if j = 0 then ⟨0, 1⟩ else ⟨-1, 0⟩)
    (fun j => if j = 0 then [⟨1 / 10, 0⟩, ⟨0, 0⟩] else [⟨0, 0⟩, ⟨0, -1 / 10⟩])
    (fun j => 1 - j) (fun i => 1 - i) (1 / 10) rfl rfl
    (by intro v hv; simp at hv; rcases hv with rfl | rfl <;> rfl)
    (by
      intro i k hi hk
      simp only [List.length_cons, List.length_nil] at hi hk
      interval_cases i <;> interval_cases k <;> norm_num [overlap, Cx.add, Cx.mul, Cx.conj, Cx.zero])
    (by intro j _; by_cases hj : j = 0 <;> simp [hj, Cx.normSq])
    (by intro j _; by_cases hj : j = 0 <;> simp [hj])
    (by intro j _; by_cases hj : j = 0 <;> norm_num [hj, sumNormSq, Cx.normSq])
    (by norm_num) (by norm_num)
    (by
      intro j hj
      simp only [List.length_cons, List.length_nil] at hj
      interval_cases j <;> norm_num [Cx.add, Cx.mul])
    (by intro j hj; simp only [List.length_cons, List.length_nil] at hj ⊢; omega)
    (by intro j hj; simp only [List.length_cons, List.length_nil] at hj ⊢; omega)
    (by intro j hj; simp only [List.length_cons, List.length_nil] at hj ⊢; omega)
    (by intro j hj; simp only [List.length_cons, List.length_nil] at hj ⊢; omega)).1
  rw [h]
  rfl

end bridge

/-- a concrete instance of `Planted` run through the model (3 vectors, rotated by one place, 5 % leakage) -/
example :
    let a : Nat → Nat → Rat := fun i j => if j = (i + 1) % 3 then mkRat 95 100 else mkRat 5 100
    (List.range 3).map (evecSortMag 3 a (fun j => j)) = [some 1, some 2, some 0] := by
  decide +kernel

/-! ### dimension mismatches are rejected -/

/-- `evec_sort` answers iff both vector lists have `len(items)` rows of `len(items)` components -/
theorem dimension_mismatch_rejected {ρ ι : Type} [Add ρ] [Sub ρ] [Mul ρ] [Div ρ] [Neg ρ] [OfNat ρ 0] [HasSqrt ρ]
    [LT ρ] [DecidableRel (fun a b : ρ => a < b)] (items : List ι) (T B : List (List (Cx ρ))) :
    evecSort items T B = none ↔
      ¬ (T.length = items.length ∧ B.length = items.length ∧ ∀ v ∈ T ++ B, v.length = items.length) := by
  rw [← dimsOk_iff]
  unfold evecSort
  cases h : dimsOk items.length T B <;> simp [h]

/-- `evec_disp2eig` answers iff there is at least one row and every row has 3·(number of atoms) components -/
theorem disp2eig_dimension_mismatch_rejected {ρ : Type} [Add ρ] [Sub ρ] [Mul ρ] [Div ρ] [Neg ρ] [OfNat ρ 0] [HasSqrt ρ]
    (a : List (List (Cx ρ))) (mass : List ρ) :
    disp2eig a mass = none ↔ (a = [] ∨ ∃ r ∈ a, r.length ≠ 3 * mass.length) := by
  unfold disp2eig
  cases a with
  | nil => simp
  | cons r a =>
    simp only [List.isEmpty_cons, Bool.not_false, Bool.true_and, List.all_eq_true, beq_iff_eq]
    constructor
    · intro h
      right
      by_contra hc
      push Not at hc
      simp [hc] at h
      obtain ⟨x, hx, hne⟩ := h
      exact hne (hc x (by simp [hx]))
    · rintro (h | ⟨r', hr', hne⟩)
      · simp at h
      · split
        · rename_i hall; exact absurd (hall r' hr') hne
        · rfl

example : evecSort [1, 2] [[(⟨1, 0⟩ : Cx Float)], [⟨0, 0⟩]] [[⟨1, 0⟩, ⟨0, 0⟩], [⟨0, 0⟩, ⟨1, 0⟩]] = none := rfl

/-! ### evec_disp2eig -/

/-- For any positive masses and any non-zero displacement rows (arbitrary norm) of 3·N components, every
output row has Σ|z_k|² = 1. -/
theorem disp2eig_unit_norm (a : List (List (Cx ℝ))) (mass : List ℝ) (hm : ∀ m ∈ mass, 0 < m) (hne : a ≠ [])
    (hdim : ∀ r ∈ a, r.length = 3 * mass.length) (hnz : ∀ r ∈ a, ∃ z ∈ r, 0 < Cx.normSq z) :
    ∃ out, disp2eig a mass = some out ∧ out.length = a.length ∧ ∀ r ∈ out, sumNormSq r = 1 := by
  refine ⟨_, disp2eig_some a mass hne hdim, by simp, ?_⟩
  intro r hr
  obtain ⟨r0, hr0, rfl⟩ := List.mem_map.mp hr
  apply disp2eigRow_unit
  apply sumNormSq_scaled_pos
  · intro m hmem; exact hm m (mem_repeat3 mass m hmem)
  · rw [length_repeat3, hdim r0 hr0]
  · exact hnz r0 hr0

/-- Rows `c_i · M^{-1/2} e_i` (unit vectors `e_i`, any complex factors `c_i ≠ 0`, any positive masses, the
mass of atom `k` repeated for its three Cartesian components) come back as `(c_i / |c_i|) · e_i`. -/
theorem disp2eig_restores (mass : List ℝ) (hm : ∀ m ∈ mass, 0 < m) (es : List (List (Cx ℝ))) (cs : List (Cx ℝ))
    (hne : es ≠ []) (hlen : cs.length = es.length) (hdim : ∀ e ∈ es, e.length = 3 * mass.length)
    (hunit : ∀ e ∈ es, sumNormSq e = 1) :
    disp2eig (List.zipWith (displace (repeat3 mass)) cs es) mass
      = some (List.zipWith (fun c e => e.map (Cx.mul (unitOf c))) cs es) := by
  have hm3 : ∀ m ∈ repeat3 mass, 0 < m := fun m h => hm m (mem_repeat3 mass m h)
  rw [disp2eig_some]
  · congr 1
    rw [List.map_zipWith]
    clear hne
    induction cs generalizing es with
    | nil => simp
    | cons c cs ih =>
      cases es with
      | nil => simp
      | cons e es =>
        simp only [List.zipWith_cons_cons, List.cons.injEq]
        refine ⟨?_, ih es (by simpa using hlen) (fun e' h => hdim e' (by simp [h])) (fun e' h => hunit e' (by simp [h]))⟩
        apply disp2eigRow_displace _ hm3
        · rw [length_repeat3, hdim e (by simp)]
        · exact hunit e (by simp)
  · intro h
    have := (zipWith_displace_props (repeat3 mass) cs es hlen (fun e he => by rw [length_repeat3, hdim e he])).1
    rw [h] at this
    exact hne (List.length_eq_zero_iff.mp this.symm)
  · intro r hr
    rw [(zipWith_displace_props (repeat3 mass) cs es hlen (fun e he => by rw [length_repeat3, hdim e he])).2 r hr,
      length_repeat3]

/-- If the `e_i` are orthonormal for the Hermitian product Σ conj(x_k) y_k (the model's
`overlap`, what `conj(A) @ A.T` computes), the output rows of `evec_disp2eig` applied to `c_i M^{-1/2} e_i` are
orthonormal again, whatever the non-zero factors `c_i` and the positive masses. -/
theorem disp2eig_orthonormal (mass : List ℝ) (hm : ∀ m ∈ mass, 0 < m) (es : List (List (Cx ℝ))) (cs : List (Cx ℝ))
    (hne : es ≠ []) (hlen : cs.length = es.length) (hdim : ∀ e ∈ es, e.length = 3 * mass.length)
    (hc : ∀ c ∈ cs, 0 < Cx.normSq c)
    (horth : ∀ (i j : Nat) (hi : i < es.length) (hj : j < es.length),
      overlap es[i] es[j] = if i = j then ⟨1, 0⟩ else ⟨0, 0⟩) :
    ∃ out : List (List (Cx ℝ)), disp2eig (List.zipWith (displace (repeat3 mass)) cs es) mass = some out ∧
      ∃ hl : out.length = es.length, ∀ (i j : Nat) (hi : i < es.length) (hj : j < es.length),
        overlap (out[i]'(hl ▸ hi)) (out[j]'(hl ▸ hj)) = if i = j then ⟨1, 0⟩ else ⟨0, 0⟩ := by
  have hunit : ∀ e ∈ es, sumNormSq e = 1 := by
    intro e he
    obtain ⟨i, hi, rfl⟩ := List.getElem_of_mem he
    have := horth i i hi hi
    rw [overlap_self] at this
    simp at this
    exact this
  refine ⟨_, disp2eig_restores mass hm es cs hne hlen hdim hunit, by simp [hlen], ?_⟩
  intro i j hi hj
  simp only [List.getElem_zipWith]
  rw [overlap_scaled, horth i j hi hj]
  by_cases hij : i = j
  · subst hij
    rw [conj_mul_self, normSq_unitOf _ (hc _ (List.getElem_mem _))]
    simp only [if_true]
    apply cx_ext <;> simp [Cx.mul]
  · simp only [hij, if_false]
    exact mul_zero_cx _

/-- non-vacuity of the conversion theorems on the model at exact arithmetic is not possible (sqrt); the Float
instance is exercised by the harness.  Dimension mismatch instance: -/
example : disp2eig [[(⟨1, 0⟩ : Cx Float), ⟨0, 0⟩]] [1.0] = none := rfl

/-! ### evec_load at line / slice level; `float()` is a parameter -/

section load
variable {Num : Type}

/-- A file made of q-point blocks — two lines that are skipped, the q line, a separator, for each of
the `np` modes a `freq` line and `np / 3` vector lines, a closing separator — is read back as exactly the printed
q-coordinates, (mode index, THz, cm⁻¹) and vector components, in order, for ANY line readers that read the lines
back (`QBlock.ok`), whatever follows the last block. -/
theorem evec_load_blocks (R : LineReaders Num) (np : Nat) (bs : List (QBlock Num)) (h : ∀ b ∈ bs, b.ok R np)
    (rest : List (List Char)) :
    readQPoints R np bs.length (bs.flatMap QBlock.lines ++ rest) = some (bs.map QBlock.value) :=
  readQPoints_blocks R np bs h rest

/-- On a vector line in matdyn's layout `(1x,'(',3(f10.6,1x,f10.6,3x),')')` the loader passes to
`float()` each 10-character field MINUS ITS FIRST CHARACTER plus one trailing blank (the slices are those of the
unstripped line, but the line is stripped first).  Hence: if `float` ignores surrounding blanks and every field
starts with a blank (|x| < 10 in `f10.6`, true of every component of a normalised vector) the six printed numbers
are returned. -/
theorem vec_line_fields (pf : List Char → Option Num) (hpf : ∀ cs, pf (cs ++ [' ']) = pf cs)
    (hpf' : ∀ cs, pf (' ' :: cs) = pf cs)
    (T1 T2 T3 T4 T5 T6 : List Char)
    (h1 : T1.length = 9) (h2 : T2.length = 9) (h3 : T3.length = 9) (h4 : T4.length = 9) (h5 : T5.length = 9)
    (h6 : T6.length = 9) (x1 y1 x2 y2 x3 y3 : Num)
    (p1 : pf (' ' :: T1) = some x1) (p2 : pf (' ' :: T2) = some y1) (p3 : pf (' ' :: T3) = some x2)
    (p4 : pf (' ' :: T4) = some y2) (p5 : pf (' ' :: T5) = some x3) (p6 : pf (' ' :: T6) = some y3) :
    readVecLine pf (vecLine ' ' T1 ' ' T2 ' ' T3 ' ' T4 ' ' T5 ' ' T6) = some [(x1, y1), (x2, y2), (x3, y3)] := by
  obtain ⟨s1, s2, s3, s4, s5, s6⟩ := slices_vecLine ' ' ' ' ' ' ' ' ' ' ' ' T1 T2 T3 T4 T5 T6 h1 h2 h3 h4 h5 h6
  simp only [readVecLine, s1, s2, s3, s4, s5, s6, hpf]
  rw [hpf'] at p1 p2 p3 p4 p5 p6
  simp [p1, p2, p3, p4, p5, p6]

/-- … and what is lost otherwise: a field that uses all ten columns (x ≤ −10 or x ≥ 100) loses its first character —
`-12.345678` is read as `12.345678`.  Outside C20's quantifier (eigenvector components have modulus ≤ 1), kept as
the reason for the hypothesis. -/
example :
    readVecLine pfRat " (-12.345678   0.000000     0.500000   0.000000     0.000000   0.000000   )".toList
      = some [(mkRat 12345678 1000000, 0), (mkRat 1 2, 0), (0, 0)] := by
  rw [String.toList_ofList]
  decide +kernel

/-- a complete small file (1 q-point, 3 modes) through the concrete readers (regex scanners + exact decimals) -/
def sampleEig : List (List Char) := [
  "     diagonalizing the dynamical matrix ...", "", " q =       0.1258     -0.0347      0.0000",
  " **************************************************************************",
  "     freq (    1) =      -0.018788 [THz] =      -0.626714 [cm-1]",
  " ( -0.211208  -0.000000    -0.215596   0.125000     0.041957   0.000000   )",
  "     freq (    2) =       0.810621 [THz] =      27.039414 [cm-1]",
  " (  1.000000   0.000000     0.000000   0.000000     0.000000  -1.000000   )",
  "     freq (    3) =      12.500000 [THz] =     416.955119 [cm-1]",
  " (  0.000000   0.500000    -0.500000   0.000000     0.707107   0.000000   )",
  " **************************************************************************"].map String.toList

example : evecLoad pfRat 1 3 sampleEig = some [([mkRat 1258 10000, mkRat (-347) 10000, 0], [
    ((1, mkRat (-18788) 1000000, mkRat (-626714) 1000000),
      [(mkRat (-211208) 1000000, 0), (mkRat (-215596) 1000000, mkRat 1 8), (mkRat 41957 1000000, 0)]),
    ((2, mkRat 810621 1000000, mkRat 27039414 1000000), [(1, 0), (0, 0), (0, -1)]),
    ((3, mkRat 25 2, mkRat 416955119 1000000), [(0, mkRat 1 2), (mkRat (-1) 2, 0), (mkRat 707107 1000000, 0)])])] := by
  -- the kernel is slow on `String.toList` of a literal: give it the character lists
  simp only [sampleEig, List.map_cons, List.map_nil]
  repeat rw [String.toList_ofList]
  decide +kernel

/-- the closing separator line is required: the generator's trailing `next(fp)` runs after the last block too -/
example : evecLoad pfRat 1 3 sampleEig.dropLast = none := by
  simp only [sampleEig, List.map_cons, List.map_nil]
  repeat rw [String.toList_ofList]
  decide +kernel

end load

/-! ### the model IS the source (translator tie): `Generated.sortSpec`, `Generated.dispSpec`, `Generated.loadSpec` are re-extracted from
`cij/misc/evec_sort.py`, `evec_disp2eig.py`, `evec_load.py` on every run; everything not extracted is compared with a canonical skeleton -/

section source
open Cij.EvecSrc
variable {ι : Type}

/-- `s = set([len(T), len(B), *[len(i) for i in (T + B)]])`, `if len(s) != 1 or ndim not in s: raise`, as
extracted (set display and test as trees) and given their Python meaning (`len(s)` = number of distinct lengths), reject exactly when the
model's `dimsOk` fails: for ALL length vectors — every `ndim`, every two lists of vectors of any lengths. -/
theorem evec_model_is_source_dimension_test {β : Type} (ndim : Nat) (T B : List (List β)) :
    Generated.sortSpec.dimReject.eval ndim (Generated.sortSpec.dimSet.flatMap (SetElem.eval T B)) = true ↔
      ¬ (T.length = ndim ∧ B.length = ndim ∧ ∀ v ∈ T ++ B, v.length = ndim) := by
  rw [sort_dim_test_is_model, ← dimsOk_iff]
  simp

/-- Entry (i, j) of the extracted expression `numpy.conj(numpy.array(base_evecs)) @ numpy.array(target_evecs).T`
is the model's `overlap B[i] T[j] = Σ_k conj(B[i][k])·T[j][k]`: the BASE is conjugated (not the product), the target transposed, row =
base index, column = target index — over any scalar. -/
theorem evec_model_is_source_overlap {ρ : Type} [Add ρ] [Sub ρ] [Mul ρ] [Div ρ] [Neg ρ] [OfNat ρ 0] [HasSqrt ρ]
    (T B : List (List (Cx ρ))) (n i j : Nat) (hi : i < B.length) (hj : j < T.length)
    (hBi : (B[i]).length = n) (hTj : (T[j]).length = n) :
    Generated.sortSpec.overlap.eval (fun name =>
        if name == "base_evecs" then matOf B else if name == "target_evecs" then matOf T else fun _ _ => Cx.zero) n i j
      = overlap B[i] T[j] :=
  conj_matmul_tr_eval _ "base_evecs" "target_evecs" B T (by simp) (by simp) n i j hi hj hBi hTj

/-- … which over ℝ-pairs is Mathlib's `⟪B[i], T[j]⟫_ℂ` (conjugate-linear in the base vector) -/
theorem evec_model_is_source_overlap_inner (T B : List (List (Cx ℝ))) (n i j : Nat) (hi : i < B.length) (hj : j < T.length)
    (hBi : (B[i]).length = n) (hTj : (T[j]).length = n) :
    Cx.toC (Generated.sortSpec.overlap.eval (fun name =>
        if name == "base_evecs" then matOf B else if name == "target_evecs" then matOf T else fun _ _ => Cx.zero) n i j)
      = inner ℂ (toVec n B[i]) (toVec n T[j]) := by
  rw [evec_model_is_source_overlap T B n i j hi hj hBi hTj]
  exact toC_overlap_eq_inner n _ _ hBi hTj

/-- `k` rounds of the loop as written — `idx = unravel_index(argmax(abs(m)), m.shape)`, the threshold test
(`threshold and m[idx] < threshold`, false without a threshold), `m[idx[0], :] = 0`, `m[:, idx[1]] = 0`,
`sorted_arr[idx[0]] = target_arr[idx[1]]`, in the extracted order — never raise and leave in `sorted_arr` what `k` rounds of the model's
greedy step leave on the magnitude matrix. -/
theorem evec_model_is_source_loop (n : Nat) (target : Nat → ι) (k : Nat) (st : SortState ℝ ι) :
    (sortLoop Generated.sortSpec n none target k st).map (·.sorted)
      = some (greedyLoop n target k (fun i j => Cx.abs (st.m i j)) st.sorted) :=
  sortLoop_is_greedy abs_zero_real n target k st

/-- The whole of `evec_sort` as the source says it, run with the extracted defaults (`filter=None`,
`threshold=None`), is the model's `evecSort`, for all items and vector lists … -/
theorem evec_model_is_source_sort (items : List ι) (T B : List (List (Cx ℝ))) :
    runSort Generated.sortSpec none none items T B = evecSort items T B ∧
    Generated.sortSpec.defaults = [("filter", "None"), ("threshold", "None")] :=
  ⟨runSort_is_evecSort abs_zero_real items T B, by decide⟩

/-- … over ANY scalar in which `|0| = 0` (for the driver's `Float` that is `sqrt(0*0+0*0) = 0`) -/
theorem evec_model_is_source_sort_scalar {ρ : Type} [Add ρ] [Sub ρ] [Mul ρ] [Div ρ] [Neg ρ] [OfNat ρ 0] [HasSqrt ρ]
    [LT ρ] [DecidableRel (fun a b : ρ => a < b)] [BEq ρ] (habs0 : Cx.abs (Cx.zero : Cx ρ) = 0)
    (items : List ι) (T B : List (List (Cx ρ))) :
    runSort Generated.sortSpec none none items T B = evecSort items T B :=
  runSort_is_evecSort habs0 items T B

/-- hence SORT RECOVERS is a statement about the loop AS WRITTEN: under the hypotheses of `evecSort_recovers` the interpreted source
returns the planted arrangement, a permutation of the items -/
theorem evec_sort_source_recovers (items : List ι) (B T : List (List (Cx ℝ))) (c : ℕ → Cx ℝ) (D : ℕ → List (Cx ℝ))
    (σ π : ℕ → ℕ) (ε : ℝ)
    (hB : B.length = items.length) (hT : T.length = items.length) (hBl : ∀ v ∈ B, v.length = items.length)
    (horth : ∀ (i k : ℕ) (hi : i < B.length) (hk : k < B.length),
      overlap B[i] B[k] = if i = k then ⟨1, 0⟩ else ⟨0, 0⟩)
    (hc : ∀ j < items.length, Cx.normSq (c j) = 1)
    (hDl : ∀ j < items.length, (D j).length = items.length)
    (hD : ∀ j < items.length, sumNormSq (D j) ≤ ε ^ 2) (hε0 : 0 ≤ ε) (hε : ε < 1 / 2)
    (hTj : ∀ (j : ℕ) (hj : j < T.length),
      T[j] = List.zipWith (fun bk dk => Cx.add (Cx.mul (c j) bk) dk) (B.getD (σ j) []) (D j))
    (hσ : ∀ j < items.length, σ j < items.length) (hπ : ∀ i < items.length, π i < items.length)
    (hσπ : ∀ i < items.length, σ (π i) = i) (hπσ : ∀ j < items.length, π (σ j) = j) :
    runSort Generated.sortSpec none none items T B = some ((List.range items.length).map fun i => items[π i]?) ∧
    ((List.range items.length).map fun i => items[π i]?).Perm (items.map some) := by
  rw [(evec_model_is_source_sort items T B).1]
  have h := evecSort_recovers items B T c D σ π ε hB hT hBl horth hc hDl hD hε0 hε hTj hσ hπ hσπ hπσ
  exact ⟨h.1, h.2.2⟩

/-- the explicit instance of `evecSort_recovers`' example through the interpreted source -/
example :
    runSort Generated.sortSpec none none ["x", "y"]
      [[⟨1 / 10, -4 / 5⟩, ⟨0, 3 / 5⟩], [⟨-3 / 5, 0⟩, ⟨-4 / 5, -1 / 10⟩]]
      [[(⟨3 / 5, 0⟩ : Cx ℝ), ⟨4 / 5, 0⟩], [⟨-4 / 5, 0⟩, ⟨3 / 5, 0⟩]]
      = evecSort ["x", "y"] [[⟨1 / 10, -4 / 5⟩, ⟨0, 3 / 5⟩], [⟨-3 / 5, 0⟩, ⟨-4 / 5, -1 / 10⟩]]
          [[(⟨3 / 5, 0⟩ : Cx ℝ), ⟨4 / 5, 0⟩], [⟨-4 / 5, 0⟩, ⟨3 / 5, 0⟩]] :=
  (evec_model_is_source_sort _ _ _).1

/-- `evec_disp2eig` as the source says it — `numpy.repeat(mass, 3)` (each mass three times consecutively), the
test `a.shape[1] == 3*N` with RuntimeError in the other branch, `a *= sqrt(m[nax, :])` (one factor per column),
`norm = diag(conj(a) @ a.T)`, `a /= sqrt(norm)[:, nax]` (one factor per row), in the extracted order — is the model's `disp2eig`, for
every list of rows and every mass list; and `numpy.repeat(mass, 3)` is the model's `repeat3`. -/
theorem evec_model_is_source_disp2eig (a : List (List (Cx ℝ))) (mass : List ℝ) :
    runDisp Generated.dispSpec a mass = disp2eig a mass ∧
    repeatEach Generated.dispSpec.times mass = repeat3 mass ∧ Generated.dispSpec.repeated = "mass" :=
  ⟨runDisp_is_disp2eig a mass, repeatEach_three mass, by decide⟩

/-- The extracted shape test is true exactly when the number of COLUMNS is `3·N`, whatever the number of rows;
the interpreted source rejects a non-empty rectangular `M × K` array exactly when `K ≠ 3·len(mass)` — for every shape, also when
`3N ∣ M·K` — and no call or attribute of the function reshapes `a`. -/
theorem evec_model_is_source_disp2eig_rejects (a : List (List (Cx ℝ))) (mass : List ℝ) (K : Nat) (hne : a ≠ [])
    (hK : ∀ r ∈ a, r.length = K) :
    (∀ M N, Generated.dispSpec.shapeTest.eval M K N = true ↔ K = 3 * N) ∧
    (runDisp Generated.dispSpec a mass = none ↔ K ≠ 3 * mass.length) ∧
    (disp2eig a mass = none ↔ K ≠ 3 * mass.length) ∧
    (∀ f ∈ ["reshape", "ravel", "flatten", "resize", "squeeze", "atleast_2d", "transpose", "swapaxes", "flat"],
      f ∉ Generated.dispSpec.attributes ∧ ("numpy." ++ f) ∉ Generated.dispSpec.calls) := by
  refine ⟨fun M N => disp_shape_test_iff M K N, runDisp_rejects_iff a mass K hne hK, ?_, disp_no_reshape⟩
  rw [← runDisp_is_disp2eig]
  exact runDisp_rejects_iff a mass K hne hK

/-- a 6 × 7 array with two atoms (42 = 7·6 elements, 3N = 6 divides it) is rejected -/
example : disp2eig (List.replicate 6 (List.replicate 7 (⟨1, 0⟩ : Cx ℝ))) [1, 1] = none :=
  ((evec_model_is_source_disp2eig_rejects (List.replicate 6 (List.replicate 7 (⟨1, 0⟩ : Cx ℝ))) [1, 1] 7 (by simp)
    (by intro r hr; rw [List.eq_of_mem_replicate hr]; simp)).2.2.1).2 (by norm_num)

/-- the norm the division uses is real: the diagonal entry of the extracted `conj(a) @ a.T` is `⟨Σ_k |a_ik|², 0⟩` -/
theorem evec_model_is_source_norm_real (a : List (List (Cx ℝ))) (K i : Nat) (hi : i < a.length) (hK : (a[i]).length = K) :
    ∀ name e, DispStmt.normDiag name e ∈ Generated.dispSpec.body →
      e.eval (fun n => if n == "a" then matOf a else fun _ _ => Cx.zero) K i i = ⟨sumNormSq a[i], 0⟩ :=
  disp_norm_is_real a K i hi hK

/-- For EVERY string: the backtracking matcher (greedy quantifiers, alternatives in Python's priority order, leftmost
start position) run on the extracted `Q_COORDS_REGEX` / `MODE_INDEX_REGEX` finds exactly the groups the model's deterministic scanners
find, and fails exactly when they fail — the scanners recognise the language of the patterns and capture what `re.search(...).groups()`
captures. -/
theorem evec_model_is_source_regex (l : List Char) :
    Rx.search Generated.qCoordsRegex l = (Evec.search matchQAt l).map (fun p => [p.1, p.2.1, p.2.2]) ∧
    Rx.search Generated.modeIndexRegex l = (Evec.search matchFreqAt l).map (fun p => [p.1, p.2.1, p.2.2]) :=
  ⟨Rx.search_qCoords l, Rx.search_modeIndex l⟩

example : Rx.search Generated.qCoordsRegex " q =       0.1258     -0.0347      0.0000".toList
    = some ["0.1258".toList, "-0.0347".toList, "0.0000".toList] := by
  repeat rw [String.toList_ofList]
  decide +kernel

example : Rx.search Generated.modeIndexRegex "     freq (    2) =       0.810621 [THz] =      27.039414 [cm-1]".toList
    = some ["2".toList, "0.810621".toList, "27.039414".toList] := by
  repeat rw [String.toList_ofList]
  decide +kernel

/-- backtracking is really exercised: `\d+\.?\d*` first takes `2.5`, then must give back (no blank follows) and fails on `2.5.3` -/
example : Rx.search Generated.qCoordsRegex "q = 1. 2.5.3 7".toList = none := by
  rw [String.toList_ofList]
  decide +kernel

/-- One vector line is read through the extracted table of (real, imaginary) column slices of the STRIPPED line, in
tuple order; the table is `[2:12]+[13:23]·1j, [26:36]+[37:47]·1j, [50:60]+[61:71]·1j`: six pairwise different slices of ten columns, each
used exactly once; there is NO conditional construct in `_read_vecs` / `_read_modes` / `_read_q_points` (nothing depends on the q-point,
Γ included). -/
theorem evec_model_is_source_slices {Num : Type} (pf : List Char → Option Num) (raw : List Char) :
    readVecLine pf raw = (specReaders Generated.loadSpec pf).readVec raw ∧
    (specReaders Generated.loadSpec pf).readVec raw =
      (Generated.loadSpec.vecComponents.mapM fun s => do
        let x ← pf (slice (strip raw) s.1.1 s.1.2)
        let y ← pf (slice (strip raw) s.2.1 s.2.2)
        pure (x, y)) ∧
    (Generated.loadSpec.vecComponents.flatMap fun s => [s.1, s.2]).Nodup ∧
    (∀ s ∈ Generated.loadSpec.vecComponents.flatMap (fun s => [s.1, s.2]), s.2 = s.1 + 10) ∧
    Generated.loadSpec.vecComponents.length = 3 ∧
    Generated.loadSpec.conditionals = [] := by
  refine ⟨?_, rfl, by decide, by decide, by decide, by decide⟩
  rw [specReaders_is_concrete]
  rfl

/-- `evec_load` as the source says it — both regexes, the slice table, `np // 3` vector lines per mode, the
converters `(int, float, float)` zipped to the groups, the step list of `_read_q_points` (two lines skipped, q line, one skipped, `np`
modes, one skipped), every line stripped before use — is the model's `evecLoad`: for every `float`, `nq`, `np` and list of lines. -/
theorem evec_model_is_source_load {Num : Type} (pf : List Char → Option Num) (nq np : Nat) (file : List (List Char)) :
    evecLoadS Generated.loadSpec pf nq np file = evecLoad pf nq np file ∧
    Generated.loadSpec.qSteps = [.skip 2, .qLine, .skip 1, .modes, .skip 1] ∧
    Generated.loadSpec.converters = ["int", "float", "float"] ∧ Generated.loadSpec.vecLinesDiv = 3 :=
  ⟨evecLoadS_is_evecLoad pf nq np file, by decide, by decide, by decide⟩

/-- the sample file through the interpreted source -/
example : (evecLoadS Generated.loadSpec pfRat 1 3 sampleEig).map List.length = some 1 := by
  rw [(evec_model_is_source_load pfRat 1 3 sampleEig).1]
  simp only [sampleEig, List.map_cons, List.map_nil]
  repeat rw [String.toList_ofList]
  decide +kernel

/-- `cij/misc/__init__.py` re-exports each tool from the module the model mirrors, under its own name -/
theorem evec_model_is_source_exports :
    ∀ n ∈ ["evec_sort", "evec_load", "evec_disp2eig"], (n, n, n) ∈ Generated.miscExports ∧ n ∈ Generated.miscAll := by
  decide

end source

end Cij.C20
