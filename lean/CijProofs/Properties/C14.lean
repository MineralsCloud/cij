/-
  C14 — deterministic and isolated: hash seed, working directory, process history; fill idempotent; reading twice
  returns equal arrays.

  WHAT IS IN A THEOREM (the modelled part)
  * Lazily cached per-instance results.  `lazy_property.LazyProperty` is the read-through memo table of
    `CijModel/Memo.lean`: first read runs the body and stores the value in the instance (`_<name>`), later reads return
    the stored value.  The property graph of the three phonon-contribution classes is `Generated.lazyDeps*`,
    re-translated from nonshear.py / shear.py on every run and turned into `Memo` bodies by `CijModel/LazyGraph.lean`
    (the very functions the driver runs for the correspondence check of the CACHE STATE of real objects).
    `write_output()` twice, `calculate()` twice, reading a result again, reading results in another order are all just
    longer / permuted histories of reads, so one theorem over ALL lists of reads covers them.
  * Two calculators in one process = two memo tables (`historyMulti`), any interleaving.
  * Iteration over a Python `set` = iteration in an ARBITRARY order: a universally quantified permutation of the key
    list (`update_config`, C16), of the key/permutation set in `_calculate_compliances` (C07), of the rule list of
    the writer registry (C15).  These theorems are imported from the property files that own the models and
    re-stated here as corollaries; nothing is copied.
  * `Path(system).exists()` in the working directory = an ARBITRARY predicate `pathExists` of the lookup environment
    (C09's model of fill.py).
  * Symmetry filling is the exact model `CijModel/Fill.lean` (run by the driver over ℚ for C08/C09).
  * "No state outside the objects".  The memo model has per-object state only.  `Generated.State.*` is the inventory, re-taken
    from EVERY module under cij/ on every run (tools/gens/state_src.py), of what could carry state across objects and
    calls: module-level and class-level mutable bindings, statements that write to anything outliving a call, mutable default
    arguments, caching decorators, `id(…)` keys.  `c14_shared_objects_known` … `c14_no_hidden_state` pin it to what the
    model assumes: four constant tables, never written after import.

  WHAT IS NOT IN ANY THEOREM (only its abstraction above is):
  the interpreter's hash randomisation itself (PYTHONHASHSEED), the file system, BLAS/OpenMP threading and
  floating-point non-associativity, numba's JIT cache, import order, module-level objects of third-party packages
  (pint's registry, qha), in-place mutation of an array that a cache hands out (model values are immutable).
  Those are exercised on the real code by harness/c14.py: `cij run` / `cij fill` in subprocesses under several hash
  seeds and working directories with byte comparison of every output file, two calculations interleaved in one
  process against fresh-process results, random read/write histories on both bases, and random read histories on real
  objects of the three classes whose cache state (`hasattr(obj, "_" + name)`) is compared with the model after every
  read and whose values are compared with fresh objects.
-/
import CijProofs.Lemmas.MemoHistory
import CijProofs.Lemmas.OrderFree
import CijProofs.Lemmas.FillIdem
import CijProofs.Properties.C07
import CijProofs.Properties.C09
import CijProofs.Properties.C15
import CijProofs.Properties.C16
import Generated.LazyDeps
import Generated.StateSpec
import CijProofs.Lemmas.TasksSource
import Generated.FullModulusSpec
set_option linter.unusedSectionVars false
namespace Cij.C14
open Cij Cij.Memo Cij.LazyGraph

/-! #### the values returned do not depend on the history of reads -/

section memo
variable {ν β : Type} [DecidableEq ν]

/-- Bodies that only read properties of smaller rank (an acyclic property graph), `spec` the
pure denotation of the bodies.  For ANY sequence of reads `ns` (repeated reads, `calculate` twice, `write_output`
twice, any order) starting from ANY consistent cache state `t` (in particular a fresh object, `[]`): the history runs
to completion, every value returned is `spec` of the property read — a function of the object's inputs alone — and the
cache stays consistent. -/
theorem c14_cache_history_free {rk : ν → Nat} {defs : ν → Body ν β} (hdefs : ∀ n, ReadsBelow rk (rk n) (defs n))
    {spec : ν → β} (hspec : ∀ n, spec n = denote spec (defs n)) (fuel : Nat) (hfuel : ∀ n, rk n < fuel)
    (ns : List ν) (t : Table ν β) (ht : Consistent spec t) :
    ∃ t', history defs fuel ns t = some (ns.map spec, t') ∧ Consistent spec t' := by
  have htot := history_total hdefs fuel hfuel ns t
  cases h : history defs fuel ns t with
  | none => simp [h] at htot
  | some p =>
    obtain ⟨vs, t'⟩ := p
    obtain ⟨hv, hc⟩ := history_sound hspec fuel ns t vs t' ht h
    exact ⟨t', by rw [hv], hc⟩

/-- the "pure function of the inputs" exists and is unique for every ranked graph: the statement above is never
vacuous and does not depend on a choice of `spec` -/
theorem c14_spec_exists_unique [Inhabited β] {rk : ν → Nat} {defs : ν → Body ν β}
    (hdefs : ∀ n, ReadsBelow rk (rk n) (defs n)) :
    (∀ n, specOf rk defs n = denote (specOf rk defs) (defs n)) ∧
    ∀ s : ν → β, (∀ n, s n = denote s (defs n)) → ∀ n, s n = specOf rk defs n :=
  ⟨specOf_spec hdefs, fun _ hs => spec_unique hdefs hs (specOf_spec hdefs)⟩

/-- two histories that end with a read of the same property return the same value there, whatever was read (or
written, or recomputed) before — on the same object or on two objects with the same inputs -/
theorem c14_history_irrelevant {rk : ν → Nat} {defs : ν → Body ν β} (hdefs : ∀ n, ReadsBelow rk (rk n) (defs n))
    {spec : ν → β} (hspec : ∀ n, spec n = denote spec (defs n)) (fuel : Nat) (hfuel : ∀ n, rk n < fuel)
    (before₁ before₂ : List ν) (n : ν) :
    ∃ vs₁ vs₂ t₁ t₂, history defs fuel (before₁ ++ [n]) [] = some (vs₁, t₁) ∧
      history defs fuel (before₂ ++ [n]) [] = some (vs₂, t₂) ∧ vs₁.getLast? = vs₂.getLast? := by
  obtain ⟨t₁, h₁, _⟩ := c14_cache_history_free hdefs hspec fuel hfuel (before₁ ++ [n]) [] (consistent_nil spec)
  obtain ⟨t₂, h₂, _⟩ := c14_cache_history_free hdefs hspec fuel hfuel (before₂ ++ [n]) [] (consistent_nil spec)
  exact ⟨_, _, t₁, t₂, h₁, h₂, by simp⟩

/-- Read `n`, then anything, then `n` again: both reads return the same value.  No hypothesis
on the bodies is needed at all (not even acyclicity): the second read is served from the cache, and a cached entry
is never replaced (`readProp_extends`). -/
theorem c14_read_twice_equal (defs : ν → Body ν β) (fuel : Nat) (n : ν) (between : List ν) (t : Table ν β)
    (vs : List β) (t' : Table ν β) (h : history defs fuel (n :: (between ++ [n])) t = some (vs, t')) :
    ∃ v mid, vs = v :: (mid ++ [v]) :=
  read_twice_same defs fuel n between t vs t' h

/-- … and under the hypotheses of `c14_cache_history_free`, any two reads of the same property anywhere in a history
agree (positions `i`, `j` of the returned list) -/
theorem c14_read_twice_equal_anywhere {rk : ν → Nat} {defs : ν → Body ν β}
    (hdefs : ∀ n, ReadsBelow rk (rk n) (defs n)) {spec : ν → β} (hspec : ∀ n, spec n = denote spec (defs n))
    (fuel : Nat) (hfuel : ∀ n, rk n < fuel) (ns : List ν) (i j : Nat) (hij : ns[i]? = ns[j]?) :
    ∃ vs t', history defs fuel ns [] = some (vs, t') ∧ vs[i]? = vs[j]? := by
  obtain ⟨t', h, _⟩ := c14_cache_history_free hdefs hspec fuel hfuel ns [] (consistent_nil spec)
  exact ⟨_, t', h, by simp [List.getElem?_map, hij]⟩

/-- Several objects (index `i`), each with its own inputs (`defs i`, `spec i`) and its
own cache: in ANY interleaving of reads, the value returned for object `i` is `spec i` — nothing done on another
object can change it. -/
theorem c14_two_calculators_isolated {ι : Type} [DecidableEq ι] {rk : ι → ν → Nat} {defs : ι → ν → Body ν β}
    (hdefs : ∀ i n, ReadsBelow (rk i) (rk i n) (defs i n)) {spec : ι → ν → β}
    (hspec : ∀ i n, spec i n = denote (spec i) (defs i n)) (fuel : Nat) (hfuel : ∀ i n, rk i n < fuel)
    (ops : List (ι × ν)) :
    ∃ ts', historyMulti defs fuel ops (fun _ => []) = some (ops.map (fun o => spec o.1 o.2), ts') := by
  have htot := historyMulti_total hdefs fuel hfuel ops (fun _ => [])
  cases h : historyMulti defs fuel ops (fun _ => []) with
  | none => simp [h] at htot
  | some p =>
    obtain ⟨vs, ts'⟩ := p
    obtain ⟨hv, _⟩ := historyMulti_sound hspec fuel ops (fun _ => []) vs ts' (fun i => consistent_nil (spec i)) h
    exact ⟨ts', by rw [hv]⟩

/-- the interleaving is irrelevant also as a whole: the values object `i` returns in an interleaved run are the
values it returns when it is alone in a fresh process -/
theorem c14_interleaving_irrelevant {ι : Type} [DecidableEq ι] {rk : ι → ν → Nat} {defs : ι → ν → Body ν β}
    (hdefs : ∀ i n, ReadsBelow (rk i) (rk i n) (defs i n)) {spec : ι → ν → β}
    (hspec : ∀ i n, spec i n = denote (spec i) (defs i n)) (fuel : Nat) (hfuel : ∀ i n, rk i n < fuel)
    (ops : List (ι × ν)) (i : ι) :
    ∃ vs ts' vsAlone tAlone, historyMulti defs fuel ops (fun _ => []) = some (vs, ts') ∧
      history (defs i) fuel ((ops.filter (fun o => decide (o.1 = i))).map (·.2)) [] = some (vsAlone, tAlone) ∧
      ((List.zip ops vs).filter (fun p => decide (p.1.1 = i))).map (·.2) = vsAlone := by
  obtain ⟨ts', h⟩ := c14_two_calculators_isolated hdefs hspec fuel hfuel ops
  obtain ⟨tA, hA, _⟩ := c14_cache_history_free (hdefs i) (hspec i) fuel (hfuel i)
    ((ops.filter (fun o => decide (o.1 = i))).map (·.2)) [] (consistent_nil (spec i))
  exact ⟨_, ts', _, tA, h, hA, filter_zip_values spec i ops⟩

end memo

/-! #### the property graphs of the three phonon-contribution classes (translated from the source on every run) -/

/-- On the tables translated from nonshear.py / shear.py: every `@LazyProperty` reads only
lazy properties of strictly smaller rank (plain `@property`s inlined) — the graphs are acyclic, and the fuel the
driver uses is enough.  Kernel evaluation on the tables of THIS run. -/
theorem c14_lazy_graph_ranked :
    ranked Generated.lazyDepsLong = true ∧ ranked Generated.lazyDepsOff = true ∧
    ranked Generated.lazyDepsShear = true := by decide +kernel

def classTables : List Tab := [Generated.lazyDepsLong, Generated.lazyDepsOff, Generated.lazyDepsShear]

theorem c14_class_tables_ranked : ∀ tab ∈ classTables, ranked tab = true := by
  intro tab h
  simp only [classTables, List.mem_cons, List.not_mem_nil, or_false] at h
  rcases h with rfl | rfl | rfl
  · exact c14_lazy_graph_ranked.1
  · exact c14_lazy_graph_ranked.2.1
  · exact c14_lazy_graph_ranked.2.2

/-- `c14_cache_history_free` on the real graphs, for ANY value functions `f` (`f n` computes the lazy property `n`
from the values of the properties its body reads and from the object's inputs): every history of reads — of lazy or
plain properties (`expandOp` inlines the plain ones, as the interpreter does) — returns the pure values, and two
objects with their own `f` do not influence each other. -/
theorem c14_history_free_on_classes {β : Type} [Inhabited β] (tab : Tab) (htab : tab ∈ classTables)
    (f : String → List β → β) (ops : List String) :
    ∃ t', history (defsOf tab f) (fuelOf tab) (ops.flatMap (expandOp tab)) [] =
      some ((ops.flatMap (expandOp tab)).map (specOf (rank tab) (defsOf tab f)), t') := by
  have hr := c14_class_tables_ranked tab htab
  obtain ⟨t', h, _⟩ := c14_cache_history_free (defsOf_readsBelow hr f) (specOf_spec (defsOf_readsBelow hr f))
    (fuelOf tab) (rank_lt_fuel hr) (ops.flatMap (expandOp tab)) [] (consistent_nil _)
  exact ⟨t', h⟩

/-- the value of a lazy property IS `f n` of the values of what it reads, in reading order (unfolding of `specOf`) -/
theorem c14_value_equation {β : Type} [Inhabited β] (tab : Tab) (htab : tab ∈ classTables)
    (f : String → List β → β) (n : String) :
    specOf (rank tab) (defsOf tab f) n = f n ((lazyDeps tab n).map (specOf (rank tab) (defsOf tab f))) := by
  have hr := c14_class_tables_ranked tab htab
  rw [specOf_spec (defsOf_readsBelow hr f) n]
  simp [defsOf, denote_chain]

theorem c14_two_objects_on_classes {β : Type} [Inhabited β] (tab : Tab) (htab : tab ∈ classTables)
    (f : Bool → String → List β → β) (ops : List (Bool × String)) :
    ∃ ts', historyMulti (fun i => defsOf tab (f i)) (fuelOf tab) ops (fun _ => []) =
      some (ops.map (fun o => specOf (rank tab) (defsOf tab (f o.1)) o.2), ts') := by
  have hr := c14_class_tables_ranked tab htab
  exact c14_two_calculators_isolated (rk := fun _ => rank tab) (fun i => defsOf_readsBelow hr (f i))
    (fun i => specOf_spec (defsOf_readsBelow hr (f i))) (fuelOf tab) (fun _ => rank_lt_fuel hr) ops

/-- the cache-state sequence the driver reports for the correspondence check is always defined -/
theorem c14_cache_states_defined (tab : Tab) (htab : tab ∈ classTables) (ops : List String) :
    ∀ s ∈ cacheStates (β := Unit) tab (fun _ _ => ()) ops [], s.isSome = true :=
  cacheStates_total (c14_class_tables_ranked tab htab) _ ops []

/-- non-vacuity / what the model says on a concrete history (a literal table shaped like the longitudinal class, so
that a refactoring of the real classes cannot break this example): reading `Q1` caches `Q` and `Q1`; the plain
property `va` caches everything below it but not itself; reading again changes nothing -/
example : cacheStates (β := Unit)
      [("Q", true, ["f", "t"]), ("Q1", true, ["Q"]), ("f", false, []), ("t", false, []),
       ("gap", true, ["t", "Q"]), ("va", false, ["vi", "gap"]), ("vi", true, ["Q1"])]
      (fun _ _ => ()) ["Q1", "va", "Q1", "t"] [] =
    [some ["Q", "Q1"], some ["Q", "Q1", "gap", "vi"], some ["Q", "Q1", "gap", "vi"], some ["Q", "Q1", "gap", "vi"]] := by
  decide +kernel

/-- a cyclic table is NOT ranked, and the model reports the failure instead of a value (the certificate is not
vacuous) -/
example : ranked [("a", true, ["b"]), ("b", true, ["a"])] = false ∧
    cacheStates (β := Unit) [("a", true, ["b"]), ("b", true, ["a"])] (fun _ _ => ()) ["a"] [] = [none] := by
  decide +kernel

/-- a concrete two-level graph with numbers: whatever the history, `c` is `(a + b) * 2` -/
example : (history (defsOf (β := Int) [("a", true, []), ("b", true, ["a"]), ("c", true, ["a", "b"])]
      (fun n vs => match n with | "a" => 3 | "b" => vs.sum + 1 | _ => vs.sum * 2)) 4 ["c", "a", "c", "b"] []).map (·.1)
    = some [14, 3, 14, 4] := by decide +kernel

/-! #### set iteration order (hash seed) is irrelevant -/

/-- (C16) whether `update_config` returns and what it returns as a map do not depend on
the order in which `set([*input.keys(), *default.keys()])` is iterated. -/
theorem c14_update_config_order_free {ord₁ ord₂ : List String → List String} (h₁ : Config.OrdOK ord₁)
    (h₂ : Config.OrdOK ord₂) {u d r₁ : J} (h : Config.updateConfig ord₁ u d = .ok r₁) :
    ∃ r₂, Config.updateConfig ord₂ u d = .ok r₂ ∧ Config.MapEq r₁ r₂ :=
  C16.c16_order_free h₁ h₂ h

/-- (C07) the 6×6 matrix that `_calculate_compliances` inverts is the same for
two orders of `modulus_keys` (any permutation of the dictionary; the order inside `set(permutations(key.voigt, 2))` is
already immaterial in the model: only membership in `writes` is used). -/
theorem c14_compliance_assembly_order_free (inp inp' : VRH.Inputs ℝ) (hk : VRH.Keys inp)
    (hp : inp.modAd.Perm inp'.modAd) (t v : Nat) (i j : Int) (hij : (i, j) ∈ allPairs) :
    VRH.Cmat inp t v i j = VRH.Cmat inp' t v i j := by
  have hk' : VRH.Keys inp' :=
    ⟨fun k hk1 => hk.canon k ((hp.map _).mem_iff.2 hk1), (hp.map _).nodup_iff.1 hk.nodup,
     fun p hp1 => (hp.map _).mem_iff.1 (hk.ortho p hp1)⟩
  rw [(C07.c07_assembly inp hk t v i j hij).1, (C07.c07_assembly inp' hk' t v i j hij).1]
  unfold VRH.val
  have hperm : (VRH.kvAt inp.modAd t v).Perm (VRH.kvAt inp'.modAd t v) := hp.map _
  have hnd : ((VRH.kvAt inp.modAd t v).map (·.1)).Nodup := by rw [VRH.map_fst_kvAt]; exact hk.nodup
  rw [OrderFree.find_perm hperm hnd]

/-- (C15) the registry is "last rule listing the keyword wins" for any rule list; when no
keyword is listed by two rules the registry as a map does not depend on the order of the rules at all … -/
theorem c14_registry_order_free (rules rules' : List Generated.WriterRule) (hp : rules.Perm rules')
    (hdisj : ∀ r₁ ∈ rules, ∀ r₂ ∈ rules, ∀ k, k ∈ r₁.keywords → k ∈ r₂.keywords → r₁ = r₂) (kw : String) :
    Writer.resolveIn rules kw = Writer.resolveIn rules' kw := by
  rw [C15.registry_later_wins, C15.registry_later_wins]
  apply OrderFree.find?_perm_unique ((List.reverse_perm _).trans (hp.trans (List.reverse_perm _).symm))
  intro a ha b hb pa pb
  exact hdisj a (List.mem_reverse.1 ha) b (List.mem_reverse.1 hb) kw (by simpa using pa) (by simpa using pb)

/-- … and the packaged rules (translated on this run) are such a list: the module-level `DEFAULT_WRITER_RULES` may be
read in any order, by any number of writers -/
theorem c14_packaged_registry_order_free (rules' : List Generated.WriterRule)
    (hp : Generated.writerRules.Perm rules') (kw : String) :
    Writer.resolve kw = Writer.resolveIn rules' kw := by
  apply c14_registry_order_free _ _ hp
  intro r₁ h₁ r₂ h₂ k hk₁ hk₂
  have e₁ := C15.every_keyword_resolves r₁ h₁ k hk₁
  have e₂ := C15.every_keyword_resolves r₂ h₂ k hk₂
  rw [e₁] at e₂
  exact Option.some.inj e₂

/-- non-vacuity: with a keyword listed twice the order DOES matter (so the disjointness hypothesis is needed) -/
example :
    let r₁ : Generated.WriterRule := ⟨["k"], "a", "p", "u", "u", "value"⟩
    let r₂ : Generated.WriterRule := ⟨["k"], "b", "p", "u", "u", "value"⟩
    Writer.resolveIn [r₁, r₂] "k" = some r₂ ∧ Writer.resolveIn [r₂, r₁] "k" = some r₁ := by decide +kernel

/-! #### the working directory and the constraint lookup

The outcome of `fill` for a packaged crystal-system name does not depend on ANY entry of the working directory — neither
on `Path(system).exists()` (junk entries, a directory named like the system) nor on a regular file of that name
(`c14_lookup_cwd_irrelevant_full`).  This became true with fix 6f0d09b: before it, `Path(system).is_file()` was tried
before the packaged name, so a regular file called like the crystal system replaced the packaged relations (finding
`cwd:regular-file-named-like-system`, found by this check; the witness below is kept as a regression theorem).
A string with a directory part (`./cubic`) is a PATH, not a system name: the file it names is used
(`c14_lookup_path_with_directory_part_is_used`); packaged names have no directory part (`c14_lookup_packaged_names_are_bare`). -/

/-- (C09) `fill_cij` gives the same outcome whatever `Path(system).exists()` says in the
working directory: it is never consulted. -/
theorem c14_lookup_cwd_irrelevant {α : Type} [Field α] [LinearOrder α] [IsStrictOrderedRing α]
    (pe pe' : String → Bool) (uf : String → Option Fill.Rows) (system : Option String) (P : Fill.Params α)
    (t : Fill.Table α) : Fill.fill ⟨pe, uf⟩ system P t = Fill.fill ⟨pe', uf⟩ system P t :=
  C09.lookup_cwd_irrelevant pe pe' uf system P t

/-- the FULL statement for packaged names: two arbitrary working directories (any `exists`, any regular files, also
files named like the system) give the same outcome -/
theorem c14_lookup_cwd_irrelevant_full {α : Type} [Field α] [LinearOrder α] [IsStrictOrderedRing α]
    (env env' : Fill.Env) (sys : String) (rows : Fill.Rows) (hp : Fill.packaged sys = .ok rows) (P : Fill.Params α)
    (t : Fill.Table α) : Fill.fill env (some sys) P t = Fill.fill env' (some sys) P t :=
  C09.lookup_env_irrelevant_packaged env env' sys rows hp P t

/-- every one of the nine documented system names is packaged, so the statement above applies to all of them -/
theorem c14_documented_systems_packaged :
    ∀ s ∈ ["triclinic", "monoclinic", "orthorhombic", "tetragonal7", "tetragonal6", "trigonal7", "trigonal6", "hexagonal", "cubic"],
      (match Fill.packaged s with | .ok _ => true | .error _ => false) = true := by
  decide +kernel

/-- a name that is NOT a packaged system and names a readable file is used as the relations (C09 `user_file_used`) -/
theorem c14_user_file_is_used {α : Type} [Field α] [LinearOrder α] [IsStrictOrderedRing α]
    (env : Fill.Env) (sys : String) (rows : Fill.Rows) (e : Fill.Err) (hp : Fill.packaged sys = .error e)
    (h : env.userFile sys = some rows) (P : Fill.Params α) (t : Fill.Table α) :
    Fill.fill env (some sys) P t =
      match Fill.recognise (t.map (·.1)) with
      | .error e => .error e
      | .ok sel => Fill.fillWith rows sel P t :=
  C09.user_file_used env sys rows e hp h P t

/-- a string WITH a directory part (`./cubic`, `sub/cubic`, `/abs/cubic`) naming a readable file is used as the relations,
whatever its base name — the working directory matters exactly through the file the PATH names (C09
`path_with_directory_part_is_used`; fix of the finding `fill_cij(df, "./cubic")` used the packaged relations) -/
theorem c14_lookup_path_with_directory_part_is_used {α : Type} [Field α] [LinearOrder α] [IsStrictOrderedRing α]
    (env : Fill.Env) (sys : String) (rows : Fill.Rows) (hd : FillSource.hasDirPart sys = true)
    (h : env.userFile sys = some rows) (P : Fill.Params α) (t : Fill.Table α) :
    Fill.fill env (some sys) P t =
      match Fill.recognise (t.map (·.1)) with
      | .error e => .error e
      | .ok sel => Fill.fillWith rows sel P t :=
  (C09.path_with_directory_part_is_used env sys rows hd h P t).2

/-- … and a packaged system name is a bare name (no directory part): the two statements never overlap -/
theorem c14_lookup_packaged_names_are_bare (sys : String) (rows : Fill.Rows) (hp : Fill.packaged sys = .ok rows) :
    FillSource.hasDirPart sys = false := FillSource.packaged_ok_bare hp

/-- regression witness of the repaired finding: an (empty) file called `cubic` in the working directory no longer
changes the outcome for the packaged system `cubic` -/
theorem c14_cwd_file_named_like_system_ignored :
    Fill.fill ⟨fun _ => false, fun s => if s = "cubic" then some [] else none⟩ (some "cubic")
        (⟨false, false, mkRat 1 100000000, mkRat 1 10⟩ : Fill.Params Rat) [("V", [100])] =
    Fill.fill ⟨fun _ => false, fun _ => none⟩ (some "cubic")
        (⟨false, false, mkRat 1 100000000, mkRat 1 10⟩ : Fill.Params Rat) [("V", [100])] := by decide +kernel

/-! #### symmetry filling is idempotent — unless an independent component vanishes identically -/

section fill
variable {α : Type} [Field α] [LinearOrder α] [IsStrictOrderedRing α]
open Cij.Fill

/-- what `fill` returns IS a filled table: for a rectangular input (`n` rows) without columns that differ by letter
case only, and ANY solution `xs` with one tensor per row, every modulus column of the output carries the tensor
component of its symbol, every symbol without a column is a component that was dropped (≤ `drop_atol` everywhere),
and no droppable column is left. -/
theorem c14_fill_output_is_filled (P : Params α) {t : Table α} (hnd : NoCaseDup t) {n : Nat}
    (hrect : ∀ c ∈ t, c.2.length = n) {xs : List (List α)} (hn : xs.length = n) :
    IsFilled P (finish P t xs) xs :=
  (finish_isFilled P hnd hrect hn).1

/-- a filled table is a fixed point of `fill` whenever its columns still determine the tensor: `xs` satisfy the
relations exactly, the table carries them (`IsFilled`), and the stacked system has no kernel.  (The write-back
rewrites every column with the value it already has, re-appends the dropped components in symbol order and drops
them again.) -/
theorem c14_filled_table_fixed (env : Env) (sys : String) (P : Params α) (t : Table α) (xs : List (List α))
    {sel : List (Option Nat)} (hrec : recognise (t.map (·.1)) = .ok sel)
    {rel : Rows} (hres : resolve env sys = .ok rel) (hne : (selIdxOf sel).isEmpty = false)
    {s : Solved α} (hs : solveStage (stackA (α := α) (selIdxOf sel) rel)
            ((List.range (nRows t)).map fun k => stackB (selColsOf sel t) rel k) = some s)
    (hfull : s.rankDeficient = false) (hrows : xs.length = nRows t) (hlen : ∀ x ∈ xs, x.length = nsym)
    (hrel : ∀ x ∈ xs, ∀ r ∈ rel,
      dot (castRow (α := α) r) x = (Int.cast r.rhs : α) / (Int.cast (Int.ofNat r.den) : α))
    (hf : IsFilled P t xs) (hatol : 0 ≤ P.residualAtol) :
    fill env (some sys) P t = .ok t :=
  fill_filled env sys P t xs hrec hres hne hs hfull hrows hlen hrel hf hatol

/-- `fill (fill t) = fill t` on the model of fill.py, for every linearly ordered field, every
relations file (packaged or user-supplied), every rectangular table `t` without case-duplicated columns:
if the first call is accepted (`hv₁`) and its result satisfies the relations exactly (`hcons`; true whenever the
input was consistent, `C09.accept_consistent_exact`), then the second call returns the first result unchanged —
PROVIDED the components that survived the drop still determine the tensor (`hfull₂ : rankDeficient = false`).
By `C09.rank_refusal_iff` that proviso fails exactly when some non-zero relation-compatible tensor vanishes on all
remaining columns, i.e. when an independent component (class) was identically zero and has been dropped: then the
second call REFUSES (`c14_fill_not_idempotent_zero_component`).
`hs₁`, `hs₂` say that the model's own least-squares solve passed its exact check (it always does when no relation has
more than 21 coefficients: `C09.solve_stage_total`). -/
theorem c14_fill_idempotent (env : Env) (sys : String) (P : Params α) (t : Table α) (n : Nat)
    (hrect : ∀ c ∈ t, c.2.length = n) (hnd : NoCaseDup t)
    {sel₁ : List (Option Nat)} (hrec₁ : recognise (t.map (·.1)) = .ok sel₁)
    {rel : Rows} (hres : resolve env sys = .ok rel) (hne₁ : (selIdxOf sel₁).isEmpty = false)
    {s₁ : Solved α} (hs₁ : solveStage (stackA (α := α) (selIdxOf sel₁) rel)
            ((List.range (nRows t)).map fun k => stackB (selColsOf sel₁ t) rel k) = some s₁)
    (hv₁ : verdict P s₁ = .ok ())
    (hcons : ∀ x ∈ s₁.xs, ∀ r ∈ rel,
      dot (castRow (α := α) r) x = (Int.cast r.rhs : α) / (Int.cast (Int.ofNat r.den) : α))
    {sel₂ : List (Option Nat)} (hrec₂ : recognise ((finish P t s₁.xs).map (·.1)) = .ok sel₂)
    (hne₂ : (selIdxOf sel₂).isEmpty = false)
    {s₂ : Solved α} (hs₂ : solveStage (stackA (α := α) (selIdxOf sel₂) rel)
            ((List.range (nRows (finish P t s₁.xs))).map fun k =>
              stackB (selColsOf sel₂ (finish P t s₁.xs)) rel k) = some s₂)
    (hfull₂ : s₂.rankDeficient = false) (hatol : 0 ≤ P.residualAtol) :
    fill env (some sys) P t = .ok (finish P t s₁.xs) ∧
    fill env (some sys) P (finish P t s₁.xs) = .ok (finish P t s₁.xs) :=
  fill_fill env sys P t n hrect hnd hrec₁ hres hne₁ hs₁ hv₁ hcons hrec₂ hne₂ hs₂ hfull₂ hatol

end fill

/-! #### no state outside the objects (inventory of the whole package, re-translated on every run) -/

section state
open Generated.State

/-- The only module-level or class-level bindings of possibly mutable objects anywhere in the
package are the writer-rule table, pint's unit registry and the two Voigt index tables (all four are constant tables:
`c14_no_shared_writes`).  In particular NO class of the package has a class-level container (results, compliances and
caches live on the instance, which is what `c14_two_calculators_isolated` assumes). -/
theorem c14_shared_objects_known :
    sharedObjects.map (fun r => (r.1, r.2.1, r.2.2.1)) =
      [("cij/io/output/results_writer.py", "<module>", "DEFAULT_WRITER_RULES"),
       ("cij/util/units.py", "<module>", "units"),
       ("cij/util/voigt.py", "<module>", "VOIGT_TO_STANDARD"),
       ("cij/util/voigt.py", "<module>", "STANDARD_TO_VOIGT")] := by decide +kernel

/-- No function or method of the package contains a statement that assigns into, deletes from or
calls a mutating method on an object reachable from a module-level name, a class (`cls.x = …`, `type(self).x`,
`self.__class__`), a function object or an imported module's settings (`pandas.set_option`, `numpy.seterr`,
`os.environ`, `os.chdir`, `random.seed` …), and none declares `global`/`nonlocal`. -/
theorem c14_no_shared_writes :
    sharedWrites.filter (fun r => r.2.1 != "<module>") = [] := by decide +kernel

/-- Statements executed at import time other than imports, definitions and bindings occur
only in the three entry-point modules (reading `version.py`, registering the click sub-commands, one click display setting):
importing a sub-command cannot change how another one computes or prints. -/
theorem c14_import_time_statements_known :
    ∀ r ∈ sharedWrites, r.2.1 = "<module>" → r.1 ∈ ["cij/__init__.py", "cij/cli/cij.py", "cij/cli/main.py"] := by decide +kernel

/-- No mutable default argument, no caching decorator (`lru_cache`, `cache`, `cached_property`, … — only
`property`, `classmethod`, `staticmethod`, `LazyProperty` and click decorators occur), no `id(…)`-keyed table, in any of the
modules scanned (all of them: the count is part of the statement so an unreadable package cannot pass vacuously). -/
theorem c14_no_hidden_state :
    mutableDefaults = [] ∧ otherDecorators = [] ∧ idCalls = [] ∧ 40 ≤ modulesScanned := by decide +kernel

end state

/-! concrete instances over ℚ, the least squares checked by the kernel (`Fill.fillChecked`: an order of the stacked rows
that shows there is no kernel and the proposed tensor, or a kernel vector and the coefficients of the minimum-norm solution).  A small user-supplied relations file: `c11 = c22`,
`c12` free, every other component `= 0` (a relations file given by path is looked up through `Env.userFile`, C09
`user_file_used`). -/

def relsU : Fill.Rows :=
  ⟨(List.range 21).map fun j => if j = 0 then 1 else if j = 6 then -1 else 0, 0, 1⟩ ::
  ((List.range 21).filter fun j => j ≠ 0 ∧ j ≠ 6 ∧ j ≠ 1).map fun j =>
    ⟨(List.range 21).map fun i => if i = j then 1 else 0, 0, 1⟩
def envU : Fill.Env := ⟨fun _ => false, fun s => if s = "my.rel" then some relsU else none⟩
def PU : Fill.Params Rat := ⟨false, false, mkRat 1 100000000, mkRat 1 10⟩

/-- first call: `c22` is derived, the vanishing components are omitted … -/
theorem c14_fill_example_first :
    Fill.fill envU (some "my.rel") PU [("V", [100]), ("C11", [300]), ("c12", [95])] =
      .ok [("V", [100]), ("C11", [300]), ("c12", [95]), ("c22", [300])] :=
  Fill.fill_eq_of_checked (w := .inr (List.range 21))
    (cs := [300 :: 95 :: 0 :: 0 :: 0 :: 0 :: 300 :: List.replicate 14 0]) (by decide +kernel)

/-- … second call on the result: unchanged (non-vacuity of `c14_fill_idempotent`) -/
theorem c14_fill_example_second :
    Fill.fill envU (some "my.rel") PU [("V", [100]), ("C11", [300]), ("c12", [95]), ("c22", [300])] =
      .ok [("V", [100]), ("C11", [300]), ("c12", [95]), ("c22", [300])] :=
  Fill.fill_eq_of_checked (w := .inr (0 :: 1 :: 2 :: List.range' 4 18))
    (cs := [300 :: 95 :: 0 :: 0 :: 0 :: 0 :: 300 :: List.replicate 14 0]) (by decide +kernel)

/-- the excluded point: the independent component `c12` is identically zero, so the first call drops its column … -/
theorem c14_fill_zero_component_first :
    Fill.fill envU (some "my.rel") PU [("c11", [300]), ("c12", [0])] = .ok [("c11", [300]), ("c22", [300])] :=
  Fill.fill_eq_of_checked (w := .inr (List.range 21))
    (cs := [300 :: 0 :: 0 :: 0 :: 0 :: 0 :: 300 :: List.replicate 14 0]) (by decide +kernel)

/-- … and the second call no longer knows it: it REFUSES for rank.  Filling is NOT idempotent there (with
`ignore_rank` it would be accepted and the component stays absent). -/
theorem c14_fill_not_idempotent_zero_component :
    Fill.fill envU (some "my.rel") PU [("c11", [300]), ("c22", [300])] = .error .refuseRank :=
  Fill.fill_eq_of_checked (w := .inl (0 :: 1 :: List.replicate 19 0)) (cs := [[300, 300]]) (by decide +kernel)

/-! #### ties shared with other properties

The statement of this property also rests on code whose translation is owned by another property's file; the theorems are restated
here so that this property's obligations are re-checked against those files too (a change there breaks THIS check's proof as well). -/

/-- `cij/core/tasks.py` as translated on this run: a non-shear task is identified by the two strain columns the source names,
task equality is at rounding level (`_STRAIN_RTOL ≤ 1e-9`, `atol = 0`), and `calculate()` feeds a shear task from the isothermal store -/
theorem c14_tasks_are_source {α : Type} [Add α] [Div α] (strain : Cij.Tasks.SField α) (key : Cij.Modulus) :
    (match Generated.makeParamCols with
     | [c0, c1] => Cij.Tasks.create strain key =
        if key.isShear then .shear strain key
        else .nonshear key.calcType (Cij.Tasks.component strain (Cij.Tasks.colOf key c0)) (Cij.Tasks.component strain (Cij.Tasks.colOf key c1))
     | _ => False) ∧
    (0 < Generated.strainRtol.1 ∧ Generated.strainRtol.1 * 1000000000 ≤ Generated.strainRtol.2) ∧
    Generated.tasksWiringCanonical = true :=
  ⟨Cij.Tasks.create_is_source strain key, Cij.Tasks.strain_rtol_tight, rfl⟩

/-- `full_modulus.py` / `_calculate_pressure_static` as translated on this run: default fit orders, degree offset, and the bodies of
`fit_modulus`, `get_axial_strains`, `get_static_modulus`, `modulus_adiabatic`, `modulus_isothermal` are the ones the model implements -/
theorem c14_full_modulus_is_source :
    Generated.fitModulusDegOffset = 1 ∧ Generated.fullModulusBodiesCanonical = true ∧
    Generated.fitModulusDefaultOrder = 2 ∧ Generated.staticPressureDefaultOrder = 3 := by decide

end Cij.C14
