/-
  C15 — output files carry the in-memory results on the requested grids, units and names.

  Every statement is about `CijModel/Writer.lean`; the rules are `Generated.writerRules`, re-translated from
  cij/data/output/writer_rules.yml on every run (so a changed YAML is re-checked by the kernel).  The CODE of the output path
  (results_writer.py, qha_output.py, write_table / write_variables of both interface classes, Calculator.write_output) is
  re-translated as well (`Generated/WriterSpec.lean`, tools/gens/writer_src.py); the `writer_model_is_source_*` theorems at the end
  say that every model function used above is the interpreter (Lemmas/WriterSource.lean) of those translated statements.
  Finite facts about the rules are closed by kernel evaluation (`decide +kernel`); the content theorems are
  for all scalars `α` (any type with `*`; a commutative ring where unit factors must cancel), all grids
  (NT, DT, T_MIN, NTV, DELTA_P, P_MIN), all in-memory arrays and all component lists.

  Outside the model (tested by harness/c15.py on the real files): pandas' text layout, "%.15e" rounding of the
  values, the 6-decimal rounding of the labels, pint's numeric factors.
-/
import CijProofs.Lemmas.Writer
import CijProofs.Lemmas.WriterSource

namespace Cij.C15

open Cij Cij.Writer Generated

/-! #### row labels: the last four guard temperatures are dropped, nothing else -/

/-- `t_array[:-4]` of qha's `arange(T_MIN, NT+4, DT)` is exactly `T_MIN + k·DT, k < NT` — for every NT. -/
theorem rows_are_grid {α} [Add α] [Mul α] [NatCast α] (tMin dt : α) (nt : Nat) :
    dropLast4 (arange tMin (nt + 4) dt) = arange tMin nt dt ∧
    (dropLast4 (arange tMin (nt + 4) dt)).length = nt ∧
    ∀ k < nt, (dropLast4 (arange tMin (nt + 4) dt))[k]? = some (tMin + dt * (k : α)) := by
  rw [dropLast4_arange]
  exact ⟨rfl, length_arange _ _ _, fun k hk => getElem?_arange _ _ _ _ hk⟩

/-- dropping FOUR is essential: three or five give a different grid (non-vacuity of the above). -/
example : dropLast4 (arange (0 : Int) (3 + 4) 10) = [0, 10, 20] ∧
    (arange (0 : Int) (3 + 4) 10).take (7 - 3) ≠ [0, 10, 20] ∧ (arange (0 : Int) (3 + 4) 10).drop 4 ≠ [0, 10, 20] := by
  decide

/-! #### column labels -/

/-- pressure base: `p_array` is qha's `desired_pressures` = (P_MIN + j·DELTA_P)·c with c = GPa→Ry/bohr³; the
writer multiplies by `toGPa`.  When the two factors are inverse the labels are the requested pressures in GPa. -/
theorem cols_are_grid {α} [CommRing α] (U : Writer.Units α) (b : Base α) (fname : String) (value : Matrix α)
    (t : Table α) (pMin dP c : α) (ntv : Nat)
    (hb : b.pressureBase = true)
    (hax : b.axis = (arange pMin ntv dP).map (· * c))
    (hc : c * U.toGPa = 1)
    (h : writeTable U b fname value = some t) :
    t.cols = arange pMin ntv dP ∧ ∀ j < ntv, t.cols[j]? = some (pMin + dP * (j : α)) := by
  have hcols : t.cols = arange pMin ntv dP := by
    obtain ⟨_, _, _, hcol, _⟩ := writeTable_some U b fname value t h
    simp only [hcol, hb, hax, if_true]
    exact map_mul_map_mul _ _ _ hc
  exact ⟨hcols, fun j hj => by rw [hcols]; exact getElem?_arange _ _ _ _ hj⟩

/-- volume base: the labels are the grid volumes converted to Å³ (by definition of the conversion factor). -/
theorem cols_are_grid_volume {α} [Mul α] (U : Writer.Units α) (b : Base α) (fname : String) (value : Matrix α)
    (t : Table α) (hb : b.pressureBase = false) (h : writeTable U b fname value = some t) :
    t.cols = b.axis.map (· * U.toAng3) ∧ t.corner = "T(K)\\V(A^3)" := by
  obtain ⟨_, hcor, _, hcol, _⟩ := writeTable_some U b fname value t h
  simp [hcol, hcor, hb]

/-! #### the content of a written file = in-memory result × unit factor on the requested grid -/

/-- A `value` rule, no override: exactly one file, named by the pattern, rows = temperatures without the four
guard points, values = factor · in-memory (first NT rows). -/
theorem value_file_content {α} [Mul α] (U : Writer.Units α) (r : WriterRule) (b : Base α) (kw : String)
    (m : Matrix α) (k : α) (f : String)
    (hr : r.varType = "value")
    (hprop : dictGet b.props r.prop = some (.value m))
    (hk : U.conv r.unitInternal r.unit = some k)
    (hf : valueFname r b.baseName = some f)
    (hrows : m.length = b.tArray.length) (hcols : ∀ row ∈ m, row.length = b.axis.length) :
    writeRule U r b (some { keyword := kw }) = some [
      { fname := f
        corner := if b.pressureBase then "T(K)\\P(GPa)" else "T(K)\\V(A^3)"
        rows := dropLast4 b.tArray
        cols := b.axis.map (· * (if b.pressureBase then U.toGPa else U.toAng3))
        vals := scale k (dropLast4 m) }] :=
  writeRule_value (cfg := some { keyword := kw }) hr hprop hk hf hrows hcols

/-- the same on the requested grids: pressure base with qha's arrays. -/
theorem value_file_on_requested_grid {α} [CommRing α] (U : Writer.Units α) (r : WriterRule) (b : Base α) (kw : String)
    (m : Matrix α) (k c tMin dt pMin dP : α) (nt ntv : Nat) (f : String)
    (hr : r.varType = "value") (hprop : dictGet b.props r.prop = some (.value m))
    (hk : U.conv r.unitInternal r.unit = some k) (hf : valueFname r b.baseName = some f)
    (hb : b.pressureBase = true)
    (ht : b.tArray = arange tMin (nt + 4) dt)
    (hax : b.axis = (arange pMin ntv dP).map (· * c)) (hc : c * U.toGPa = 1)
    (hrows : m.length = nt + 4) (hcols : ∀ row ∈ m, row.length = ntv) :
    writeRule U r b (some { keyword := kw }) = some [
      { fname := f, corner := "T(K)\\P(GPa)", rows := arange tMin nt dt, cols := arange pMin ntv dP,
        vals := scale k (m.take nt) }] := by
  have hlen : b.tArray.length = nt + 4 := by rw [ht, length_arange]
  have haxl : b.axis.length = ntv := by rw [hax]; simp [length_arange]
  rw [value_file_content U r b kw m k f hr hprop hk hf (by rw [hlen, hrows]) (by rw [haxl]; exact hcols)]
  have h1 : dropLast4 b.tArray = arange tMin nt dt := by rw [ht, dropLast4_arange]
  have h2 : dropLast4 m = m.take nt := by simp [dropLast4, hrows]
  have h3 : b.axis.map (fun x => x * U.toGPa) = arange pMin ntv dP := by
    rw [hax]
    exact map_mul_map_mul _ _ _ hc
  simp [h1, h2, h3, hb]

/-- An `ij_value` rule, no override: one `write_table` per item of `.items()`, in order, component `i` named
by `{ij}` = "%d%d" of its Voigt pair and holding factor · that component. -/
theorem ij_file_content {α} [Mul α] (U : Writer.Units α) (r : WriterRule) (b : Base α) (kw : String)
    (items : List (Modulus × Matrix α)) (k : α) (ts : List (Table α))
    (hr : r.varType = "ij_value")
    (hprop : dictGet b.props r.prop = some (.items items))
    (hk : U.conv r.unitInternal r.unit = some k)
    (h : writeRule U r b (some { keyword := kw }) = some ts) :
    ts.length = items.length ∧
    ∀ i (hi : i < items.length) (hi' : i < ts.length),
      some (ts[i]).fname = ijFname r b.baseName (items[i]).1 ∧
      (ts[i]).rows = dropLast4 b.tArray ∧
      (ts[i]).cols = b.axis.map (· * (if b.pressureBase then U.toGPa else U.toAng3)) ∧
      (ts[i]).vals = scale k (dropLast4 (items[i]).2) :=
  writeRule_ij_some (cfg := some { keyword := kw }) hr hprop hk h

/-! #### the translated rules: keywords, aliases, adiabatic / isothermal, documented units and names -/

/-- every keyword of every rule resolves, and to the rule that lists it (no keyword is shadowed by a later rule) -/
theorem every_keyword_resolves : ∀ r ∈ writerRules, ∀ k ∈ r.keywords, resolve k = some r := by
  decide +kernel

/-- the registry is "last rule listing the keyword wins", for ANY rule list -/
theorem registry_later_wins (rules : List WriterRule) (kw : String) :
    resolveIn rules kw = rules.reverse.find? (fun r => decide (kw ∈ r.keywords)) :=
  resolveIn_eq_last rules kw

/-- an unknown keyword is a KeyError -/
theorem unknown_keyword_rejected (rules : List WriterRule) (kw : String) (h : ∀ r ∈ rules, kw ∉ r.keywords) :
    resolveIn rules kw = none := by
  rw [resolveIn_eq_last, List.find?_eq_none]
  intro r hr; simpa using h r (List.mem_reverse.1 hr)

/-- aliases of one rule resolve to the same rule -/
theorem aliases_same_rule : ∀ r ∈ writerRules, ∀ k₁ ∈ r.keywords, ∀ k₂ ∈ r.keywords, resolve k₁ = resolve k₂ := by
  intro r hr k₁ h₁ k₂ h₂
  rw [every_keyword_resolves r hr k₁ h₁, every_keyword_resolves r hr k₂ h₂]

/-- aliases of one rule produce identical files: same names, labels and values, for every base, every in-memory content,
every override. -/
theorem aliases_identical_content {α} [Mul α] (U : Writer.Units α) (b : Base α)
    (r : WriterRule) (hr : r ∈ writerRules) (k₁ k₂ : String) (h₁ : k₁ ∈ r.keywords) (h₂ : k₂ ∈ r.keywords)
    (fname unit unitInternal : Option String) :
    writeKeyword U b { keyword := k₁, fname := fname, unit := unit, unitInternal := unitInternal } =
    writeKeyword U b { keyword := k₂, fname := fname, unit := unit, unitInternal := unitInternal } := by
  have e₁ : resolveIn writerRules k₁ = some r := every_keyword_resolves r hr k₁ h₁
  have e₂ : resolveIn writerRules k₂ = some r := every_keyword_resolves r hr k₂ h₂
  -- past the registry nothing reads `keyword`
  unfold writeKeyword writeKeywordIn
  rw [e₁, e₂]
  rfl

/-- the adiabatic keywords select `modulus_adiabatic`, the isothermal ones `modulus_isothermal`, both per component -/
theorem adiabatic_isothermal_selection :
    (∀ k ∈ ["cij", "cij_s", "adiabatic_elastic_moduli"],
      (resolve k).map (fun r => (r.prop, r.varType, r.fnamePattern)) =
        some ("modulus_adiabatic", "ij_value", "c{ij}s_{base}_gpa.txt")) ∧
    (∀ k ∈ ["cij_t", "isothermal_elastic_moduli"],
      (resolve k).map (fun r => (r.prop, r.varType, r.fnamePattern)) =
        some ("modulus_isothermal", "ij_value", "c{ij}t_{base}_gpa.txt")) := by
  decide +kernel

def noSpace (s : String) : String := String.ofList (s.toList.filter (· ≠ ' '))

/-- The documented table (README / docs/usage/output.rst) — the
SPECIFICATION side: keyword ↦ (file name pattern, unit, internal unit, property read, kind). -/
def documented : List (List String × String × String × String × String × String) :=
  [ (["cij_s", "cij", "adiabatic_elastic_moduli"], "c{ij}s_{base}_gpa.txt", "GPa", "rydberg/bohr^3", "modulus_adiabatic", "ij_value"),
    (["cij_t", "isothermal_elastic_moduli"], "c{ij}t_{base}_gpa.txt", "GPa", "rydberg/bohr^3", "modulus_isothermal", "ij_value"),
    (["B_V", "Bm_V", "bm_V", "bulk_modulus_voigt"], "bm_V_{base}_gpa.txt", "GPa", "rydberg/bohr^3", "bulk_modulus_voigt", "value"),
    (["B_R", "Bm_R", "bm_R", "bulk_modulus_reuss"], "bm_R_{base}_gpa.txt", "GPa", "rydberg/bohr^3", "bulk_modulus_reuss", "value"),
    (["B_VRH", "Bm_VRH", "bm_VRH", "bulk_modulus_voigt_reuss_hill"], "bm_VRH_{base}_gpa.txt", "GPa", "rydberg/bohr^3", "bulk_modulus_voigt_reuss_hill", "value"),
    (["G_V", "shear_modulus_voigt"], "G_V_{base}_gpa.txt", "GPa", "rydberg/bohr^3", "shear_modulus_voigt", "value"),
    (["G_R", "shear_modulus_reuss"], "G_R_{base}_gpa.txt", "GPa", "rydberg/bohr^3", "shear_modulus_reuss", "value"),
    (["G_VRH", "shear_modulus_voigt_reuss_hill"], "G_VRH_{base}_gpa.txt", "GPa", "rydberg/bohr^3", "shear_modulus_voigt_reuss_hill", "value"),
    (["v_p", "vp", "primary_velocities"], "v_p_{base}_km_s.txt", "km/s", "km/s", "primary_velocities", "value"),
    (["v_s", "vs", "secondary_velocities"], "v_s_{base}_km_s.txt", "km/s", "km/s", "secondary_velocities", "value"),
    (["v", "V", "volumes"], "v_{base}_ang3.txt", "angstrom^3", "bohr^3", "volumes", "value"),
    (["p", "P", "pressures"], "p_{base}_gpa.txt", "GPa", "rydberg/bohr^3", "pressures", "value") ]

/-- the documented table is the rule table, row by row (the internal unit up to blanks) -/
theorem documented_is_rule_table : documented = writerRules.map fun r =>
    (r.keywords, r.fnamePattern, r.unit, noSpace r.unitInternal, r.prop, r.varType) := by
  decide +kernel

/-- every documented keyword resolves to a rule with the documented name pattern, unit, internal unit,
property and kind -/
theorem documented_units_and_patterns : ∀ d ∈ documented, ∀ k ∈ d.1,
    (resolve k).map (fun r => (r.fnamePattern, r.unit, noSpace r.unitInternal, r.prop, r.varType)) = some d.2 := by
  rw [documented_is_rule_table]
  intro d hd k hk
  obtain ⟨r, hr, rfl⟩ := List.mem_map.1 hd
  rw [every_keyword_resolves r hr k hk]
  rfl

/-- conversely every keyword the code accepts is a documented one (nothing undocumented is reachable) -/
theorem accepted_keywords_documented : ∀ r ∈ writerRules, ∀ k ∈ r.keywords, ∃ d ∈ documented, k ∈ d.1 := by
  intro r hr k hk
  rw [documented_is_rule_table]
  exact ⟨_, List.mem_map_of_mem hr, hk⟩

def unitTag (u : String) : Option String :=
  if u = "GPa" then some "gpa" else if u = "km/s" then some "km_s" else if u = "angstrom^3" then some "ang3" else none

/-- the unit shown in the file name is the unit written: `_gpa` ⇔ GPa, `_km_s` ⇔ km/s, `_ang3` ⇔ Å³ -/
theorem name_shows_unit : ∀ r ∈ writerRules, ∃ tag, unitTag r.unit = some tag ∧
    ("_{base}_" ++ tag ++ ".txt").toList.isSuffixOf r.fnamePattern.toList = true := by
  decide +kernel

/-! #### file names: formed as documented, never shared -/

/-- `{base}` ↦ tv / tp and `{ij}` ↦ the two Voigt digits: the names of all 21 components of both tensors -/
theorem ij_names_as_documented : ∀ base ∈ ["tv", "tp"], ∀ p ∈ keys21,
    (do let r ← resolve "cij_s"; ijFname r base (keyOfVoigt p)) =
        some ("c" ++ toString p.1 ++ toString p.2 ++ "s_" ++ base ++ "_gpa.txt") ∧
    (do let r ← resolve "cij_t"; ijFname r base (keyOfVoigt p)) =
        some ("c" ++ toString p.1 ++ toString p.2 ++ "t_" ++ base ++ "_gpa.txt") := by
  decide +kernel

/-- all names the rules can produce (10 value files + 2×21 component files, for each base) exist and are
pairwise different — also across the two bases, which write into the same directory -/
theorem no_two_rules_share_a_file :
    (allFnames writerRules "tv" ++ allFnames writerRules "tp").all Option.isSome = true ∧
    (allFnames writerRules "tv" ++ allFnames writerRules "tp").Nodup ∧
    (allFnames writerRules "tv").length = 52 := by
  decide +kernel

/-- "%d%d" of the Voigt pair is injective on the 21 keys, for each tensor rule and base -/
theorem one_file_per_component_names : ∀ r ∈ writerRules, r.varType = "ij_value" → ∀ base ∈ ["tv", "tp"],
    (keys21.map fun p => ijFname r base (keyOfVoigt p)).Nodup ∧
    (keys21.map fun p => ijFname r base (keyOfVoigt p)).all Option.isSome = true := by
  intro r hr hij base hbase
  obtain ⟨hsome, hnd, _⟩ := no_two_rules_share_a_file
  -- the component names of `r` are a sublist of the list of all names
  have hsub : (keys21.map fun p => ijFname r base (keyOfVoigt p)).Sublist
      (allFnames writerRules "tv" ++ allFnames writerRules "tp") := by
    simp only [List.mem_cons, List.not_mem_nil, or_false] at hbase
    rcases hbase with rfl | rfl
    · exact (ijFnames_sublist hr hij _).trans (List.sublist_append_left _ _)
    · exact (ijFnames_sublist hr hij _).trans (List.sublist_append_right _ _)
  exact ⟨hnd.sublist hsub, List.all_eq_true.2 fun x hx => List.all_eq_true.1 hsome x (hsub.subset hx)⟩

/-- one file per available component, for EVERY component set: distinct keys ⇒ as many distinct file names
as components, and the directory afterwards holds exactly those files with their own content. -/
theorem one_file_per_component {α} [Mul α] (U : Writer.Units α) (r : WriterRule) (b : Base α) (kw : String)
    (items : List (Modulus × Matrix α)) (k : α) (ts : List (Table α))
    (hrm : r ∈ writerRules) (hr : r.varType = "ij_value") (hbase : b.baseName ∈ ["tv", "tp"])
    (hprop : dictGet b.props r.prop = some (.items items))
    (hk : U.conv r.unitInternal r.unit = some k)
    (hkeys : ∀ kv ∈ items, ∃ p ∈ keys21, kv.1 = keyOfVoigt p)
    (hnodup : (items.map (·.1)).Nodup)
    (h : writeRule U r b (some { keyword := kw }) = some ts) :
    ts.length = items.length ∧ (ts.map (·.fname)).Nodup ∧
    filesAfter ts = ts.map (fun t => (t.fname, t)) := by
  obtain ⟨hlen, hall⟩ := ij_file_content U r b kw items k ts hr hprop hk h
  obtain ⟨hnd, _⟩ := one_file_per_component_names r hrm hr b.baseName hbase
  have hinj := List.inj_on_of_nodup_map hnd
  -- names of the written tables = names computed from the keys
  have hnames : (ts.map (·.fname)).map some = items.map (fun kv => ijFname r b.baseName kv.1) := by
    apply List.ext_getElem
    · simp [hlen]
    · intro i h1 h2
      have hi : i < items.length := by simpa using h2
      have hi' : i < ts.length := by simpa using h1
      simpa using (hall i hi hi').1
  have hnd2 : (items.map (fun kv => ijFname r b.baseName kv.1)).Nodup := by
    have : items.map (fun kv => ijFname r b.baseName kv.1) = (items.map (·.1)).map (ijFname r b.baseName) := by
      simp
    rw [this]
    apply List.Nodup.map_on _ hnodup
    intro x hx y hy hxy
    obtain ⟨kvx, hkvx, rfl⟩ := List.mem_map.1 hx
    obtain ⟨kvy, hkvy, rfl⟩ := List.mem_map.1 hy
    obtain ⟨p, hp, hpx⟩ := hkeys kvx hkvx
    obtain ⟨q, hq, hqy⟩ := hkeys kvy hkvy
    rw [hpx, hqy] at hxy ⊢
    rw [hinj hp hq hxy]
  have hnd3 : (ts.map (·.fname)).Nodup := by
    rw [← hnames] at hnd2; exact List.Nodup.of_map _ hnd2
  exact ⟨hlen, hnd3, filesAfter_of_nodup ts hnd3⟩

/-! #### overrides -/

/-- `fname` override on a `value` rule: the file gets exactly that name, content unchanged. -/
theorem override_fname_value {α} [Mul α] (U : Writer.Units α) (r : WriterRule) (b : Base α) (kw f' : String)
    (hr : r.varType = "value") (hf : (valueFname r b.baseName).isSome) :
    writeRule U r b (some { keyword := kw, fname := some f' }) =
      (writeRule U r b (some { keyword := kw })).map (fun ts => ts.map fun t => { t with fname := f' }) := by
  obtain ⟨f, hf⟩ := Option.isSome_iff_exists.1 hf
  cases hconv : U.conv r.unitInternal r.unit with
  | none => simp [writeRule, hr, writeVariable, factorOf, hconv]
  | some k =>
    cases hp : dictGet b.props r.prop with
    | none => simp [writeRule, hr, writeVariable, factorOf, hconv, hp]
    | some pv =>
      cases pv with
      | items l => simp [writeRule, hr, writeVariable, factorOf, hconv, hp]
      | value m =>
        simp only [writeRule, hr, writeVariable, factorOf, hconv, hp, hf, beq_self_eq_true, if_true,
          Option.bind_some, Option.getD_none, Option.bind_eq_bind]
        rw [writeTable_rename U b f f']
        cases writeTable U b f (scale k m) <;> simp

/-- `unit` override: the values are converted to the REQUESTED unit (factor of (unit_internal → that unit));
names and labels do not change (the name keeps its documented suffix, e.g. `_gpa`, as coded). -/
theorem override_unit {α} [Mul α] (U : Writer.Units α) (r : WriterRule) (b : Base α) (kw u' : String)
    (m : Matrix α) (k' : α) (f : String)
    (hr : r.varType = "value")
    (hprop : dictGet b.props r.prop = some (.value m))
    (hk : U.conv r.unitInternal u' = some k')
    (hf : valueFname r b.baseName = some f)
    (hrows : m.length = b.tArray.length) (hcols : ∀ row ∈ m, row.length = b.axis.length) :
    writeRule U r b (some { keyword := kw, unit := some u' }) = some [
      { fname := f
        corner := if b.pressureBase then "T(K)\\P(GPa)" else "T(K)\\V(A^3)"
        rows := dropLast4 b.tArray
        cols := b.axis.map (· * (if b.pressureBase then U.toGPa else U.toAng3))
        vals := scale k' (dropLast4 m) }] :=
  writeRule_value (cfg := some { keyword := kw, unit := some u' }) hr hprop hk hf hrows hcols

/-- `unit` override on a tensor rule: every component in the requested unit. -/
theorem override_unit_ij {α} [Mul α] (U : Writer.Units α) (r : WriterRule) (b : Base α) (kw u' : String)
    (items : List (Modulus × Matrix α)) (k' : α) (ts : List (Table α))
    (hr : r.varType = "ij_value")
    (hprop : dictGet b.props r.prop = some (.items items))
    (hk : U.conv r.unitInternal u' = some k')
    (h : writeRule U r b (some { keyword := kw, unit := some u' }) = some ts) :
    ts.length = items.length ∧
    ∀ i (hi : i < items.length) (hi' : i < ts.length),
      some (ts[i]).fname = ijFname r b.baseName (items[i]).1 ∧ (ts[i]).vals = scale k' (dropLast4 (items[i]).2) := by
  obtain ⟨hlen, hall⟩ := writeRule_ij_some (cfg := some { keyword := kw, unit := some u' }) hr hprop hk h
  exact ⟨hlen, fun i hi hi' => ⟨(hall i hi hi').1, (hall i hi hi').2.2.2⟩⟩

/-
  FULL STATEMENT (property text): "one file is written per available component, and a user-supplied file name
  … override is honoured" — for a tensor keyword WITH an `fname` override both cannot hold in the code as
  written: `write_ij_variable` sends every component to the same literal name
  (`if "fname" in _config: fname = config["fname"]` inside the loop), each write truncating the previous one.
  What is true is `override_honoured_partial` (value rules: honoured; units: honoured everywhere) plus the two
  theorems below: the directory ends with ONE file under the given name holding only the LAST component.
-/

/-- all writes of a tensor rule with `fname` override go to that one name -/
theorem override_fname_ij_single_file {α} [Mul α] (U : Writer.Units α) (r : WriterRule) (b : Base α) (kw f' : String)
    (items : List (Modulus × Matrix α)) (k : α) (ts : List (Table α))
    (hr : r.varType = "ij_value")
    (hprop : dictGet b.props r.prop = some (.items items))
    (hk : U.conv r.unitInternal r.unit = some k)
    (hne : items ≠ [])
    (h : writeRule U r b (some { keyword := kw, fname := some f' }) = some ts) :
    ts.length = items.length ∧ (∀ t ∈ ts, t.fname = f') ∧
    ∃ last, ts.getLast? = some last ∧ filesAfter ts = [(f', last)] ∧
      ∃ kv, items.getLast? = some kv ∧ last.vals = scale k (dropLast4 kv.2) := by
  obtain ⟨hlen, hall'⟩ := writeRule_ij_some (cfg := some { keyword := kw, fname := some f' }) hr hprop hk h
  have hall : ∀ i (hi : i < items.length) (hi' : i < ts.length),
      (ts[i]).fname = f' ∧ (ts[i]).vals = scale k (dropLast4 (items[i]).2) := fun i hi hi' =>
    ⟨Option.some.inj (hall' i hi hi').1, (hall' i hi hi').2.2.2⟩
  have hfn : ∀ t ∈ ts, t.fname = f' := by
    intro t ht
    obtain ⟨i, hi, rfl⟩ := List.getElem_of_mem ht
    exact (hall i (by omega) hi).1
  have htsne : ts ≠ [] := by
    intro e; rw [e] at hlen; exact hne (List.length_eq_zero_iff.1 hlen.symm)
  refine ⟨hlen, hfn, ts.getLast htsne, List.getLast?_eq_getLast_of_ne_nil htsne,
    filesAfter_same_name ts f' htsne hfn, items.getLast hne, List.getLast?_eq_getLast_of_ne_nil hne, ?_⟩
  rw [List.getLast_eq_getElem, List.getLast_eq_getElem]
  have := (hall (items.length - 1) (by have := List.length_pos_iff.2 hne; omega)
    (by have := List.length_pos_iff.2 htsne; omega)).2
  simpa [hlen] using this

/-- rule cij_s, components c11 and c12, 1 requested temperature, 1 pressure -/
def witnessBase : Base Int :=
  { baseName := "tp", pressureBase := true, tArray := [0, 1, 2, 3, 4], axis := [7],
    props := [("modulus_adiabatic", .items [(keyOfVoigt (1, 1), [[11], [0], [0], [0], [0]]),
                                            (keyOfVoigt (1, 2), [[12], [0], [0], [0], [0]])])] }
def witnessUnits : Writer.Units Int := { toGPa := 1, toAng3 := 1, conv := fun _ _ => some 1 }

/-- so with two components one file results, not two: the negation of "one file per component ∧ fname
honoured" on a concrete witness. -/
theorem override_fname_ij_not_one_file_per_component :
    (writeKeyword witnessUnits witnessBase { keyword := "cij", fname := some "mine.txt" }).map
        (fun ts => (ts.length, (filesAfter ts).map fun e => (e.1, e.2.vals))) =
      some (2, [("mine.txt", [[12]])]) ∧
    (writeKeyword witnessUnits witnessBase { keyword := "cij" }).map
        (fun ts => (filesAfter ts).map fun e => (e.1, e.2.vals)) =
      some [("c11s_tp_gpa.txt", [[11]]), ("c12s_tp_gpa.txt", [[12]])] := by
  decide +kernel

/-- the part of "override honoured" that the code does satisfy: on a `value` rule the write that succeeds
without override succeeds with it, every file carries the requested name, and labels and values are unchanged.
(Units: `override_unit`, `override_unit_ij` hold without restriction.) -/
theorem override_honoured_partial {α} [Mul α] (U : Writer.Units α) (r : WriterRule) (b : Base α) (kw f' : String)
    (hr : r.varType = "value") (hf : (valueFname r b.baseName).isSome) (ts : List (Table α))
    (h : writeRule U r b (some { keyword := kw }) = some ts) :
    ∃ ts', writeRule U r b (some { keyword := kw, fname := some f' }) = some ts' ∧
      (∀ t ∈ ts', t.fname = f') ∧ ts'.map (·.vals) = ts.map (·.vals) ∧
      ts'.map (·.rows) = ts.map (·.rows) ∧ ts'.map (·.cols) = ts.map (·.cols) := by
  refine ⟨ts.map fun t => { t with fname := f' }, ?_, ?_, ?_, ?_, ?_⟩
  · rw [override_fname_value U r b kw f' hr hf, h]; rfl
  · intro t ht; obtain ⟨t0, _, rfl⟩ := List.mem_map.1 ht; rfl
  · simp [Function.comp_def]
  · simp [Function.comp_def]
  · simp [Function.comp_def]

/-! #### `write_variables`: the files of a list of requests are the files of each request, in order -/

theorem write_variables_concat {α} [Mul α] (U : Writer.Units α) (b : Base α) (cfgs : List Config) (tss : List (List (Table α)))
    (h : ∀ i (hi : i < cfgs.length), ∃ (hi' : i < tss.length), writeKeyword U b (cfgs[i]) = some (tss[i]))
    (hl : tss.length = cfgs.length) :
    writeVariables U b cfgs = some tss.flatten := by
  unfold writeVariables
  have : cfgs.map (writeKeyword U b) = tss.map some := by
    apply List.ext_getElem
    · simp [hl]
    · intro i h1 h2
      obtain ⟨hi', e⟩ := h i (by simpa using h1)
      simp [e]
  rw [this, optAll_map_some]; rfl

/-! #### the model is the source: every model function = the interpreter of the statements translated on this run

`Generated/WriterSpec.lean` is re-extracted from the working tree by tools/gens/writer_src.py on every run; the interpreters
(`Cij.Writer.Source.*`, Lemmas/WriterSource.lean) give the extracted data its meaning.  Each theorem is for ALL rules, bases,
configs and lists; a changed statement in the source changes the data and the theorem named after the function stops checking. -/

section source
open Cij.Writer.Source

/-- `ResultsWriterRule.create`: each of the six NamedTuple fields is the YAML entry of the same name, all six exist for every
rule, `_asdict()` has exactly these keys — in particular no `fname` and no `keyword`, so `"fname" in _config` asks the USER's entry. -/
theorem writer_model_is_source_create (r : WriterRule) :
    (∀ f ∈ writerRuleFields, tupleGet Src.generated r f = yamlGet r f ∧ (yamlGet r f).isSome) ∧
    (∀ k, asdictGet Src.generated r k = if k ∈ writerRuleFields then yamlGet r k else none) ∧
    writerRuleFields.length = 6 ∧ "fname" ∉ writerRuleFields ∧ "keyword" ∉ writerRuleFields := by
  have hfields : ∀ f ∈ writerRuleFields, tupleGet Src.generated r f = yamlGet r f ∧ (yamlGet r f).isSome := by
    intro f hf
    simp only [writerRuleFields, List.mem_cons, List.not_mem_nil, or_false] at hf
    rcases hf with rfl | rfl | rfl | rfl | rfl | rfl <;> exact ⟨rfl, rfl⟩
  refine ⟨hfields, fun k => ?_, by decide, by decide, by decide⟩
  by_cases hk : k ∈ writerRuleFields
  · simpa [asdictGet, Src.generated, hk] using (hfields k hk).1
  · simp [asdictGet, Src.generated, hk]

/-- `_format_ij`: the model's `{ij}` is `"<format>" % key.<attr>` with the translated format and attribute -/
theorem writer_model_is_source_format_ij (key : Modulus) : formatIj key = evalFormatIj Src.generated key := by
  have hP : Src.generated = Src.canonical := rfl
  rw [hP, formatIj_canonical]

/-- `write_variable`: override order (`_config = self._asdict(); _config.update(config)` — rule first, user entry over it),
`convert_unit(_config["unit_internal"], _config["unit"])`, `getattr(base, self.prop)`, the file-name rule and the single
`base.write_table(fname, convert(variable))` are the translated ones. -/
theorem writer_model_is_source_write_variable {α} [Mul α] (U : Writer.Units α) (r : WriterRule) (b : Base α) (cfg : Option Config) :
    writeVariable U r b cfg = evalWrite Src.generated writeVariableSpec U r b cfg := by
  have hP : Src.generated = Src.canonical := rfl
  have hS : writeVariableSpec = canonValueSpec := rfl
  rw [hP, hS, evalWrite_value_canonical]

/-- `write_ij_variable`: the same prologue; each item of `.items()`, in that order, gets its own file name
(`"fname" in _config` → `config["fname"]`, else the pattern with `base` and `ij = _format_ij(k)`) and its own
`base.write_table(fname, convert(v))`. -/
theorem writer_model_is_source_write_ij_variable {α} [Mul α] (U : Writer.Units α) (r : WriterRule) (b : Base α) (cfg : Option Config) :
    writeIjVariable U r b cfg = evalWrite Src.generated writeIjVariableSpec U r b cfg := by
  have hP : Src.generated = Src.canonical := rfl
  have hS : writeIjVariableSpec = canonIjSpec := rfl
  rw [hP, hS, evalWrite_ij_canonical]

/-- the unit factor of the model is pint's factor from (user's `unit_internal` over the rule's) to (user's `unit` over the rule's):
both dict lookups go through the translated layer order, the two strings reach `convert_unit` in the translated positions, and
`convert_unit` converts from its translated source parameter to its translated target parameter. -/
theorem writer_model_is_source_convert {α} [Mul α] (U : Writer.Units α) (r : WriterRule) (cfg : Option Config) :
    factorOf U r cfg =
      ((lookup writeVariableSpec.layers (asdictGet Src.generated r) (cfg.map userGet)
          writeVariableSpec.convertFrom.1 writeVariableSpec.convertFrom.2).bind PyVal.asStr).bind fun u₀ =>
      ((lookup writeVariableSpec.layers (asdictGet Src.generated r) (cfg.map userGet)
          writeVariableSpec.convertTo.1 writeVariableSpec.convertTo.2).bind PyVal.asStr).bind fun u₁ =>
      convertCall Src.generated U [u₀, u₁] := by
  have hP : Src.generated = Src.canonical := rfl
  have hS : writeVariableSpec = canonValueSpec := rfl
  rw [hP, hS]
  simp only [canonValueSpec, lookup_unit, lookup_unit_internal, convertCall_canonical, Option.bind_some, factorOf]

/-- `ResultsWriterRule.write`: the `var_type` dispatch table -/
theorem writer_model_is_source_dispatch {α} [Mul α] (U : Writer.Units α) (r : WriterRule) (b : Base α) (cfg : Option Config) :
    writeRule U r b cfg = evalDispatch writerDispatch U r b cfg := by
  have hD : writerDispatch = canonDispatch := rfl
  rw [hD, evalDispatch_canonical]

/-- `ResultsWriter._init_rules`: one registry entry per keyword of every rule in file order, a later rule overwriting an
earlier one — for ANY rule list -/
theorem writer_model_is_source_registry (rules : List WriterRule) :
    evalRegistry Src.generated registryKeyField rules = some (initRules rules) := by
  have hP : Src.generated = Src.canonical := rfl
  have hF : registryKeyField = "keywords" := rfl
  rw [hP, hF, evalRegistry_canonical]

/-- `ResultsWriter.write`: a bare string is wrapped under the translated key, the rule is looked up under the translated key,
and the (wrapped) entry is handed on — for any rule list, base and entry -/
theorem writer_model_is_source_write {α} [Mul α] (rules : List WriterRule) (U : Writer.Units α) (b : Base α) (q : Request) :
    writeKeywordIn rules U b q.config = evalWriterWrite writerBareKey writerDispatchKey rules U b q := by
  have h1 : writerBareKey = "keyword" := rfl
  have h2 : writerDispatchKey = "keyword" := rfl
  rw [h1, h2, evalWriterWrite_canonical]

/-- `write_table` of the class the base belongs to: the translated saver with the translated five arguments — rows `self.t_array`,
columns `_to_gpa(self.p_array)` resp. `_to_ang3(self.v_array)` with NO other operation on the labels, the sample argument being the
very label array (so qha's `isin` filter keeps every row / column), `value` and `fname` passed through. -/
theorem writer_model_is_source_write_table {α} [Mul α] (U : Writer.Units α) (b : Base α) (fname : String) (value : Matrix α) :
    writeTable U b fname value =
      evalWriteTable (if b.pressureBase then pressureWriteTable else volumeWriteTable) U b fname value := by
  have h1 : pressureWriteTable = canonPressureTable := rfl
  have h2 : volumeWriteTable = canonVolumeTable := rfl
  rw [h1, h2, evalWriteTable_canonical]

/-- `write_variables` of the class the base belongs to: a fresh `ResultsWriter(self)` per call (the base the method was called
on, the packaged rules), one `writer.write(c)` per entry of the list, in order — for every list -/
theorem writer_model_is_source_write_variables {α} [Mul α] (U : Writer.Units α) (b : Base α) (cfgs : List Config) :
    writeVariables U b cfgs =
      evalWriteVariables (if b.pressureBase then pressureWriteVariables else volumeWriteVariables) writerCtorParams U b cfgs := by
  have h1 : pressureWriteVariables = canonWriteVariables := rfl
  have h2 : volumeWriteVariables = canonWriteVariables := rfl
  have h3 : writerCtorParams = ["base", "rules"] := rfl
  rw [h1, h2, h3, ite_self, evalWriteVariables_canonical]

/-- `Calculator.write_output`: which list of the `output` section goes to which view, in which order -/
theorem writer_model_is_source_write_output {α} [Mul α] (U : Writer.Units α) (pb vb : Base α) (pcfg vcfg : Option (List Config)) :
    writeOutput U pb vb pcfg vcfg =
      evalWriteOutput writeOutputSteps calculatorViews U pb vb (outputLists pcfg vcfg) := by
  have h1 : writeOutputSteps = canonSteps := rfl
  have h2 : calculatorViews = canonViews := rfl
  rw [h1, h2, evalWriteOutput_canonical]

/-- the remaining translated facts the theorems above rely on: `_base_name` of the two classes (the `{base}` of every file
name); the packaged rules file is the translated YAML; qha_output.py binds every name to the function of the same name in
qha.basic_io.out, among them the two savers `write_table` calls; `_to_gpa` / `_to_ang3` convert Ry/bohr³ → GPa and bohr³ → Å³;
the tensor views of both classes hand out the calculator's tensor OF THE SAME NAME (so the rule's `prop` selects adiabatic vs
isothermal down to the calculator); the grid arrays are qha's. -/
theorem writer_model_is_source_static :
    baseNames = [("CijVolumeBaseInterface", "tv"), ("CijPressureBaseInterface", "tp")] ∧
    defaultRulesPath = "cij/data/output/writer_rules.yml" ∧
    (∀ e ∈ qhaOutputImports, e.1 = "qha.basic_io.out" ∧ e.2.1 = e.2.2) ∧
    (∀ W ∈ [volumeWriteTable, pressureWriteTable], W.saver ∈ qhaOutputImports.map (·.2.2)) ∧
    unitHelpers = [("_to_gpa", "units.rydberg / units.bohr ** 3", "units.GPa"),
                   ("_to_ang3", "units.bohr ** 3", "units.angstrom ** 3")] ∧
    (∀ v ∈ modulusViews, v.2.1 = v.2.2.1) ∧
    (∀ c ∈ baseNames.map (·.1), ∀ p ∈ ["modulus_adiabatic", "modulus_isothermal"], (c, p) ∈ modulusViews.map fun v => (v.1, v.2.1)) ∧
    baseArrays = [("CijVolumeBaseInterface", "t_array", "self.calculator.qha_calculator.volume_base.t_array"),
                  ("CijVolumeBaseInterface", "v_array", "self.calculator.qha_calculator.volume_base.v_array"),
                  ("CijPressureBaseInterface", "t_array", "self.calculator.qha_calculator.pressure_base.t_array"),
                  ("CijPressureBaseInterface", "p_array", "self.calculator.qha_calculator.pressure_base.p_array")] ∧
    convertUnitParams.take 2 = [convertUnitFrom, convertUnitTo] := by
  decide +kernel

/-- adiabatic / isothermal selection down to the calculator: the rule a keyword resolves to names a property whose view, in
BOTH classes, hands out the calculator attribute of that name -/
theorem tensor_selection_is_source :
    (∀ k ∈ ["cij", "cij_s", "adiabatic_elastic_moduli"], ∀ c ∈ baseNames.map (·.1),
      (resolve k).bind (fun r => (modulusViews.find? fun v => v.1 == c && v.2.1 == r.prop).map (·.2.2.1)) = some "modulus_adiabatic") ∧
    (∀ k ∈ ["cij_t", "isothermal_elastic_moduli"], ∀ c ∈ baseNames.map (·.1),
      (resolve k).bind (fun r => (modulusViews.find? fun v => v.1 == c && v.2.1 == r.prop).map (·.2.2.1)) = some "modulus_isothermal") := by
  decide +kernel

/-- consequence: `factorOf` being the translated wiring (`writer_model_is_source_convert`), a user
`unit` really reaches pint, a user key `prop` / `fname_pattern` never changes what is read or how the file is named (the code
reads `self.prop`, `self.fname_pattern`). -/
theorem override_is_user_over_rule {α} [Mul α] (U : Writer.Units α) (r : WriterRule) (kw u' : String) :
    factorOf U r (some { keyword := kw, unit := some u' }) = U.conv r.unitInternal u' ∧
    factorOf U r (some { keyword := kw }) = U.conv r.unitInternal r.unit ∧
    factorOf U r none = U.conv r.unitInternal r.unit :=
  ⟨rfl, rfl, rfl⟩

end source

/-! #### non-vacuity -/

example : (resolve "cij").isSome ∧ resolve "cij" = resolve "adiabatic_elastic_moduli" ∧ resolve "cij" ≠ resolve "cij_t" ∧
    resolve "nonsense" = none := by decide +kernel
example : (writerRules[2]?).bind (valueFname · "tp") = some "bm_V_tp_gpa.txt" := by decide +kernel
example : (writerRules[0]?).bind (ijFname · "tv" (keyOfVoigt (4, 6))) = some "c46s_tv_gpa.txt" := by decide +kernel
/-- a registry with a duplicated keyword: the later rule wins -/
example : (resolveIn [{ keywords := ["a", "b"], fnamePattern := "1", prop := "x", unit := "", unitInternal := "", varType := "value" },
                      { keywords := ["b"], fnamePattern := "2", prop := "y", unit := "", unitInternal := "", varType := "value" }] "b").map (·.prop)
    = some "y" := by decide +kernel
-- the hypotheses of `value_file_on_requested_grid` are satisfiable: NT = 1, NTV = 2 over ℤ with c = toGPa = 1
set_option synthInstance.maxSize 512 in
example : (writeKeyword (α := Int) { toGPa := 1, toAng3 := 1, conv := fun _ _ => some 3 }
      { baseName := "tp", pressureBase := true, tArray := arange 5 (1 + 4) 2, axis := (arange 0 2 10).map (· * 1),
        props := [("bulk_modulus_voigt", .value [[1, 2], [3, 4], [5, 6], [7, 8], [9, 10]])] }
      { keyword := "B_V" }).map (fun ts => ts.map fun t => (t.fname, t.rows, t.cols, t.vals)) =
    some [("bm_V_tp_gpa.txt", [5], [0, 10], [[3, 6]])] := by decide +kernel

-- the interpreters compute: the translated `write_variable` on a one-row pressure base with a `unit` override …
set_option synthInstance.maxSize 512 in
example : (Source.evalWrite Source.Src.generated writeVariableSpec (α := Int) { toGPa := 1, toAng3 := 1, conv := fun a b => if a = "rydberg / bohr ^ 3" ∧ b = "kbar" then some 10 else some 1 }
      { keywords := ["B_V"], fnamePattern := "bm_V_{base}_gpa.txt", prop := "bulk_modulus_voigt", unit := "GPa", unitInternal := "rydberg / bohr ^ 3", varType := "value" }
      { baseName := "tp", pressureBase := true, tArray := [0, 1, 2, 3, 4], axis := [7],
        props := [("bulk_modulus_voigt", .value [[1], [2], [3], [4], [5]])] }
      (some { keyword := "B_V", unit := some "kbar" })).map (fun ts => ts.map fun t => (t.fname, t.rows, t.cols, t.vals)) =
    some [("bm_V_tp_gpa.txt", [0], [7], [[10]])] := by decide +kernel
-- … and the data matters: with the layers in the other order (rule over user) the same request ignores the unit
set_option synthInstance.maxSize 512 in
example : (Source.evalWrite Source.Src.generated { writeVariableSpec with layers := ["user", "rule"] } (α := Int) { toGPa := 1, toAng3 := 1, conv := fun a b => if a = "rydberg / bohr ^ 3" ∧ b = "kbar" then some 10 else some 1 }
      { keywords := ["B_V"], fnamePattern := "bm_V_{base}_gpa.txt", prop := "bulk_modulus_voigt", unit := "GPa", unitInternal := "rydberg / bohr ^ 3", varType := "value" }
      { baseName := "tp", pressureBase := true, tArray := [0, 1, 2, 3, 4], axis := [7],
        props := [("bulk_modulus_voigt", .value [[1], [2], [3], [4], [5]])] }
      (some { keyword := "B_V", unit := some "kbar" })).map (fun ts => ts.map fun t => (t.fname, t.rows, t.cols, t.vals)) =
    some [("bm_V_tp_gpa.txt", [0], [7], [[1]])] := by decide +kernel
-- a wiring whose sample argument is not the label array is outside what the model covers (no silent agreement)
example : (Source.evalWriteTable { pressureWriteTable with args := [("", "value"), ("", "self.t_array"), ("_to_gpa", "self.p_array"), ("", "self.p_array"), ("", "fname")] }
      witnessUnits witnessBase "x" [[1], [2], [3], [4], [5]]).isNone = true ∧
    (Source.evalWriteTable pressureWriteTable witnessUnits witnessBase "x" [[1], [2], [3], [4], [5]]).isSome = true := by decide +kernel

end Cij.C15
