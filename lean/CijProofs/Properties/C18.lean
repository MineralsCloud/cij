/-
  C18 — `cij run-static` reports a consistent static EoS and elasticity table in every mode.

  Every statement is about `CijModel/Static.lean` (`table` = all rows, `run` = after the sampling), the functions
  the driver executes at `Float` (fit over `Rat`) on the inputs the real command gets, here at `α = ℝ`.
  `E : Ext ℝ` are the library calls (Eulerian strain, sqrt, spline, batched 6×6 inverse, `fill_cij`, `round`),
  `U : Units ℝ` the six pint factors, `o : Options ℝ` the command-line options, `d1`/`d2` the parsed files.

  Proved (column relations, for all inputs):
    * the table factors through the stages of the Python source (`table_stages`) and its `V`, `F`, `P`, `density`
      columns are the mode columns times the unit factors (`final_VFP`, `final_density`);
    * mode none: F = input energies, V = input volumes (`mode_none_F_is_input`); mode volume: V = the grid, F = the
      least-squares fit on it, P = −gradient(F)/gradient(V) = central difference quotients
      (`mode_volume_F_is_fit`, `mode_volume_P_is_minus_gradient`, exact for quadratics/affine data);
      mode pressure: P = requested grid `P_MIN + j·DELTA_P` (`mode_pressure_rows_at_requested_P`), V and F by the SAME
      interpolation rule with the same pressures (`mode_pressure_F_is_fit_at_V`), exact at node pressures and whenever V, F
      are cubic in P (`mode_pressure_F_on_fit_partial`, `mode_pressure_node`);
    * the fit is THE least-squares polynomial of degree 2 in Eulerian strain (`fit_is_least_squares`, from C05);
    * every modulus column is the fit of input02's OWN (volume, value) pairs at the row volume (`moduli_at_row_volume`);
    * the private VRH formulas are C07's (`static_vrh_eq_c07`), are evaluated on the FILLED table (`vrh_from_filled_table`),
      the 6×6 is symmetric by construction, Reuss ≤ Hill ≤ Voigt for SPD stiffness (`static_reuss_hill_voigt`), Reuss
      averages are the tensor contractions of C07 (`static_reuss_tensor`);
    * velocities: the three columns are `sqrt(M/ρ)·_to_kms` of the printed averages and density (`velocities_from_vrh`), so
      ρ v_s² = G, ρ v_p² = K + 4G/3, ρ v_φ² = K (`velocity_squares`), units (`kms_factor_one`, `gcm3_factor`);
    * the fill contract used above holds for the model of fill_cij (`fill_contract_of_model`);
    * `--cellmass` overrides the header mass (`cellmass_override`), `-s` without a table is ignored (`system_without_table`);
    * sampling keeps the rows `0, s, 2s, …` with `s = round(DELTA_P_SAMPLE/DELTA_P)` (`sampling_rows`, `sampling_step_exact`).
  Tie to the SOURCE (`static_model_is_source…`, `static_defaults_are_source`, `static_units_are_source`; Lemmas/StaticSource.lean,
  Lemmas/StaticUnits.lean): `tools/gens/static_src.py` re-translates `cij/cli/static.py::main` and the unit helpers of
  `cij/util/units.py` on every run (`Generated/StaticSpec.lean`: click declaration, the two inner helpers, the body of `main` as 17
  guarded blocks of assignments in source order, the six VRH formulas, the pint unit expressions);
    * `runWith` (hence `table`, `run`, i.e. everything above) IS the interpretation of those blocks, in that order, from the empty
      state (`static_model_is_source` — no hypothesis: `fill_cij` is its model `Fill.fill`, and the contract `FillFrame` the
      composition needs of it is the theorem `fill_keeps_frame`; `…_of_fill_frame` is the general form for any `fill` with that contract;
      `…_driver` the same for the driver's `Float` run), and block by block (`…_eos`, `…_modes`, `…_moduli`, `…_fill`, `…_cellmass`, `…_vrh`,
      `…_units`, `…_velocities`, `…_sampling`), for every input;
    * `fitModulus`/`v2p1d` are the inner helpers incl. `order=2`, `volumes[0]` as strain reference and the `[::-1]` flips
      (`…_helpers`); the six averages are the typed formulas through calculator.py's evaluator (`…_vrh_formulas`);
    * order of the statements, guards, click names / types / choices / defaults, units (dimensions, `_from_gpa` ∘ `_to_gpa` = 1,
      `_to_kms` = 1, `_to_gcm3` = 1/(N_A a₀³)).
  Partial (external numerics; monitored by harness/c18.py with tolerances that shrink with the grid):
    * "P is the negative volume derivative of the fit": `numpy.gradient` is a difference quotient — exact for fits that
      are quadratic in V on a uniform grid (interior rows) and for affine ones (all rows); O(h²)/O(h) otherwise;
    * mode none: P = spline through (v_array, p_array) at the input volumes — the spline is a parameter (`Ext.spline`);
    * mode pressure: (V, F) lies on the fit to the accuracy of 4-point Lagrange interpolation in P.
-/
import CijProofs.Lemmas.Static
import CijProofs.Lemmas.StaticSource
import CijProofs.Lemmas.StaticFill
import CijProofs.Lemmas.StaticFillDriver
import CijProofs.Lemmas.StaticUnits
import CijProofs.Properties.C05
import CijProofs.Properties.C06
import CijProofs.Properties.C07
import CijProofs.Lemmas.FillTotal
namespace Cij.C18

open Cij Cij.Static Cij.LeastSq Matrix

/-! #### the table factors through the stages; V, F, P, density of the final table -/

/-- `table` is the composition of the blocks of `cli/static.py`, in the order of the source: input columns, EoS
    arrays, mode columns, density + moduli, fill, `--cellmass`, VRH (after the fill), unit conversion, velocities. -/
theorem table_stages (E : Ext ℝ) (U : Static.Units ℝ) (o : Options ℝ) (d1 : QhaInput.Data ℝ)
    (d2 : Option (ElastDat.ElastData ℝ)) (t : Table ℝ) (h : table E U o d1 d2 = some t) :
    ∃ ve e x t1 t2 t3 t4, input01Columns d1 = some ve ∧
      eos polynomialLeastSquareFitting E o.vRatio o.ntv ve.1 ve.2 = some e ∧
      modeTable E U o ve.1 ve.2 e = some x ∧ addModuli polynomialLeastSquareFitting E d2 x = some t1 ∧
      applyFill E o.system d2.isSome t1 = some t2 ∧ overrideDensity o.cellmass t2 = some t3 ∧
      addVrh E d2.isSome t3 = some t4 ∧ addVelocities E U d2.isSome (convertUnits U t4) = some t :=
  tableWith_stages _ E U o d1 d2 t h

/-- "V, F, P are in Å³, eV, GPa": the three columns of the printed table are the mode columns `x` (atomic units)
    times `_to_ang3`, `_to_ev`, `_to_gpa` — each converted exactly once, none overwritten by a later block
    (`FillKeeps`: fill_cij returns the non-modulus columns unchanged). -/
theorem final_VFP (E : Ext ℝ) (hf : FillKeeps E) (U : Static.Units ℝ) (o : Options ℝ) (d1 : QhaInput.Data ℝ)
    (d2 : Option (ElastDat.ElastData ℝ)) (t : Table ℝ) (h : table E U o d1 d2 = some t) :
    ∃ ve e x, input01Columns d1 = some ve ∧ eos polynomialLeastSquareFitting E o.vRatio o.ntv ve.1 ve.2 = some e ∧
      modeTable E U o ve.1 ve.2 e = some x ∧
      getCol t "V" = some (x.v.map (· * U.toAng3)) ∧ getCol t "F" = some (x.f.map (· * U.toEv)) ∧
      getCol t "P" = some (x.p.map (· * U.toGpa)) := by
  obtain ⟨ve, e, x, t1, t2, t3, t4, h1, h2, h3, h4, h5, h6, h7, h8⟩ := table_stages E U o d1 d2 t h
  have keep := stages_keep_VFP _ E hf _ _ d2 x t1 t2 t3 t4 h4 h5 h6 h7
  refine ⟨ve, e, x, h1, h2, h3, ?_, ?_, ?_⟩
  · rw [addVelocities_keeps E U _ _ _ h8 "V" (by decide), convertUnits_V, keep "V" (by decide)]
    rfl
  · rw [addVelocities_keeps E U _ _ _ h8 "F" (by decide), convertUnits_F, keep "F" (by decide)]
    rfl
  · rw [addVelocities_keeps E U _ _ _ h8 "P" (by decide), convertUnits_P, keep "P" (by decide)]
    rfl

/-- `FillKeeps` is not an extra assumption about the MODEL of `fill_cij` (CijModel/Fill.lean, the function the driver
    runs and C08/C09 are about): whenever `Ext.fill` is that model — any lookup environment, any parameters —, the
    columns V, F, P, density come back unchanged (write-back only touches the 21 symbols, the drop only `c<d><d>` names). -/
theorem fill_contract_of_model (E : Ext ℝ) (env : Fill.Env) (P : Fill.Params ℝ)
    (hE : ∀ s t, E.fill s t = (Fill.fill env (some s) P t).toOption) : FillKeeps E := by
  intro s t t' h name hn
  rw [hE] at h
  obtain ⟨_, hk⟩ := StaticSrc.fill_model_frame env (some s) P t t' (StaticSrc.toOption_eq_some _ _ h)
  obtain ⟨uV, uF, uP, uD⟩ := StaticSrc.untouched_fixed
  simp only [List.mem_cons, List.not_mem_nil, or_false] at hn
  rcases hn with rfl | rfl | rfl | rfl
  exacts [hk _ uV, hk _ uF, hk _ uP, hk _ uD]

/-! #### the three modes -/

/-- mode none: the rows are the input volumes, F the input energies (no fit enters the F column) and P the spline
    through the numerical pressure evaluated at the input volumes. -/
theorem mode_none_F_is_input (E : Ext ℝ) (U : Static.Units ℝ) (o : Options ℝ) (volumes energies : List ℝ) (e : Eos ℝ)
    (x : VFP ℝ) (hi : o.interp = .none) (h : modeTable E U o volumes energies e = some x) :
    x.v = volumes ∧ x.f = energies ∧ x.p = E.spline e.vArray e.pArray volumes := by
  rw [modeTable_none E U o volumes energies e hi] at h
  cases h
  exact ⟨rfl, rfl, rfl⟩

/-- Mode none, printed table: `F` = input energies in eV and `V` = input volumes in Å³. -/
theorem mode_none_final (E : Ext ℝ) (hf : FillKeeps E) (U : Static.Units ℝ) (o : Options ℝ) (d1 : QhaInput.Data ℝ)
    (d2 : Option (ElastDat.ElastData ℝ)) (t : Table ℝ) (hi : o.interp = .none) (h : table E U o d1 d2 = some t) :
    ∃ ve, input01Columns d1 = some ve ∧ getCol t "V" = some (ve.1.map (· * U.toAng3)) ∧
      getCol t "F" = some (ve.2.map (· * U.toEv)) := by
  obtain ⟨ve, e, x, h1, _, h3, hV, hF, _⟩ := final_VFP E hf U o d1 d2 t h
  obtain ⟨ev, ef, _⟩ := mode_none_F_is_input E U o ve.1 ve.2 e x hi h3
  exact ⟨ve, h1, by rw [hV, ev], by rw [hF, ef]⟩

/-- mode volume: V is the grid `linspace(min V / r, max V · r, ntv)`, F the finite-strain fit of the input energies
    evaluated on it — a polynomial `p` of degree 2 in the Eulerian strain relative to `volumes[0]` —, P the numerical
    pressure. -/
theorem mode_volume_F_is_fit (E : Ext ℝ) (U : Static.Units ℝ) (o : Options ℝ) (volumes energies : List ℝ) (e : Eos ℝ)
    (x : VFP ℝ) (hi : o.interp = .volume)
    (he : eos polynomialLeastSquareFitting E o.vRatio o.ntv volumes energies = some e)
    (h : modeTable E U o volumes energies e = some x) :
    x.v = e.vArray ∧ x.f = e.fArray ∧ x.p = e.pArray ∧
    ∃ lo hi v0 p, V2P.listMin volumes = some lo ∧ V2P.listMax volumes = some hi ∧ volumes.head? = some v0 ∧
      x.v = linspace (lo / o.vRatio) (hi * o.vRatio) o.ntv ∧
      polyfit (volumes.map (E.strain v0)) energies 2 = some p ∧ p.length = 3 ∧
      x.f = x.v.map fun v => polyval p (E.strain v0 v) := by
  rw [modeTable_volume E U o volumes energies e hi] at h
  cases h
  refine ⟨rfl, rfl, rfl, ?_⟩
  obtain ⟨lo, hi', gf, gv, hlo, hhi, hv, hfit, _, _, _⟩ := eos_spec _ E _ _ _ _ e he
  obtain ⟨v0, p, hv0, hp, hcol⟩ := fitModulus_spec E volumes e.vArray energies e.fArray 2 hfit
  exact ⟨lo, hi', v0, p, hlo, hhi, hv0, hv, hp, (polyfit_spec _ _ _ _ hp).2.1, hcol⟩

/-- `p_array = − numpy.gradient(f_array) / numpy.gradient(v_array)`: at every interior grid point the central
    difference quotient `−(F_{i+1} − F_{i−1}) / (V_{i+1} − V_{i−1})`, at the two ends the one-sided quotients. -/
theorem mode_volume_P_is_minus_gradient (E : Ext ℝ) (vRatio : ℝ) (ntv : Nat) (volumes energies : List ℝ) (e : Eos ℝ)
    (he : eos polynomialLeastSquareFitting E vRatio ntv volumes energies = some e) :
    e.pArray.length = e.fArray.length ∧ e.fArray.length = e.vArray.length ∧ 2 ≤ e.vArray.length ∧
    (∀ i, 0 < i → i + 1 < e.vArray.length →
      e.pArray.getD i 0 = -(e.fArray.getD (i + 1) 0 - e.fArray.getD (i - 1) 0)
                            / (e.vArray.getD (i + 1) 0 - e.vArray.getD (i - 1) 0)) ∧
    e.pArray.getD 0 0 = -(e.fArray.getD 1 0 - e.fArray.getD 0 0) / (e.vArray.getD 1 0 - e.vArray.getD 0 0) ∧
    e.pArray.getD (e.vArray.length - 1) 0 =
      -(e.fArray.getD (e.vArray.length - 1) 0 - e.fArray.getD (e.vArray.length - 2) 0)
        / (e.vArray.getD (e.vArray.length - 1) 0 - e.vArray.getD (e.vArray.length - 2) 0) := by
  obtain ⟨lo, hi, gf, gv, _, _, _, hfit, hgf, hgv, hp⟩ := eos_spec _ E _ _ _ _ e he
  obtain ⟨v0, p, _, _, hcol⟩ := fitModulus_spec E volumes e.vArray energies e.fArray 2 hfit
  have hfl : e.fArray.length = e.vArray.length := by rw [hcol]; simp
  obtain ⟨lf, _⟩ := gradient_length _ _ hgf
  obtain ⟨lv, h2⟩ := gradient_length _ _ hgv
  refine ⟨by rw [hp]; simp [lf, lv, hfl], hfl, h2, ?_, ?_, ?_⟩
  · intro i h0 h1
    rw [hp, getD_zipWith _ _ _ _ (by omega) (by omega), gradient_interior _ _ hgf i h0 (by omega),
      gradient_interior _ _ hgv i h0 h1]
    rw [neg_div, neg_div, div_div_div_cancel_right₀ (by norm_num : (2 : ℝ) ≠ 0)]
  · rw [hp, getD_zipWith _ _ _ _ (by omega) (by omega), gradient_first _ _ hgf, gradient_first _ _ hgv]
  · rw [hp, getD_zipWith _ _ _ _ (by omega) (by omega)]
    have := gradient_last _ _ hgf
    rw [hfl] at this
    rw [this, gradient_last _ _ hgv]

/-- at one grid point: for `F(V) = a + bV + cV²`, `−(F(V+h) − F(V−h)) / ((V+h) − (V−h)) = −F'(V)` -/
theorem central_difference_exact_quadratic (a b c V h : ℝ) (hh : h ≠ 0) :
    -((a + b * (V + h) + c * (V + h) ^ 2) - (a + b * (V - h) + c * (V - h) ^ 2)) / ((V + h) - (V - h))
      = -(b + 2 * c * V) := by
  have : (V + h) - (V - h) = 2 * h := by ring
  rw [this]
  field_simp
  ring

/- Full statement of "the reported P is the negative volume derivative of the fit" (NOT proved — numerical analysis of
   `numpy.gradient`; monitored by harness/c18.py against the analytic derivative of an independent fit):
     for the fitted curve Φ(V) and the grid spacing h,  |P_i + dΦ/dV(V_i)| ≤ h²/6 · max|d³Φ/dV³|  at interior grid points
     and ≤ h/2 · max|d²Φ/dV²| at the two ends (mode volume); mode none adds the error of the interpolating spline, mode
     pressure that of the 4-point Lagrange rule.
   Proved part: the column IS the difference quotient of the fitted values (`mode_volume_P_is_minus_gradient`), and the
   difference quotient is the exact derivative whenever the fitted values are a quadratic in V on a uniform grid
   (interior rows), resp. affine in V on any grid (every row, `numerical_pressure_exact_affine`). -/
theorem p_is_minus_dFdV_partial (a b c h : ℝ) (hh : h ≠ 0) (v gf gv : List ℝ)
    (hu : ∀ i, i + 1 < v.length → v.getD (i + 1) 0 = v.getD i 0 + h)
    (hgf : FullModulus.gradient (v.map fun V => a + b * V + c * V ^ 2) = some gf)
    (hgv : FullModulus.gradient v = some gv) :
    ∀ i, 0 < i → i + 1 < v.length →
      (List.zipWith (fun a b => -a / b) gf gv).getD i 0 = -(b + 2 * c * v.getD i 0) := by
  intro i h0 h1
  obtain ⟨lf, _⟩ := gradient_length _ _ hgf
  obtain ⟨lv, _⟩ := gradient_length _ _ hgv
  simp only [List.length_map] at lf
  have hm : ∀ j, j < v.length → (v.map fun V => a + b * V + c * V ^ 2).getD j 0
      = a + b * v.getD j 0 + c * v.getD j 0 ^ 2 := by
    intro j hj
    rw [List.getD_eq_getElem _ _ (by simpa using hj), List.getD_eq_getElem _ _ hj]
    simp
  rw [getD_zipWith _ _ _ _ (by omega) (by omega), gradient_interior _ _ hgf i h0 (by simpa using h1),
    gradient_interior _ _ hgv i h0 h1, hm _ (by omega), hm _ (by omega)]
  have e1 : v.getD (i + 1) 0 = v.getD i 0 + h := hu i h1
  have e2 : v.getD (i - 1) 0 = v.getD i 0 - h := by
    have := hu (i - 1) (by omega)
    rw [show i - 1 + 1 = i by omega] at this
    linarith
  rw [e1, e2, neg_div, div_div_div_cancel_right₀ (by norm_num : (2 : ℝ) ≠ 0), ← neg_div]
  exact central_difference_exact_quadratic a b c _ h hh

/-- For an energy that is affine in V the whole column (ends included) is exactly the constant pressure `P₀`
    (C05's statement about the same `numpy.gradient` model). -/
theorem numerical_pressure_exact_affine (a P0 : ℝ) (v gv : List ℝ) (hgv : FullModulus.gradient v = some gv)
    (hnz : ∀ g ∈ gv, g ≠ 0) :
    (do let gf ← FullModulus.gradient (v.map fun x => a - P0 * x)
        let gv' ← FullModulus.gradient v
        pure (List.zipWith (fun a b => -a / b) gf gv')) = some (gv.map fun _ => P0) :=
  C05.c05_static_pressure_affine a P0 v gv (by norm_num) hgv hnz

/-- mode pressure: the P column is exactly the requested grid — row `j` sits at `(P_MIN + j·DELTA_P)` GPa expressed
    in Ry/bohr³ — and the table has `ntv` rows. -/
theorem mode_pressure_rows_at_requested_P (E : Ext ℝ) (U : Static.Units ℝ) (o : Options ℝ) (volumes energies : List ℝ)
    (e : Eos ℝ) (x : VFP ℝ) (hi : o.interp = .pressure) (hn : 2 ≤ o.ntv)
    (h : modeTable E U o volumes energies e = some x) :
    x.p = requestedPressures U o ∧ x.p.length = o.ntv ∧
    ∀ j < o.ntv, x.p.getD j 0 = (o.pMin + (j : ℝ) * o.deltaP) * U.fromGpa := by
  obtain ⟨hp, _⟩ := modeTable_pressure E U o volumes energies e x hi h
  rw [hp]
  exact ⟨rfl, linspace_length _ _ _, fun j hj => requestedPressures_getD U o j hn hj⟩

/-- Printed in GPa, row `j` of mode pressure is `P_MIN + j·DELTA_P` itself, given that the two pint factors are inverse to each other. -/
theorem mode_pressure_printed_P (U : Static.Units ℝ) (o : Options ℝ) (j : Nat) (hn : 2 ≤ o.ntv) (hj : j < o.ntv)
    (hu : U.fromGpa * U.toGpa = 1) :
    (requestedPressures U o).getD j 0 * U.toGpa = o.pMin + (j : ℝ) * o.deltaP := by
  rw [requestedPressures_getD U o j hn hj, mul_assoc, hu, mul_one]

/-- mode pressure: V and F are the SAME rule (`v2p1d` = qha's 4-point Lagrange interpolation in P on the reversed
    arrays) applied to `v_array` and to `f_array`, with the same pressure field `p_array` and the same requested
    pressures — not V twice (the defect repaired in /repo: `F = v2p1d(f_array, …)`). -/
theorem mode_pressure_F_is_fit_at_V (E : Ext ℝ) (U : Static.Units ℝ) (o : Options ℝ) (volumes energies : List ℝ)
    (e : Eos ℝ) (x : VFP ℝ) (hi : o.interp = .pressure) (h : modeTable E U o volumes energies e = some x) :
    v2p1d e.vArray e.pArray x.p = some x.v ∧ v2p1d e.fArray e.pArray x.p = some x.f := by
  exact (modeTable_pressure E U o volumes energies e x hi h).2

/-- the rule reproduces every quantity that is a cubic polynomial in P along the (decreasing-in-V) pressure
    array, for requested pressures inside the tabulated range (C06's exactness theorem on the reversed arrays) -/
theorem v2p1d_exact_cubic (a b c d : ℝ) (pOld pNew : List ℝ) (hn : 4 ≤ pOld.length)
    (hs : V2P.StrictIncr pOld.reverse)
    (hin : ∀ x ∈ pNew, V2P.nth pOld.reverse 0 ≤ x ∧ x < V2P.nth pOld.reverse (pOld.length - 1)) :
    v2p1d (pOld.map fun x => a + b * x + c * x ^ 2 + d * x ^ 3) pOld pNew
      = some (pNew.map fun x => a + b * x + c * x ^ 2 + d * x ^ 3) := by
  have hl : pOld.reverse.length = pOld.length := List.length_reverse
  rw [v2p1d_eq_v2pRow, ← List.map_reverse,
    C06.c06_v2p_exact_cubic a b c d pOld.reverse pNew (by rw [hl]; exact hn) hs (by rw [hl]; exact hin)]
  rfl

/-- Exact case of "F is the fit at the reported V": when along the grid V and F are cubic polynomials `g`, `k` of the
    numerical pressure (data where P is cubic-reproducible), every row is `(V, F) = (g(P), k(P))` at its requested P —
    a point of the tabulated curve; if the fit `Φ` satisfies `Φ ∘ g = k` the row lies on the fit: `F = Φ(V)`.
    For other data the pair lies on the fit to the accuracy of the 4-point Lagrange rule (not proved; monitored). -/
theorem mode_pressure_F_on_fit_partial (E : Ext ℝ) (U : Static.Units ℝ) (o : Options ℝ) (volumes energies : List ℝ)
    (e : Eos ℝ) (x : VFP ℝ) (hi : o.interp = .pressure) (h : modeTable E U o volumes energies e = some x)
    (g k : ℝ × ℝ × ℝ × ℝ)
    (hg : e.vArray = e.pArray.map fun p => g.1 + g.2.1 * p + g.2.2.1 * p ^ 2 + g.2.2.2 * p ^ 3)
    (hk : e.fArray = e.pArray.map fun p => k.1 + k.2.1 * p + k.2.2.1 * p ^ 2 + k.2.2.2 * p ^ 3)
    (hn : 4 ≤ e.pArray.length) (hs : V2P.StrictIncr e.pArray.reverse)
    (hin : ∀ p ∈ x.p, V2P.nth e.pArray.reverse 0 ≤ p ∧ p < V2P.nth e.pArray.reverse (e.pArray.length - 1))
    (Φ : ℝ → ℝ)
    (hΦ : ∀ p, Φ (g.1 + g.2.1 * p + g.2.2.1 * p ^ 2 + g.2.2.2 * p ^ 3)
                = k.1 + k.2.1 * p + k.2.2.1 * p ^ 2 + k.2.2.2 * p ^ 3) :
    x.v = x.p.map (fun p => g.1 + g.2.1 * p + g.2.2.1 * p ^ 2 + g.2.2.2 * p ^ 3) ∧
    x.f = x.p.map (fun p => k.1 + k.2.1 * p + k.2.2.1 * p ^ 2 + k.2.2.2 * p ^ 3) ∧ x.f = x.v.map Φ := by
  obtain ⟨hv, hf'⟩ := mode_pressure_F_is_fit_at_V E U o volumes energies e x hi h
  rw [hg, v2p1d_exact_cubic _ _ _ _ _ _ hn hs hin] at hv
  rw [hk, v2p1d_exact_cubic _ _ _ _ _ _ hn hs hin] at hf'
  simp only [Option.some.injEq] at hv hf'
  refine ⟨hv.symm, hf'.symm, ?_⟩
  rw [← hv, ← hf', List.map_map]
  exact List.map_congr_left fun p _ => (hΦ p).symm

/-- No polynomial assumption at the nodes: a requested pressure that coincides with a grid pressure `p_i` returns
    the grid volume `v_i` and the fitted energy `f_i` of that SAME grid point, so the row is exactly on the fit. -/
theorem mode_pressure_node (xOld fOld pOld : List ℝ) (i : Nat) (hn : 4 ≤ pOld.length)
    (hx : xOld.length = pOld.length) (hfl : fOld.length = pOld.length) (hs : V2P.StrictIncr pOld.reverse)
    (hi : i + 1 < pOld.length) :
    v2p1d xOld pOld [V2P.nth pOld.reverse i] = some [V2P.nth xOld.reverse i] ∧
    v2p1d fOld pOld [V2P.nth pOld.reverse i] = some [V2P.nth fOld.reverse i] := by
  have hl : pOld.reverse.length = pOld.length := List.length_reverse
  have key : ∀ f : List ℝ, f.length = pOld.length →
      v2p1d f pOld [V2P.nth pOld.reverse i] = some [V2P.nth f.reverse i] := by
    intro f hf'
    have h := C06.c06_v2p_node f.reverse pOld.reverse i (by rw [hl]; exact hn)
      (by rw [List.length_reverse, hl, hf']) hs (by rw [hl]; exact hi)
    rw [v2p1d_eq_v2pRow]
    unfold V2P.v2pRow
    have hlen : ¬ (f.reverse.length < 4 ∨ pOld.reverse.length < 4) := by
      rw [List.length_reverse, hl, hf']; omega
    simp only [hlen, if_false, List.mapM_cons, List.mapM_nil, h]
    rfl
  exact ⟨key xOld hx, key fOld hfl⟩

/-! #### the fit -/

/-- `fit_modulus` returns the values of THE least-squares polynomial: a coefficient vector `p` with `order + 1`
    entries (order 2: quadratic in the Eulerian strain relative to `volumes[0]` — the second-order finite-strain
    fit) whose sum of squared residuals is minimal among all polynomials of that degree (C05 `polyfit_minimises`),
    evaluated at the strains of the target volumes. -/
theorem fit_is_least_squares (E : Ext ℝ) (volumes vArray values col : List ℝ) (order : Nat)
    (h : fitModulus polynomialLeastSquareFitting E volumes vArray values order = some col) :
    ∃ v0 p, volumes.head? = some v0 ∧ p.length = order + 1 ∧
      col = vArray.map (fun v => polyval p (E.strain v0 v)) ∧
      ∀ p' : List ℝ, p'.length ≤ order + 1 →
        sqResidual (volumes.map (E.strain v0)) values p ≤ sqResidual (volumes.map (E.strain v0)) values p' := by
  obtain ⟨v0, p, hv0, hp, hcol⟩ := fitModulus_spec E volumes vArray values col order h
  obtain ⟨hlen, hmin⟩ := C05.polyfit_minimises _ _ _ p hp
  exact ⟨v0, p, hv0, hlen, hcol, hmin⟩

/-- data that ARE a quadratic in the Eulerian strain (≥ 4 distinct strains) are reproduced exactly, everywhere:
    the fitted curve is the generating law, also between and beyond the data -/
theorem fit_exact_on_quadratics (a b c : ℝ) (xs p : List ℝ)
    (h : polyfit xs (xs.map fun x => a + b * x + c * x ^ 2) 2 = some p)
    (x0 x1 x2 x3 : ℝ) (m0 : x0 ∈ xs) (m1 : x1 ∈ xs) (m2 : x2 ∈ xs) (m3 : x3 ∈ xs)
    (h01 : x0 ≠ x1) (h02 : x0 ≠ x2) (h03 : x0 ≠ x3) (h12 : x1 ≠ x2) (h13 : x1 ≠ x3) (h23 : x2 ≠ x3) :
    ∀ x, polyval p x = a + b * x + c * x ^ 2 := by
  obtain ⟨hlen, hmin⟩ := C05.polyfit_minimises xs _ 2 p h
  have hq : ∀ x, polyval [c, b, a] x = a + b * x + c * x ^ 2 := by
    intro x; simp only [polyval, List.foldl_cons, List.foldl_nil]; ring
  have hzero : sqResidual xs (xs.map fun x => a + b * x + c * x ^ 2) [c, b, a] = 0 := by
    unfold sqResidual
    rw [sumL_eq_sum, List.zipWith_map_right, List.zipWith_self]
    apply List.sum_eq_zero
    intro y hy
    obtain ⟨x, _, rfl⟩ := List.mem_map.mp hy
    rw [hq]; ring
  have hres : sqResidual xs (xs.map fun x => a + b * x + c * x ^ 2) p = 0 :=
    le_antisymm (hzero ▸ hmin [c, b, a] (by simp)) (sqResidual_nonneg _ _ _)
  unfold sqResidual at hres
  rw [sumL_eq_sum, List.zipWith_map_right, List.zipWith_self] at hres
  have hpt := sum_sq_eq_zero xs (fun x => polyval p x - (a + b * x + c * x ^ 2)) hres
  have hpoly : IsPolyLT 4 (fun x => polyval p x - polyval [c, b, a] x) :=
    ((isPolyLT_polyval p).mono (by rw [hlen]; norm_num)).sub ((isPolyLT_polyval [c, b, a]).mono (by simp))
  have r : ∀ y ∈ xs, (fun x => polyval p x - polyval [c, b, a] x) y = 0 := by
    intro y hy; simp only [hq]; exact hpt y hy
  intro x
  have := hpoly.eq_zero_of_four_roots x0 x1 x2 x3 h01 h02 h03 h12 h13 h23 (r x0 m0) (r x1 m1) (r x2 m2) (r x3 m3) x
  simp only [hq] at this
  linarith

/-! #### moduli -/

/-- Each `c_ij` column is the finite-strain fit of THAT column of the static table — least squares in the Eulerian
    strain relative to input02's own first volume, on input02's OWN (volume, value) pairs — evaluated at the row
    volumes `x.v` of the table being printed (the input volumes, the grid, or V(P)); input01's volumes do not enter. -/
theorem moduli_at_row_volume (E : Ext ℝ) (d : ElastDat.ElastData ℝ) (x : VFP ℝ) (t1 : Table ℝ)
    (cols : List (String × List ℝ)) (hc : moduliColumns polynomialLeastSquareFitting E d x.v = some cols)
    (hnd : (cols.map (·.1)).Nodup) (h : addModuli polynomialLeastSquareFitting E (some d) x = some t1) :
    ∃ v0, d.volumes.head? = some v0 ∧ cols.length = v0.moduli.length ∧
    ∀ c ∈ cols, getCol t1 c.1 = some c.2 ∧
      ∃ kv ∈ v0.moduli, ∃ vals p, ElastDat.canonName kv.1 = some c.1 ∧ keyValues d kv.1 = some vals ∧
        polyfit ((d.volumes.map (·.volume)).map (E.strain v0.volume)) vals 2 = some p ∧
        c.2 = x.v.map (fun v => polyval p (E.strain v0.volume v)) := by
  obtain ⟨v0, hv0, hlen, hall⟩ := moduliColumns_spec _ E d x.v cols hc
  refine ⟨v0, hv0, hlen, fun c hcm => ⟨?_, ?_⟩⟩
  · rw [addModuli_some, hc] at h
    cases h
    exact getCol_foldl_setCol_mem _ _ c hcm hnd
  · obtain ⟨kv, hkv, vals, hname, hvals, hfit⟩ := hall c hcm
    obtain ⟨v0', p, hv0', hp, hcol⟩ := fitModulus_spec E _ x.v vals c.2 2 hfit
    have : v0' = v0.volume := by
      cases hd : d.volumes with
      | nil => rw [hd] at hv0; cases hv0
      | cons a r =>
        rw [hd] at hv0 hv0'
        simp only [List.head?_cons, Option.some.injEq, List.map_cons] at hv0 hv0'
        rw [← hv0', ← hv0]
    subst this
    exact ⟨kv, hkv, vals, p, hname, hvals, hp, hcol⟩

/-- the density column before the options: header mass of the static table over the row volume -/
theorem density_from_header (E : Ext ℝ) (d : ElastDat.ElastData ℝ) (x : VFP ℝ) (t1 : Table ℝ)
    (h : addModuli polynomialLeastSquareFitting E (some d) x = some t1) :
    getCol t1 "density" = some (x.v.map fun v => d.cellmass / v) := by
  rw [addModuli_some, Option.map_eq_some_iff] at h
  obtain ⟨cols, hc, rfl⟩ := h
  rw [getCol_foldl_setCol_ne cols _ "density"
    (fun c hc' => ne_of_startsWithC (by decide) (moduliColumns_names _ E d x.v cols hc c hc'))]
  exact getCol_setCol_self _ _ _

/-! #### options: `--cellmass`, `-s` -/

/-- `--cellmass m` (m ≠ 0) replaces the density by `m / V` whatever mass the table header carried; without the
    option (or with 0, which Python treats as false) the table is left alone. -/
theorem cellmass_override (t : Table ℝ) (v : List ℝ) (hv : getCol t "V" = some v) (m : ℝ) (hm : m ≠ 0) :
    (∃ t', overrideDensity (some m) t = some t' ∧ getCol t' "density" = some (v.map fun x => m / x) ∧
        ∀ name, name ≠ "density" → getCol t' name = getCol t name) ∧
    overrideDensity (none : Option ℝ) t = some t ∧ overrideDensity (some (0 : ℝ)) t = some t := by
  refine ⟨?_, rfl, ?_⟩
  · have ht : truthy (some m) = some m := by simp [truthy, hm]
    refine ⟨setCol t "density" (v.map fun x => m / x), ?_, getCol_setCol_self _ _ _,
      fun name hn => getCol_setCol_ne _ _ _ _ hn⟩
    unfold overrideDensity
    rw [ht]
    simp [hv]
  · simp [overrideDensity, truthy]

/-- the printed density is `(mass / V)·_to_gcm3` with mass = `--cellmass` when given (non-zero), else the header's -/
theorem final_density (E : Ext ℝ) (hf : FillKeeps E) (U : Static.Units ℝ) (o : Options ℝ) (d1 : QhaInput.Data ℝ)
    (d : ElastDat.ElastData ℝ) (t : Table ℝ) (h : table E U o d1 (some d) = some t) :
    ∃ ve e x, input01Columns d1 = some ve ∧ eos polynomialLeastSquareFitting E o.vRatio o.ntv ve.1 ve.2 = some e ∧
      modeTable E U o ve.1 ve.2 e = some x ∧
      getCol t "density" = some (x.v.map fun v =>
        (match truthy o.cellmass with | some m => m | none => d.cellmass) / v * U.toGcm3) := by
  obtain ⟨ve, e, x, t1, t2, t3, t4, h1, h2, h3, h4, h5, h6, h7, h8⟩ := table_stages E U o d1 (some d) t h
  refine ⟨ve, e, x, h1, h2, h3, ?_⟩
  rw [addVelocities_keeps E U _ _ _ h8 "density" (by decide), convertUnits_density,
    addVrh_keeps E _ _ _ h7 "density" (by decide)]
  have hd2 : getCol t2 "density" = some (x.v.map fun v => d.cellmass / v) := by
    rw [applyFill_keeps E hf _ _ _ _ h5 "density" (by decide)]
    exact density_from_header E d x t1 h4
  have hV2 : getCol t2 "V" = some x.v := by
    rw [applyFill_keeps E hf _ _ _ _ h5 "V" (by decide), addModuli_keeps _ E _ x t1 h4 "V" (by decide)]
    rfl
  unfold overrideDensity at h6
  cases htr : truthy o.cellmass with
  | none =>
    rw [htr] at h6
    simp only [Option.some.injEq] at h6
    subst h6
    rw [hd2]
    simp [List.map_map, Function.comp_def]
  | some m =>
    rw [htr] at h6
    simp only [hV2, Option.map_some, Option.some.injEq] at h6
    subst h6
    rw [getCol_setCol_self]
    simp [List.map_map, Function.comp_def]

/-- `-s SYSTEM` without a static table changes nothing (there are no tensor components to fill): the command
    reports the same table as without the option (/repo 34736c8; before, `fill_cij` raised IndexError). -/
theorem system_without_table (E : Ext ℝ) (U : Static.Units ℝ) (o : Options ℝ) (d1 : QhaInput.Data ℝ) (s : String) :
    table E U { o with system := some s } d1 none = table E U { o with system := none } d1 none := by
  unfold table tableWith applyFill
  rfl

/-- with a table, `fill_cij(df, system)` is applied to the frame that holds V, F, P, density and the fitted moduli -/
theorem system_applied (E : Ext ℝ) (s : String) (t1 : Table ℝ) : applyFill E (some s) true t1 = E.fill s t1 := by
  simp [applyFill]

/-! #### the private VRH block -/

/-- a 1-based `Nat`-indexed array seen with C07's `Int` indices -/
def asInt (c : Nat → Nat → ℝ) : Int → Int → ℝ := fun i j => c i.toNat j.toNat

/-- The formulas typed into `cli/static.py` are the model functions of C07 (`CijModel/VRH.lean`), argument by
    argument — so everything C07 proves about those (tensor identities, bounds) holds for run-static's columns. -/
theorem static_vrh_eq_c07 (c s : Nat → Nat → ℝ) (v r : ℝ) :
    bmV c = VRH.bulkVoigtPt (c 1 1) (c 2 2) (c 3 3) (c 1 2) (c 2 3) (c 1 3) ∧
    bmR s = VRH.bulkReussPt (s 1 1) (s 2 2) (s 3 3) (s 1 2) (s 2 3) (s 1 3) ∧
    gV c = VRH.shearVoigtPt (c 1 1) (c 2 2) (c 3 3) (c 1 2) (c 2 3) (c 1 3) (c 4 4) (c 5 5) (c 6 6) ∧
    gR s = VRH.shearReussPt (s 1 1) (s 2 2) (s 3 3) (s 1 2) (s 2 3) (s 1 3) (s 4 4) (s 5 5) (s 6 6) ∧
    vrh v r = VRH.hillPt r v := by
  refine ⟨?_, ?_, ?_, ?_, ?_⟩
  · simp [bmV, VRH.bulkVoigtPt, lit]
  · simp [bmR, VRH.bulkReussPt, lit]
  · simp [gV, VRH.shearVoigtPt, lit]
  · simp [gR, VRH.shearReussPt, lit]
  · simp [vrh, VRH.hillPt, lit, add_comm]

/-- Reuss ≤ Hill ≤ Voigt (and Reuss > 0) for run-static's own averages, whenever the row's 6×6 stiffness is
    symmetric positive definite and `s` is its inverse — inherited from C07's bounds. -/
theorem static_reuss_hill_voigt (c s : Nat → Nat → ℝ)
    (hc : (VRH.toMat (asInt c))ᵀ = VRH.toMat (asInt c)) (hpd : VRH.PosDef6 (asInt c))
    (hinv : VRH.toMat (asInt c) * VRH.toMat (asInt s) = 1) :
    0 < bmR s ∧ bmR s ≤ vrh (bmV c) (bmR s) ∧ vrh (bmV c) (bmR s) ≤ bmV c ∧
    0 < gR s ∧ gR s ≤ vrh (gV c) (gR s) ∧ vrh (gV c) (gR s) ≤ gV c := by
  obtain ⟨e1, e2, e3, e4, _⟩ := static_vrh_eq_c07 c s 0 0
  have hk := VRH.kr_le_kv_pt (asInt c) (asInt s) hc hpd hinv
  have hg := VRH.gr_le_gv_pt (asInt c) (asInt s) hc hpd hinv
  have ek : bmR s ≤ bmV c := by rw [e1, e2]; exact hk.2
  have eg : gR s ≤ gV c := by rw [e3, e4]; exact hg.2
  have pk : 0 < bmR s := by rw [e2]; exact hk.1
  have pg : 0 < gR s := by rw [e4]; exact hg.1
  have hv : ∀ a b : ℝ, vrh a b = (a + b) / 2 := fun a b => by simp [vrh, lit]
  refine ⟨pk, ?_, ?_, pg, ?_, ?_⟩ <;> rw [hv] <;> linarith

/-- the Reuss averages are C07's contractions of the compliance TENSOR `S_ijkl = s_pq·(1, ½, ¼)`:
    `K_R = 1 / S_iijj`, `G_R = 15 / (6 S_ijij − 2 S_iijj)` -/
theorem static_reuss_tensor (s : Nat → Nat → ℝ) :
    bmR s = 1 / VRH.contractIIJJ (VRH.complTensorOf (asInt s)) ∧
    gR s = 15 / (6 * VRH.contractIJIJ (VRH.complTensorOf (asInt s)) - 2 * VRH.contractIIJJ (VRH.complTensorOf (asInt s))) := by
  rw [VRH.contractIIJJ_complTensorOf, VRH.contractIJIJ_complTensorOf]
  have e1 : Int.toNat 1 = 1 := rfl
  have e2 : Int.toNat 2 = 2 := rfl
  have e3 : Int.toNat 3 = 3 := rfl
  have e4 : Int.toNat 4 = 4 := rfl
  have e5 : Int.toNat 5 = 5 := rfl
  have e6 : Int.toNat 6 = 6 := rfl
  simp only [bmR, gR, lit, asInt, e1, e2, e3, e4, e5, e6]
  constructor
  · norm_num
  · norm_num
    congr 1
    ring

/-- The 6×6 that is inverted is built from the columns of the table the block RECEIVES — i.e. after `fill_cij` and
    `--cellmass` (`table_stages`: `addVrh` is applied to `t3`) —: entry (i, j) is the column of the sorted pair, 0 when
    absent, hence symmetric; and the six average columns are the formulas above on it and on the batched inverse. -/
theorem vrh_from_filled_table (E : Ext ℝ) (t3 t4 : Table ℝ) (h : addVrh E true t3 = some t4) :
    (∀ r i j, 1 ≤ i ∧ i ≤ 6 → 1 ≤ j ∧ j ≤ 6 →
      at6 (cMat t3 r) i j = cEntry t3 r i j ∧ at6 (cMat t3 r) i j = at6 (cMat t3 r) j i) ∧
    ∃ ss, E.inv6 ((List.range (nRows t3)).map (cMat t3)) = some ss ∧
      getCol t4 "bm_V" = some ((List.range (nRows t3)).map fun r => bmV (at6 (cMat t3 r))) ∧
      getCol t4 "G_V" = some ((List.range (nRows t3)).map fun r => gV (at6 (cMat t3 r))) ∧
      getCol t4 "bm_R" = some (ss.map fun s => bmR (at6 s)) ∧
      getCol t4 "G_R" = some (ss.map fun s => gR (at6 s)) ∧
      getCol t4 "bm_VRH" = some (List.zipWith vrh ((List.range (nRows t3)).map fun r => bmV (at6 (cMat t3 r)))
                                  (ss.map fun s => bmR (at6 s))) ∧
      getCol t4 "G_VRH" = some (List.zipWith vrh ((List.range (nRows t3)).map fun r => gV (at6 (cMat t3 r)))
                                  (ss.map fun s => gR (at6 s))) := by
  constructor
  · intro r i j hi hj
    refine ⟨at6_cMat t3 r i j hi hj, ?_⟩
    rw [at6_cMat t3 r i j hi hj, at6_cMat t3 r j i hj hi, cEntry_symm]
  · obtain ⟨ss, hs, a1, a2, a3, a4, a5, a6⟩ := addVrh_spec E t3 t4 h
    simp only [List.map_map, Function.comp_def] at a1 a3 a4 a6
    exact ⟨ss, hs, a1, a4, a2, a5, a3, a6⟩

/-! #### velocities and units -/

/-- the three velocity columns are `sqrt(M/ρ)·_to_kms` of the printed `bm_VRH`, `G_VRH`, `density` columns with
    `M = K + 4G/3, G, K`; with the real square root and `_to_kms = 1` (see `kms_factor_one`):
    `ρ v_p² = K + 4G/3`, `ρ v_s² = G`, `ρ v_φ² = K`. -/
theorem velocities_from_vrh (E : Ext ℝ) (U : Static.Units ℝ) (t t' : Table ℝ) (h : addVelocities E U true t = some t') :
    ∃ k g rho, getCol t "bm_VRH" = some k ∧ getCol t "G_VRH" = some g ∧ getCol t "density" = some rho ∧
      getCol t' "v_p" = some (zip3 (vP E U) k g rho) ∧ getCol t' "v_s" = some (List.zipWith (vS E U) g rho) ∧
      getCol t' "v_phi" = some (List.zipWith (vPhi E U) k rho) :=
  addVelocities_spec E U t t' h

theorem velocity_squares (E : Ext ℝ) (U : Static.Units ℝ) (hs : E.sqrt = Real.sqrt) (hu : U.toKms = 1) (K G rho : ℝ)
    (hr : 0 < rho) (hK : 0 ≤ K) (hG : 0 ≤ G) :
    rho * vP E U K G rho ^ 2 = K + 4 * G / 3 ∧ rho * vS E U G rho ^ 2 = G ∧ rho * vPhi E U K rho ^ 2 = K := by
  simp only [vP, vS, vPhi, hs, hu, mul_one, lit, Nat.cast_ofNat]
  have h1 : 0 ≤ (K + 4 / 3 * G) / rho := by positivity
  have h2 : 0 ≤ G / rho := by positivity
  have h3 : 0 ≤ K / rho := by positivity
  rw [Real.sq_sqrt h1, Real.sq_sqrt h2, Real.sq_sqrt h3]
  refine ⟨?_, ?_, ?_⟩ <;> field_simp

/-- `_to_kms` is 1 exactly: a modulus of `M` GPa = `M·10⁹` Pa and a density of `ρ` g/cm³ = `ρ·10³` kg/m³ give
    `sqrt(M·10⁹ / (ρ·10³))` m/s = `sqrt(M/ρ)·10³` m/s = `sqrt(M/ρ)` km/s. -/
theorem kms_factor_one (M rho : ℝ) (hM : 0 ≤ M) (hr : 0 < rho) :
    Real.sqrt (M * 10 ^ 9 / (rho * 10 ^ 3)) = Real.sqrt (M / rho) * 10 ^ 3 := by
  have h : M * 10 ^ 9 / (rho * 10 ^ 3) = M / rho * (10 ^ 3) ^ 2 := by field_simp
  rw [h, Real.sqrt_mul (by positivity), Real.sqrt_sq (by positivity)]

/-- `_to_gcm3`: a cell of mass `m` g/mol per particle, i.e. `m / N_A` g, in a volume of `V` bohr³ = `V·a₀³` cm³
    (a₀ in cm) has the density `(m / V) · 1/(N_A·a₀³)` g/cm³ — the factor is `1/(N_A·a₀³[cm³])`. -/
theorem gcm3_factor (m V NA a0 : ℝ) (hV : V ≠ 0) (hN : NA ≠ 0) (ha : a0 ≠ 0) :
    (m / NA) / (V * a0 ^ 3) = (m / V) * (1 / (NA * a0 ^ 3)) := by
  field_simp

/-! #### sampling -/

/-- Sampling (mode pressure with a non-zero `--delta-p-sample` only): with `s = round(DELTA_P_SAMPLE / DELTA_P) > 0`
    the printed rows are those with label `0, s, 2s, …` (a label is kept iff it is a multiple of `s`), each column
    restricted to them; in every other case all rows are printed. -/
theorem sampling_rows (E : Ext ℝ) (o : Options ℝ) (t : Table ℝ) :
    ((o.interp ≠ .pressure ∨ truthy o.deltaPSample = none) →
        sample E o t = some ⟨List.range (nRows t), t⟩) ∧
    (∀ dps (s : Nat), o.interp = .pressure → truthy o.deltaPSample = some dps → E.round (dps / o.deltaP) = s → 0 < s →
      ∃ out, sample E o t = some out ∧ (∀ i, i ∈ out.index ↔ i < nRows t ∧ s ∣ i) ∧
        out.table = t.map fun c => (c.1, out.index.map fun i => c.2.getD i 0)) := by
  constructor
  · intro h
    unfold sample
    rcases h with h | h
    · cases hi : o.interp <;> simp_all
    · rw [h]; cases o.interp <;> rfl
  · intro dps s hi hd hr hs
    unfold sample
    rw [hi, hd]
    simp only [hr]
    have hne : ((s : Int) = 0) = False := by simp; omega
    simp only [hne, if_false]
    refine ⟨_, rfl, ?_, rfl⟩
    intro i
    simp only [sliceIdx, Int.natCast_pos, hs, if_true, Int.toNat_natCast, List.mem_filter, List.mem_range,
      decide_eq_true_eq, Nat.dvd_iff_mod_eq_zero]

/-- when `DELTA_P_SAMPLE = m · DELTA_P` (m ≥ 1 whole) and `round` fixes the integers, the step is `m`:
    the printed rows sit at `P_MIN + k·DELTA_P_SAMPLE`. -/
theorem sampling_step_exact (E : Ext ℝ) (hround : ∀ k : Int, E.round (k : ℝ) = k) (dP : ℝ) (hd : dP ≠ 0) (m : Nat) :
    E.round ((m : ℝ) * dP / dP) = m := by
  rw [mul_div_assoc, div_self hd, mul_one]
  exact_mod_cast hround m

/-! #### the model is the source (`tools/gens/static_src.py` → `Generated/StaticSpec.lean`, re-translated on every run) -/

/-- `runWith` — the function the driver executes and every theorem above is about — is the interpretation
    (`CijModel/StaticExpr.lean`) of the blocks of `cij/cli/static.py::main` as they are in the working tree now, in source order,
    from the empty state: same table, same row labels, same failures — for EVERY input, with no hypothesis.
    `fill_cij` is its model `Fill.fill` (CijModel/Fill.lean, the function C08/C09 are about; any lookup environment `env`, any
    keyword parameters `P`; `StaticSrc.withModelFill E env P` is `E` with `fill s t := (Fill.fill env (some s) P t).toOption`);
    the other library calls (`E`: strain, sqrt, spline, batched inverse, round), the fit, units, options and files are arbitrary.
    The contract `FillFrame` that the composition needs of `fill_cij` is `fill_keeps_frame` below. -/
theorem static_model_is_source (fit : Fit ℝ) (E : Ext ℝ) (env : Fill.Env) (P : Fill.Params ℝ) (U : Static.Units ℝ)
    (o : Options ℝ) (d1 : QhaInput.Data ℝ) (d2 : Option (ElastDat.ElastData ℝ)) :
    runWith fit (StaticSrc.withModelFill E env P) U o d1 d2
      = StaticSrc.run ⟨fit, StaticSrc.withModelFill E env P, U, o, d1, d2⟩ Generated.staticBlocks :=
  (StaticSrc.run_is_source_model fit E env P U o d1 d2).symm

/-- The contract of `fill_cij(df, system)` that the in-place unit conversion `df[c] = f(df[c])` of blocks 12-13 relies on, PROVED
    of the model: for every frame without duplicate labels that has V, F, P (whatever else it holds: density, `c_ij` columns under
    any spelling), every system (or `None`), every lookup environment and keyword parameters, the frame `Fill.fill` returns when it
    accepts has no duplicate labels and still has V, F, P — and V, F, P, density hold the values they had.
    (The write-back appends a label `sym` only when no label lower-cases to `sym`, and each of the 21 symbols generated from
    `Generated.symbolPairs` is its own lower-case form; the drop keeps a sub-list and only looks at `c\d\d` labels.) -/
theorem fill_keeps_frame (env : Fill.Env) (system : Option String) (P : Fill.Params ℝ) (t t' : Table ℝ)
    (h : Fill.fill env system P t = .ok t') (hnd : (t.map (·.1)).Nodup)
    (hV : (getCol t "V").isSome) (hF : (getCol t "F").isSome) (hP : (getCol t "P").isSome) :
    (t'.map (·.1)).Nodup ∧ (getCol t' "V").isSome ∧ (getCol t' "F").isSome ∧ (getCol t' "P").isSome ∧
    getCol t' "V" = getCol t "V" ∧ getCol t' "F" = getCol t "F" ∧ getCol t' "P" = getCol t "P" ∧
    getCol t' "density" = getCol t "density" := by
  obtain ⟨G, e⟩ := StaticSrc.fill_model_good env system P t t' h ⟨hnd, hV, hF, hP⟩
  exact ⟨G.1, G.2.1, G.2.2.1, G.2.2.2, e⟩

/-- `FillFrame` holds of the environment `static_model_is_source` is about, and of every environment whose `fill` is the model. -/
theorem fill_frame_of_model (E : Ext ℝ) (env : Fill.Env) (P : Fill.Params ℝ) :
    StaticSrc.FillFrame (StaticSrc.withModelFill E env P) ∧
    ((∀ s t, E.fill s t = (Fill.fill env (some s) P t).toOption) → StaticSrc.FillFrame E) :=
  ⟨StaticSrc.fillFrame_model E env P, StaticSrc.fillFrame_of_model E env P⟩

/-- the general form the above follows from: ANY `fill` (not only the model) that maps frames without duplicate labels holding
    V, F, P to such frames (`FillFrame`) -/
theorem static_model_is_source_of_fill_frame (fit : Fit ℝ) (E : Ext ℝ) (hf : StaticSrc.FillFrame E) (U : Static.Units ℝ)
    (o : Options ℝ) (d1 : QhaInput.Data ℝ) (d2 : Option (ElastDat.ElastData ℝ)) :
    runWith fit E U o d1 d2 = StaticSrc.run ⟨fit, E, U, o, d1, d2⟩ Generated.staticBlocks :=
  (StaticSrc.run_is_source ⟨fit, E, U, o, d1, d2⟩ hf).symm

/-- `static_model_is_source` for `run` (qha's least squares as modelled for C05). -/
theorem static_model_is_source_run (E : Ext ℝ) (env : Fill.Env) (P : Fill.Params ℝ) (U : Static.Units ℝ) (o : Options ℝ)
    (d1 : QhaInput.Data ℝ) (d2 : Option (ElastDat.ElastData ℝ)) :
    Static.run (StaticSrc.withModelFill E env P) U o d1 d2
      = StaticSrc.run ⟨polynomialLeastSquareFitting, StaticSrc.withModelFill E env P, U, o, d1, d2⟩ Generated.staticBlocks :=
  static_model_is_source _ E env P U o d1 d2

/-- The same for the `Float` run of the driver: the two results the op `c18.run` compares under `"check_source": true`
    (`Ops.C18.runModel` = `runWith` with the driver's `Float` environment, whose `fill` is the model over `Rat` on the exact values
    of the doubles; `Ops.C18.runSource` = the interpretation of the translated blocks) are equal on every input. -/
theorem static_model_is_source_driver (u : Static.Units Float) (o : Options Float) (d1 : QhaInput.Data Float)
    (d2 : Option (ElastDat.ElastData Float)) : Ops.C18.runModel u o d1 d2 = Ops.C18.runSource u o d1 d2 :=
  (StaticSrc.run_is_source_driver u o d1 d2).symm

/-- the two inner helpers: `fit_modulus` (Eulerian strains of nodes AND targets relative to `volumes[0]`, least squares of
    the given order, default `order=2`) and `v2p1d` (both arrays flipped, one isotherm through qha's `v2p`) -/
theorem static_model_is_source_helpers (I : StaticSrc.Inp ℝ) (vols vArr mod x p pn : List ℝ) (order : Nat) :
    fitModulus I.fit I.E vols vArr mod order
      = (StaticSrc.callFun I Generated.staticFitModulus [.ar vols, .ar vArr, .ar mod, .nat order]).bind StaticSrc.Val.toAr ∧
    fitModulus I.fit I.E vols vArr mod
      = (StaticSrc.callFun I Generated.staticFitModulus [.ar vols, .ar vArr, .ar mod]).bind StaticSrc.Val.toAr ∧
    v2p1d x p pn = (StaticSrc.callFun I Generated.staticV2p1d [.ar x, .ar p, .ar pn]).bind StaticSrc.Val.toAr :=
  ⟨StaticSrc.fitModulus_is_source I vols vArr mod order, StaticSrc.fitModulus_default_is_source I vols vArr mod,
    StaticSrc.v2p1d_is_source I x p pn⟩

/-- block 2: the frame of INPUT01 (`V`, `F` from `volume`, `energy`) and `v_array`, `f_array`, `p_array` are `input01Columns`
    and `eos` -/
theorem static_model_is_source_eos (I : StaticSrc.Inp ℝ) (st : StaticSrc.St ℝ) :
    StaticSrc.execBlock I st (StaticSrc.blk 2) = (input01Columns I.d1).bind fun ve =>
      (eos I.fit I.E I.o.vRatio I.o.ntv ve.1 ve.2).map (StaticSrc.stEos st ve) :=
  StaticSrc.eos_block_is_source I st

/-- blocks 3-6: the `if / elif / elif` over `interp` and `v_array = df.loc[:, "V"]` are `modeTable` -/
theorem static_model_is_source_modes (I : StaticSrc.Inp ℝ) (st : StaticSrc.St ℝ) (ve : List ℝ × List ℝ) (e : Eos ℝ) :
    StaticSrc.execBlocks I [StaticSrc.blk 3, StaticSrc.blk 4, StaticSrc.blk 5, StaticSrc.blk 6] (StaticSrc.stEos st ve e)
      = (modeTable I.E I.U I.o ve.1 ve.2 e).map (StaticSrc.stMode st ve e I.o.interp) :=
  StaticSrc.mode_blocks_are_source I st ve e

/-- block 7 (`if input02`): density from the header mass, then every key fitted on INPUT02's own (volume, value) pairs and
    evaluated at `v_array` = the `V` column before the unit conversion -/
theorem static_model_is_source_moduli (I : StaticSrc.Inp ℝ) (st : StaticSrc.St ℝ) (x : VFP ℝ) (hdf : st.df = x.table)
    (hv : StaticSrc.lookup st.loc "v_array" = some (.ar x.v)) :
    StaticSrc.execBlock I st (StaticSrc.blk 7) = (addModuli I.fit I.E I.d2 x).map fun t => { st with df := t } :=
  StaticSrc.moduli_block_eq_addModuli I st x hdf hv

/-- blocks 8-9: `if system == None: warning  elif input02: df = fill_cij(df, system)` -/
theorem static_model_is_source_fill (I : StaticSrc.Inp ℝ) (st : StaticSrc.St ℝ) :
    StaticSrc.execBlocks I [StaticSrc.blk 8, StaticSrc.blk 9] st
      = (applyFill I.E I.o.system I.d2.isSome st.df).map fun t => { st with df := t } :=
  StaticSrc.fill_blocks_are_source I st

/-- block 10, AFTER the table's density and the fill: `if cellmass: density = cellmass / V` -/
theorem static_model_is_source_cellmass (I : StaticSrc.Inp ℝ) (st : StaticSrc.St ℝ) :
    StaticSrc.execBlock I st (StaticSrc.blk 10) = (overrideDensity I.o.cellmass st.df).map fun t => { st with df := t } :=
  StaticSrc.cellmass_block_is_source I st

/-- block 11 (`if input02`): the 6×6 from the columns present now, the batched inverse, the six averages -/
theorem static_model_is_source_vrh (I : StaticSrc.Inp ℝ) (st : StaticSrc.St ℝ) :
    (StaticSrc.execBlock I st (StaticSrc.blk 11)).map (·.df) = addVrh I.E I.d2.isSome st.df :=
  (StaticSrc.vrh_block_frame I st).1

/-- the six formulas typed into the script, row by row, through the evaluator of calculator.py's averages -/
theorem static_model_is_source_vrh_formulas (E : Ext ℝ) (c s : Nat → Nat → ℝ) (kv kr gv gr : ℝ) :
    bmV c = @VExpr.eval ℝ (StaticSrc.scalarOf E) _ _ _ _ (StaticSrc.rowEnv c s kv kr gv gr) Generated.staticVrh_bm_V ∧
    bmR s = @VExpr.eval ℝ (StaticSrc.scalarOf E) _ _ _ _ (StaticSrc.rowEnv c s kv kr gv gr) Generated.staticVrh_bm_R ∧
    vrh kv kr = @VExpr.eval ℝ (StaticSrc.scalarOf E) _ _ _ _ (StaticSrc.rowEnv c s kv kr gv gr) Generated.staticVrh_bm_VRH ∧
    gV c = @VExpr.eval ℝ (StaticSrc.scalarOf E) _ _ _ _ (StaticSrc.rowEnv c s kv kr gv gr) Generated.staticVrh_G_V ∧
    gR s = @VExpr.eval ℝ (StaticSrc.scalarOf E) _ _ _ _ (StaticSrc.rowEnv c s kv kr gv gr) Generated.staticVrh_G_R ∧
    vrh gv gr = @VExpr.eval ℝ (StaticSrc.scalarOf E) _ _ _ _ (StaticSrc.rowEnv c s kv kr gv gr) Generated.staticVrh_G_VRH :=
  StaticSrc.vrh_formulas_are_source E c s kv kr gv gr

/-- blocks 12-13: V, F, P (and density when present) each converted once, BEFORE the velocities -/
theorem static_model_is_source_units (I : StaticSrc.Inp ℝ) (st : StaticSrc.St ℝ) (h : StaticSrc.Good st.df) :
    StaticSrc.execBlocks I [StaticSrc.blk 12, StaticSrc.blk 13] st = some { st with df := convertUnits I.U st.df } :=
  StaticSrc.units_blocks_are_source I st h

/-- block 14 (`if input02`): the three velocities from the converted density, then `_to_kms` -/
theorem static_model_is_source_velocities (I : StaticSrc.Inp ℝ) (st : StaticSrc.St ℝ) :
    StaticSrc.execBlock I st (StaticSrc.blk 14)
      = (addVelocities I.E I.U I.d2.isSome st.df).map fun t => { st with df := t } :=
  StaticSrc.velocity_block_is_source I st

/-- blocks 15-16: `step = round(delta_p_sample / delta_p)`, `df.iloc[::step, :]` under `interp == "pressure" and
    delta_p_sample`, then the frame is written -/
theorem static_model_is_source_sampling (I : StaticSrc.Inp ℝ) (st : StaticSrc.St ℝ) (hidx : st.index = none) :
    (StaticSrc.execBlocks I [StaticSrc.blk 15, StaticSrc.blk 16] st).bind (·.out) = sample I.E I.o st.df :=
  StaticSrc.sample_blocks_are_source I st hidx

/-- the ORDER of the script: what each of the seventeen blocks assigns, top to bottom — the table's density (block 7) before
    the fill (9) before the `--cellmass` override (10) before the averages (11) before the unit conversion (12, 13) before the
    velocities (14) before the sampling (15) before the write (16) — and the guard of every block. -/
theorem static_model_is_source_order :
    (Generated.staticBlocks.map fun b => b.body.map StaticSrc.Stmt.tag) =
      [["input01=read_energy"], ["input02=read_elast_data"],
       ["df=frame(input01)", "volumes", "v_array", "energies", "f_array", "p_array"],
       ["df.P"], ["df=frame", "df.V", "df.F", "df.P"],
       ["_p_array", "_v_array", "_f_array", "df=frame", "df.V", "df.F", "df.P"], ["v_array"],
       ["df.density", "df.c_ij"], ["warning"], ["df=fill_cij"], ["df.density"],
       ["c,s", "df.bm_V", "df.bm_R", "df.bm_VRH", "df.G_V", "df.G_R", "df.G_VRH"],
       ["df.V", "df.F", "df.P"], ["df.density"],
       ["df.v_p", "df.v_s", "df.v_phi", "df.v_p", "df.v_s", "df.v_phi"], ["df=df.iloc[::step]"], ["stdout"]] ∧
    Generated.staticBlocks.map (·.guard) =
      [[], [(true, .input02)], [],
       [(true, .interpIs "none")], [(false, .interpIs "none"), (true, .interpIs "volume")],
       [(false, .interpIs "none"), (false, .interpIs "volume"), (true, .interpIs "pressure")], [],
       [(true, .input02)], [(true, .systemIsNone)], [(false, .systemIsNone), (true, .input02)], [(true, .cellmass)],
       [(true, .input02)], [], [(true, .hasCol "density")], [(true, .input02)],
       [(true, .interpIs "pressure"), (true, .deltaPSample)], []] :=
  ⟨by decide +kernel, StaticSrc.guards_are_source⟩

/-- the click declaration: command name, the parameters under the names `main` receives (= its signature, no Python-level
    default), kinds / types / required, and `-I` accepting exactly the three modes of the model -/
theorem static_model_is_source_click :
    Generated.staticCommand = "run-static" ∧
    Generated.staticClick.map (·.pyName)
      = ["input01", "input02", "interp", "ntv", "p_min", "delta_p", "delta_p_sample", "cellmass", "v_ratio", "system"] ∧
    (∀ n ∈ Generated.staticClick.map (·.pyName), n ∈ Generated.staticMainParams.map (·.1)) ∧
    (∀ n ∈ Generated.staticMainParams.map (·.1), n ∈ Generated.staticClick.map (·.pyName)) ∧
    (Generated.staticClick.map fun p => (p.pyName, p.kind, p.type, p.required))
      = [("input01", "argument", "Path(exists=True)", true), ("input02", "argument", "Path(exists=True)", false),
         ("interp", "option", "Choice", false), ("ntv", "option", "INT", false), ("p_min", "option", "FLOAT", false),
         ("delta_p", "option", "FLOAT", false), ("delta_p_sample", "option", "FLOAT", false),
         ("cellmass", "option", "FLOAT", false), ("v_ratio", "option", "FLOAT", false), ("system", "option", "", false)] ∧
    ∀ s, (s ∈ ((StaticSrc.clickParam? Generated.staticClick "interp").map (·.choices)).getD []) ↔
      (∃ i : Interp, StaticSrc.interpName i = s) :=
  ⟨StaticSrc.click_names_are_source.1, StaticSrc.click_names_are_source.2.1, StaticSrc.click_names_are_source.2.2.1,
    StaticSrc.click_names_are_source.2.2.2.1, StaticSrc.click_types_are_source, StaticSrc.interp_choices_are_source⟩

/-- a bare `cij run-static INPUT01 [INPUT02]` runs with `-I none -n 201 --p-min 0 --delta-p 1.0 --v-ratio 1.2`, no sampling, no
    `--cellmass`, no `-s` (the driver takes these from the declaration whenever the harness leaves an option out) -/
theorem static_defaults_are_source :
    StaticSrc.defaultOptions (α := ℝ) = some { interp := .none, ntv := 201, pMin := 0, deltaP := 1, deltaPSample := none,
                                               cellmass := none, vRatio := 6 / 5, system := none } := by
  obtain ⟨h1, h2, h3, h4, h5, h6, h7, h8, _⟩ := StaticSrc.click_defaults_are_source
  simp [StaticSrc.defaultOptions, h1, h2, h3, h4, h5, h6, h7, h8, StaticSrc.interpOfName, StaticSrc.PyLit.toScalar,
    StaticSrc.PyLit.toOptScalar, StaticSrc.intToScalar]

/-- units.py: the seven helpers exist and convert between units of the same dimension; `_from_gpa` is `_to_gpa` reversed, so
    the two factors multiply to 1 (the hypothesis `hu` of `mode_pressure_printed_P`); `_to_kms` is exactly 1 (`kms_factor_one`);
    `_to_gcm3` is `1/(N_A (a₀/cm)³)` (`gcm3_factor`). -/
theorem static_units_are_source :
    (Generated.staticUnitHelpers.map (·.name)
      = ["_to_gpa", "_from_gpa", "_to_ang3", "_from_ang3", "_to_gcm3", "_to_ev", "_to_kms"] ∧
     ∀ h ∈ Generated.staticUnitHelpers, h.src.dim.isSome ∧ h.src.dim = h.dst.dim) ∧
    (∀ (base : String → ℝ) (a b : StaticSrc.UnitHelper), StaticSrc.unitHelper? "_to_gpa" = some a →
      StaticSrc.unitHelper? "_from_gpa" = some b → a.src.val base ≠ 0 → a.dst.val base ≠ 0 →
      b.factor base * a.factor base = 1) ∧
    (∀ h, StaticSrc.unitHelper? "_to_kms" = some h → h.factor StaticSrc.siBase = 1) ∧
    (∀ (base : String → ℝ) (h : StaticSrc.UnitHelper) (NA : ℝ), StaticSrc.unitHelper? "_to_gcm3" = some h →
      base "mol" = NA * base "particle" → base "g" ≠ 0 → base "particle" ≠ 0 → NA ≠ 0 → base "bohr" ≠ 0 → base "cm" ≠ 0 →
      h.factor base = 1 / (NA * (base "bohr" / base "cm") ^ 3)) :=
  ⟨StaticSrc.unit_helpers_dimensions, fun base a b ha hb h1 h2 => StaticSrc.gpa_factors_inverse base a b ha hb h1 h2,
    fun h hh => StaticSrc.kms_factor_is_one h hh,
    fun base h NA hh hm hg hp hN hb hc => StaticSrc.gcm3_factor_is_source base h hh NA hm hg hp hN hb hc⟩

/-! #### non-vacuity: exact runs of the model over ℚ -/

section Examples

/-- library stand-ins for the examples: strain = plain volume ratio − 1, no fill, exact inverse not needed -/
def exE : Ext ℚ where
  strain v0 v := v0 / v - 1
  sqrt x := x
  spline _ _ ts := ts.map fun _ => 0
  inv6 cs := some cs
  fill _ t := some t
  round x := x.floor
def exU : Static.Units ℚ := ⟨1, 1, 1, 1, 1, 1⟩
/-- `-I pressure -n 5 --p-min 2 --delta-p 0.5` -/
def exO : Options ℚ where
  interp := .pressure
  ntv := 5
  pMin := 2
  deltaP := 1 / 2
  deltaPSample := none
  cellmass := none
  vRatio := 6 / 5
  system := none

/-- the grid of mode volume and pressure -/
example : linspace (1 : ℚ) 3 5 = [1, 3/2, 2, 5/2, 3] := by decide +kernel

/-- a fit with a genuine residual exists and is evaluated on the grid -/
example : (fitModulus polynomialLeastSquareFitting exE [(4 : ℚ), 3, 2, 1] [4, 2] [1, 2, 5, 9]).isSome = true := by
  decide +kernel

/-- sampling with step 3 keeps the labels 0, 3, 6, 9 of an 11-row table -/
example : sliceIdx 11 3 = [0, 3, 6, 9] := by decide +kernel

/-- requested pressures: P_MIN = 2, DELTA_P = 1/2, ntv = 5 (factor 1) -/
example : requestedPressures exU exO = [2, 5/2, 3, 7/2, 4] := by decide +kernel

/-- `v2p1d` on data that are affine in P: volumes 10 … 2 at pressures 0 … 4 (arrays stored by increasing V) -/
example : v2p1d [(2 : ℚ), 4, 6, 8, 10] [4, 3, 2, 1, 0] [1/2, 5/2] = some [9, 5] := by decide +kernel

/-- the sorted-pair column name used by the VRH block, and a hypothesis instance of `static_reuss_hill_voigt`:
    cubic `c11 = 3, c12 = 1, c44 = 1` with its exact inverse (C07's example matrices) -/
example : cName 3 1 = "c13" ∧ cName 2 2 = "c22" := by decide

example : bmV (fun i j => if i = j then (if i ≤ 3 then (3 : ℚ) else 1) else if i ≤ 3 ∧ j ≤ 3 then 1 else 0) = 5 / 3 ∧
    gV (fun i j => if i = j then (if i ≤ 3 then (3 : ℚ) else 1) else if i ≤ 3 ∧ j ≤ 3 then 1 else 0) = 1 := by
  decide +kernel

/-- the contract `FillFrame` is inhabited (the identity fill of the examples) -/
example : StaticSrc.FillFrame exE := fun _ _ _ h e => by cases e; exact h

/-- `fill_keeps_frame` is not vacuous: the model ACCEPTS a cubic frame `V, F, P, density, c11, c12, c44` as run-static builds it
    (over ℚ: exact run), returns the 9 cubic components after the four untouched columns, without duplicates -/
example : (Fill.fill ⟨fun _ => false, fun _ => none⟩ (some "cubic")
      ({ ignoreResiduals := false, ignoreRank := false, dropAtol := 1 / 100000000, residualAtol := 1 / 10 } : Fill.Params ℚ)
      [("V", [10, 11]), ("F", [1, 2]), ("P", [3, 4]), ("density", [5, 6]), ("c11", [3, 4]), ("c12", [1, 2]),
       ("c44", [1, 1])]).toOption.map (fun t => t.map (·.1))
    = some ["V", "F", "P", "density", "c11", "c12", "c44", "c13", "c22", "c23", "c33", "c55", "c66"] :=
  -- the least squares is checked, not run: an order of the rows of the stacked system in which each meets one new unknown
  -- (full rank), and the cubic tensor of each volume row
  Fill.fill_of_checked (fun r => r.toOption.map fun t => t.map (·.1))
    (w := .inr [0, 1, 2, 3, 4, 5, 6, 7, 8, 11, 9, 10, 14, 12, 13, 17, 15, 16, 20, 18, 19])
    (cs := [[3, 1, 1, 0, 0, 0, 3, 1, 0, 0, 0, 3, 0, 0, 0, 1, 0, 0, 1, 0, 1],
            [4, 2, 2, 0, 0, 0, 4, 2, 0, 0, 0, 4, 0, 0, 0, 1, 0, 0, 1, 0, 1]]) (by decide +kernel)

/-- the helpers of units.py that `static_units_are_source` speaks of are found -/
example : (StaticSrc.unitHelper? "_to_gpa").isSome ∧ (StaticSrc.unitHelper? "_from_gpa").isSome ∧
    (StaticSrc.unitHelper? "_to_kms").isSome ∧ (StaticSrc.unitHelper? "_to_gcm3").isSome := by decide

end Examples

end Cij.C18
