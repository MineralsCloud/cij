/-
  C12 — results are finite and real on the whole grid.

  Finiteness of IEEE doubles is not a statement about ℝ.  What a theorem can carry, and carries here:
  (1) the Q1/Q2 expressions *as written in nonshear.py* (`Generated.q1Expr`, `Generated.q2Expr`, re-translated from
      the source on every run) denote the textbook functions over ℝ, every denominator in them is non-zero for Q > 0
      (`c12_defined_real`), and their values are bounded: 0 < Q1 < 1, 0 < Q2 ≤ 1, 1 − e^{−Q} ≥ Q/(1+Q) — so nothing
      intrinsically blows up at low temperature (Q → ∞);
  (2) an abstract IEEE-754 special-value semantics (`QExpr.evalCls`): the spelling shipped before fix 9d0159a,
      Q²eᴽ/(eᴽ−1)², evaluates to NaN — and to nothing else — whenever exp Q overflows (`c12_shipped_q2_nan_on_overflow`,
      a genuine defect, repaired), while the current spelling evaluates to 0 in that regime
      (`c12_current_q2_zero_when_exp_underflows`) and Q1 evaluates to 0 (`c12_q1_zero_on_overflow`);
  (3) thermal terms vanish as T → 0⁺ (`c12_thermal_tendsto_zero`): c(T) → c(0).
  (4) "inside the computed range" is decided by the guard in qha_adapter.py (`Generated.pressureGuard`, re-translated on
      every run): a non-empty requested grid at or below P(T, V_last) for every T is never refused, one above it always is
      (`c12_in_range_grid_not_refused`, `c12_out_of_range_grid_refused`) — no hidden margin in either direction.
  Out (sweep in harness/c12.py only): rounding, library exceptions, dtype, the IEEE behaviour between the two regimes.
-/
import CijProofs.Lemmas.QBounds
import Generated.QExprs
import CijProofs.Properties.C06
import Mathlib.Topology.Order.Basic
import Mathlib.Topology.Algebra.Order.Field
import Mathlib.Analysis.SpecialFunctions.Exp
import CijProofs.Lemmas.NonShearSource
import CijProofs.Lemmas.ShearSource
import CijProofs.Lemmas.ModeGammaSource
import Generated.FullModulusSpec
import Generated.ReadersSpec
import Generated.DefaultSettings
import Generated.CalcGlueSpec
import CijModel.Config
import CijModel.CalcGlue

namespace Cij.C12
open Cij Cij.QExpr Cij.Cls Filter Topology

/-! #### (1) the generated expressions over ℝ -/

theorem c12_q1_generated_real (q : ℝ) : Generated.q1Expr.eval Real.exp q = Q1r q := by
  simp [Generated.q1Expr, QExpr.eval, Q1r]

theorem c12_q2_generated_real {q : ℝ} (hq : 0 < q) : Generated.q2Expr.eval Real.exp q = Q2r q := by
  rw [← q2_forms_eq hq]
  simp [Generated.q2Expr, QExpr.eval, List.replicate, pow_two]

/-- no division by zero anywhere in Q1, Q2 for Q > 0 (T > 0, ω > 0) -/
theorem c12_defined_real {q : ℝ} (hq : 0 < q) :
    ∀ d ∈ Generated.q1Expr.denoms ++ Generated.q2Expr.denoms, d.eval Real.exp q ≠ 0 := by
  have h1 := exp_sub_one_pos hq
  have h2 := one_sub_exp_neg_pos hq
  intro d hd
  simp [Generated.q1Expr, Generated.q2Expr, QExpr.denoms] at hd
  rcases hd with rfl | rfl
  · simp [QExpr.eval]; exact h1.ne'
  · simp [QExpr.eval, List.replicate]; exact h2.ne'

theorem c12_q1_bounds {q : ℝ} (hq : 0 < q) :
    0 < Generated.q1Expr.eval Real.exp q ∧ Generated.q1Expr.eval Real.exp q < 1 := by
  rw [c12_q1_generated_real]; exact ⟨Q1r_pos hq, Q1r_lt_one hq⟩

theorem c12_q2_bounds {q : ℝ} (hq : 0 < q) :
    0 < Generated.q2Expr.eval Real.exp q ∧ Generated.q2Expr.eval Real.exp q ≤ 1 := by
  rw [c12_q2_generated_real hq]; exact ⟨Q2r_pos hq, Q2r_le_one hq⟩

/-- the denominator base of the current Q2 spelling is bounded away from zero -/
theorem c12_q2_denominator_lower {q : ℝ} (hq : 0 < q) : q / (1 + q) ≤ 1 - Real.exp (-q) :=
  one_sub_exp_neg_lower hq

/-! #### (2) IEEE special values -/

/-- the spelling shipped before the fix (kept as the witness of the defect) -/
def shippedQ2 : QExpr :=
  .div (.mul (.pow .q 2) (.exp .q)) (.pow (.sub (.exp .q) (.const 1)) 2)

/-- rounding outcomes when `exp` of a finite number > 1 overflows -/
def expOverflow : Cls → CSet
  | .gt1 => [.pinf]
  | c => Cls.expAll c

/-- When `exp` of a finite negative number underflows to 0 -/
def expUnderflow : Cls → CSet
  | .neg => [.zero]
  | .gt1 => [.pinf]
  | c => Cls.expAll c

/-- Q finite > 1 with exp Q = +inf: the shipped Q2 is NaN under *every* rounding outcome of Q² -/
theorem c12_shipped_q2_nan_on_overflow : shippedQ2.evalCls expOverflow Cls.powSame .gt1 = [.nan] := by
  decide +kernel

/-- the same regime, current source: Q² finite, exp(−Q) underflowed ⇒ Q2 = 0, finite -/
theorem c12_current_q2_zero_when_exp_underflows :
    Generated.q2Expr.evalCls expUnderflow (fun c n => (Cls.powSame c n).filter (· != .pinf)) .gt1 = [.zero] := by
  decide +kernel

/-- and Q1 = Q/(inf − 1) = 0 -/
theorem c12_q1_zero_on_overflow : Generated.q1Expr.evalCls expOverflow Cls.powSame .gt1 = [.zero] := by
  decide +kernel

/-- with all rounding outcomes of `exp` allowed and Q² finite the current Q2 still is never ±inf/inf:
    the only NaN source left in the abstract domain is 0/0 from a (spurious) underflow of the squared denominator -/
theorem c12_current_q2_no_inf_over_inf :
    ∀ c ∈ [Cls.sub1, Cls.one, Cls.gt1],
      Cls.pinf ∉ (QExpr.evalCls Cls.expAll (fun c n => (Cls.powSame c n).filter (· != .pinf)) c
        (.mul (.pow .q 2) (.exp (.neg .q)))) := by
  decide +kernel

/-! #### (3) thermal terms vanish as T → 0⁺ -/

/-- T·Q1(a/T) → 0 and T·Q2(a/T) → 0 as T → 0⁺ for a = ħω/k_B > 0: the per-mode thermal term
(k_B T / V)(−Q2·A + Q1·B) tends to 0, hence c(T) → c(0). -/
theorem c12_thermal_tendsto_zero {a : ℝ} (ha : 0 < a) (A B : ℝ) :
    Tendsto (fun T : ℝ => T * (-(Q2r (a / T)) * A + Q1r (a / T) * B)) (𝓝[>] 0) (𝓝 0) := by
  have hT : Tendsto (fun T : ℝ => T * (|A| + |B|)) (𝓝[>] 0) (𝓝 0) := by
    have : Tendsto (fun T : ℝ => T * (|A| + |B|)) (𝓝 0) (𝓝 (0 * (|A| + |B|))) :=
      (continuous_id.mul continuous_const).tendsto 0
    simpa using this.mono_left nhdsWithin_le_nhds
  refine squeeze_zero_norm' ?_ hT
  filter_upwards [self_mem_nhdsWithin] with T hTpos
  have hT0 : (0 : ℝ) < T := hTpos
  have hq : 0 < a / T := div_pos ha hT0
  have h1 := Q1r_pos hq; have h1' := Q1r_lt_one hq
  have h2 := Q2r_pos hq; have h2' := Q2r_le_one hq
  rw [Real.norm_eq_abs, abs_mul, abs_of_pos hT0]
  apply mul_le_mul_of_nonneg_left _ hT0.le
  calc |(-(Q2r (a / T)) * A + Q1r (a / T) * B)|
      ≤ |(-(Q2r (a / T)) * A)| + |Q1r (a / T) * B| := abs_add_le _ _
    _ = Q2r (a / T) * |A| + Q1r (a / T) * |B| := by
        rw [abs_mul, abs_mul, abs_neg, abs_of_pos h2, abs_of_pos h1]
    _ ≤ 1 * |A| + 1 * |B| := by
        apply add_le_add
        · exact mul_le_mul_of_nonneg_right h2' (abs_nonneg A)
        · exact mul_le_mul_of_nonneg_right h1'.le (abs_nonneg B)
    _ = |A| + |B| := by ring

/-! #### (4) the range guard of the source -/

/-- a requested grid that lies inside the computed range (≤ P(T, V_last) for every T) is not refused -/
theorem c12_in_range_grid_not_refused {α : Type} [Field α] [LinearOrder α] (pTvGpa : List (List α)) (desired : List α)
    (hne : ∀ row ∈ pTvGpa, row ≠ []) (hp : pTvGpa ≠ []) (hd : desired ≠ [])
    (h : ∀ row ∈ pTvGpa, ∀ x ∈ desired, x ≤ row.getLastD 0) :
    Cij.AdapterGuardSource.evalGuard Generated.pressureGuard pTvGpa desired = some (.ok ()) :=
  Cij.C06.source_guard_accepts_in_range pTvGpa desired hne hp hd h

/-- a grid that overshoots the computed range anywhere is refused with ValueError (never silently extrapolated) -/
theorem c12_out_of_range_grid_refused {α : Type} [Field α] [LinearOrder α] (pTvGpa : List (List α)) (desired : List α)
    (hne : ∀ row ∈ pTvGpa, row ≠ []) (h : ∃ row ∈ pTvGpa, ∃ x ∈ desired, row.getLastD 0 < x) :
    Cij.AdapterGuardSource.evalGuard Generated.pressureGuard pTvGpa desired = some (.error .valueError) := by
  rw [Cij.C06.pressure_guard_is_source, Cij.C06.status_reject_overshoot pTvGpa desired hne h]

/-! #### non-vacuity -/
example : (0 : ℝ) < 1 ∧ Generated.q1Expr.eval Real.exp 1 = 1 / (Real.exp 1 - 1) := by
  refine ⟨one_pos, ?_⟩; rw [c12_q1_generated_real]; rfl
example : shippedQ2.evalCls Cls.expAll Cls.powSame .sub1 ≠ [] := by decide +kernel
example : Cij.AdapterGuardSource.evalGuard Generated.pressureGuard [[(9 : ℚ), 5], [8, 4]] [0, 2, 4] = some (.ok ()) := by decide +kernel
example : Cij.AdapterGuardSource.evalGuard Generated.pressureGuard [[(9 : ℚ), 5], [8, 4]] [0, 2, 4, 6] = some (.error .valueError) := by
  decide +kernel

/-! #### ties shared with other properties

The statement of this property also rests on code whose translation is owned by another property's file; the theorems are restated
here so that this property's obligations are re-checked against those files too (a change there breaks THIS check's proof as well). -/

/-- `nonshear.py` as translated on this run: the model's isothermal and adiabatic values of both non-shear classes are the
translated bodies (zero-point + thermal; isothermal + gap), for every scalar type -/
theorem c12_nonshear_is_source {α : Type} [Cij.NonShear.Scalar α] [Add α] [Sub α] [Mul α] [Div α] [Neg α]
    (c : Cij.NonShear.Consts α) (w : List α) (T P cv : α) (s : Cij.NonShear.VolSlice α) (a b : α) :
    Cij.NonShear.valueAdiabaticLongAt c w T cv s =
      Cij.NSExpr.evalBody (Cij.NSExpr.envAt c w T P cv s (Cij.NonShear.mgLong s) a b (Cij.NonShear.valueIsothermalLongAt c w T s)
        (Cij.NonShear.isoToAdiaAt c.k c.hdk c.na T s.V cv (Cij.NonShear.mgLong s) s.freq w)) Generated.nsAdiaLong ∧
    Cij.NonShear.valueAdiabaticOffAt c w T P cv s =
      Cij.NSExpr.evalBody (Cij.NSExpr.envAt c w T P cv s (Cij.NonShear.mgOff s) a b (Cij.NonShear.valueIsothermalOffAt c w T P s)
        (Cij.NonShear.isoToAdiaAt c.k c.hdk c.na T s.V cv (Cij.NonShear.mgOff s) s.freq w)) Generated.nsAdiaOff :=
  ⟨Cij.NSExpr.valueAdiabaticLong_is_source c w T P cv s a b, Cij.NSExpr.valueAdiabaticOff_is_source c w T P cv s a b⟩

/-- the arithmetic of the shear solver in `shear.py` as translated on this run: the target formula of the model is the translated one -/
theorem c12_shear_target_is_source {α : Type} [Add α] [Sub α] [Mul α] [Div α] [NatCast α]
    (key : Cij.Modulus) (e : Cij.Shear.Mat3 α) (eRot eOrig : α) :
    Cij.Shear.targetModulus key e eRot eOrig =
      Cij.ShExpr.eval (Cij.ShExpr.envOf eRot (e (Cij.Shear.idx key.i.i) (Cij.Shear.idx key.i.j)) (e (Cij.Shear.idx key.j.i) (Cij.Shear.idx key.j.j))
        eRot eOrig ((key.multiplicity : Nat) : α)) Generated.shearTarget :=
  Cij.ShExpr.target_is_source key e eRot eOrig

/-- the glue of `cij/core/mode_gamma.py` this property's statement rests on (which member of the returned triple is γ, which
V∂γ/∂V, the signs): every `interpolate_mode_*` function returns `(exp s, −s′, −s″)` as translated on this run -/
theorem c12_mode_glue_is_source : ∀ e ∈ Generated.modeReturnPattern, e.2 = Cij.Interp.canonicalPattern :=
  Cij.Interp.return_pattern_is_source

/-- `full_modulus.py` / `_calculate_pressure_static` as translated on this run: default fit orders, degree offset, and the bodies of
`fit_modulus` (strains of the STATIC table's own volumes), `get_axial_strains`, `get_static_modulus`, `modulus_adiabatic`,
`modulus_isothermal` are the ones the model implements -/
theorem c12_full_modulus_is_source :
    Generated.fitModulusDegOffset = 1 ∧ Generated.fullModulusBodiesCanonical = true ∧
    Generated.fitModulusDefaultOrder = 2 ∧ Generated.staticPressureDefaultOrder = 3 := by decide +kernel

/-- `cij/io/traditional/elast_dat.py` (+ package glue) as translated on this run: `read_elast_data` and
`apply_symetry_on_elast_data` are the statements the reader model mirrors (rows in file order, lattice block in file order, one frame row
per volume BY NAME `"c%s%s" % key.v`, `fill_cij(df, **symmetry)` with the caller's dictionary untouched, rows written back as fresh
mappings from `c_(key[1:])`), and the package re-exports the readers themselves (no caching wrapper) -/
theorem c12_readers_are_source :
    Generated.Readers.elastDatCanonical = true ∧ Generated.Readers.columnLiterals = ["c", ""] ∧ Generated.Readers.backSlice = 1 ∧
    Generated.Readers.fillPositional = 1 ∧ Generated.Readers.fillKeywords = ["**<symmetry>"] ∧
    Generated.Readers.rowVolumeIndex = 0 ∧ Generated.Readers.rowKeySlice = 1 ∧ Generated.Readers.rowValueSlice = 1 ∧
    ("read_energy", "qha_input", "read_energy") ∈ Generated.Readers.packageImports ∧
    ("read_elast_data", "elast_dat", "read_elast_data") ∈ Generated.Readers.packageImports := by decide +kernel

/-- **every valid configuration completes: the packaged defaults supply what the calculator reads.**  The configuration leaves that
`Calculator` reads by subscript — the paths translated from calculator.py on this run (`_interpolate_modes`: interpolator and order;
`_apply_elastic_constants_symmetry`: the symmetry block; `write_output`: the output section) — all exist in the packaged default settings
as translated on this run, the default order being a number: a schema-valid file that leaves them out still gets them from the merge
(C16), so no `KeyError`/`None` reaches the interpolators. -/
theorem c12_defaults_supply_calculator_reads :
    (Cij.Config.get Generated.defaultSettings Generated.CalcGlue.interpolateModes.methodPath).isSome = true ∧
    (match Cij.Config.get Generated.defaultSettings Generated.CalcGlue.interpolateModes.orderPath with
      | some (.num _ _ _) => true | _ => false) = true ∧
    (match Cij.Config.get Generated.defaultSettings Generated.CalcGlue.symmetrySpec.path with
      | some (.obj _) => true | _ => false) = true ∧
    (match Cij.Config.get Generated.defaultSettings Generated.CalcGlue.writeOutputPath with
      | some (.obj _) => true | _ => false) = true := by decide +kernel

end Cij.C12
