/-
  C01 — thermal c11…c33, c12, c13, c23 are strain derivatives of the QHA free energy.

  Subject: the model `CijModel/NonShear.lean` (the same definitions the driver runs at `Float` against the real
  classes), instantiated at ℝ.  Its integer prefactor denominators are `Generated.prefLong` / `Generated.prefOff`,
  re-extracted from `nonshear.py` on every run.

  Setting.  A spectrum is an arbitrary `S : List (List Mode)` ([q][m]; any number of q-points; each row has
  `3·na` modes), a mode being functions ω(V), γ(V), g(V) with ω > 0, ω' = −γω/V, γ' = g/V at every V > 0
  (`Mode.Good`; nothing is assumed about the three Γ-point acoustic entries, which the code masks).
  Weights `w` are arbitrary with Σw ≠ 0.  The arrays handed to the code at volume V are
  `freqOf S V`, `mg0Of S V = [g]`, `mg1Of S V = [γ]`, `mg2Of S V = [γ·γ]` (`calculator.mode_gamma`).
  The unit constants are parameters h > 0, k > 0, h_div_k = h/k (their numerical values are checked against
  CODATA by the harness).

      F_zp(V)   = Σ_q (w_q/Σw) Σ_{m not Γ-acoustic} hω/2
      F_th(T,V) = Σ_q (w_q/Σw) Σ_{m not Γ-acoustic} kT ln(1 − e^{−hω/kT})          F_ph = F_zp + F_th
      Pof F V = −∂F/∂V  (`deriv`),        Aof F V = V ∂²F/∂V² − Pof F V  (`deriv (deriv F)`)
-/
import CijProofs.Lemmas.NonShearCalculus
import CijProofs.Lemmas.NonShearSource
import CijProofs.Lemmas.ModeGammaSource
import CijProofs.Lemmas.NonShearGlueSource

namespace Cij.C01

open Cij.NonShear

/-! #### list level: `average_over_modes · 3 · na` is the weighted sum over non-Γ-acoustic modes -/

/-- For every spectrum shape (any list of q-points, rows of 3·na entries of *any* type), any weights with
Σw ≠ 0 and any per-mode quantity φ:  average_over_modes([φ]) · 3 · na = Σ_q (w_q/Σw) Σ_{m ∉ Γ-acoustic} φ_qm. -/
theorem c01_average_eq_sum {μ : Type} (S : List (List μ)) (w : List ℝ) (φ : μ → ℝ) (na : ℕ) (hna : na ≠ 0)
    (hlen : ∀ row ∈ S, row.length = 3 * na) (hw : sumL w ≠ 0) :
    averageOverModes (S.map (List.map φ)) w * 3 * na = wsum w (dropΓ S) φ :=
  average_eq_wsum S w φ na hna hlen hw

/-- masked = excluded: the entries `[0][0:3]` do not influence `average_over_modes` at all -/
theorem c01_gamma_acoustic_ignored (r r' : List ℝ) (X : List (List ℝ)) (w : List ℝ)
    (h : r.drop 3 = r'.drop 3) (hl : r.length = r'.length) :
    averageOverModes (r :: X) w = averageOverModes (r' :: X) w := by
  unfold averageOverModes clearGamma
  simp only [List.map_cons, mean, zeroFirst_length, sumL_zeroFirst, h, hl]

/-! #### one mode: closed forms of −∂f/∂V and V∂²f/∂V² − (−∂f/∂V) -/

/-- f_zp = hω/2:   −∂f/∂V = hγω/(2V),   V∂²f/∂V² − (−∂f/∂V) = hω(γ² − g)/(2V) -/
theorem c01_mode_zero_point (h : ℝ) (m : Mode) (hm : m.Good) (V : ℝ) (hV : 0 < V) :
    Pof (fun v => h * m.ω v / 2) V = h * m.γ V * m.ω V / (2 * V) ∧
    Aof (fun v => h * m.ω v / 2) V = h * m.ω V * (m.γ V ^ 2 - m.g V) / (2 * V) :=
  Pof_Aof_of_hasDerivAt (fzp h m) (pzp h m) (azp h m V) V hV
    (fun v hv => hasDerivAt_fzp h m hm v hv) (hasDerivAt_pzp h m hm V hV)

/-- f_th = kT ln(1 − e^{−Q}), Q = hω/kT, T > 0:
−∂f/∂V = (kT/V) γ Q/(e^Q − 1),
V∂²f/∂V² − (−∂f/∂V) = (kT/V) (γ² (Q/(e^Q−1) − Q²e^Q/(e^Q−1)²) − g Q/(e^Q−1)). -/
theorem c01_mode_thermal (h k T : ℝ) (hh : 0 < h) (hk : 0 < k) (hT : 0 < T) (m : Mode) (hm : m.Good)
    (V : ℝ) (hV : 0 < V) :
    let Q := h * m.ω V / (k * T)
    let Q1 := Q / (Real.exp Q - 1)
    let Q2 := Q ^ 2 * Real.exp Q / (Real.exp Q - 1) ^ 2
    Pof (fun v => k * T * Real.log (1 - Real.exp (-(h * m.ω v / (k * T))))) V = k * T / V * m.γ V * Q1 ∧
    Aof (fun v => k * T * Real.log (1 - Real.exp (-(h * m.ω v / (k * T))))) V
      = k * T / V * (m.γ V ^ 2 * (Q1 - Q2) - m.g V * Q1) := by
  intro Q Q1 Q2
  have hdk : 0 < h / k := by positivity
  have hQ : Qm (h / k) T m V = Q := by
    simp only [Qm, Q]; field_simp
  have hQpos : 0 < Q := by rw [← hQ]; exact Qm_pos m hm hV hdk hT
  have := Pof_Aof_of_hasDerivAt (fth h k T m) (pth k (h / k) T m) (ath k (h / k) T m V) V hV
    (fun v hv => hasDerivAt_fth h k (h / k) T hh hk rfl hT m hm v hv)
    (hasDerivAt_pth k (h / k) T hdk hT m hm V hV)
  simp only [pth, ath, hQ, q2_eq_classic Q hQpos.ne', q1_real] at this
  exact this

/-! #### the model's contributions are the strain-derivative formulas — each part separately -/

section Spectrum
variable (h k hdk : ℝ) (na : ℕ) (S : List (List Mode)) (w : List ℝ)
variable (hh : 0 < h) (hk : 0 < k) (hhdk : hdk = h / k)
variable (hna : na ≠ 0) (hlen : ∀ row ∈ S, row.length = 3 * na) (hw : sumL w ≠ 0) (hS : GoodS S)

include hna hlen hw hS in
/-- zero-point part, longitudinal class with strain pair (e₀, e₁):  A_zp/(5e₀e₁) + P_zp/(3e₀) -/
theorem c01_longitudinal_zero_point (V e0 e1 pst : ℝ) (hV : 0 < V) (_he0 : e0 ≠ 0) (_he1 : e1 ≠ 0) :
    zeroPointLongAt h na V (mgLong (sliceOf S V e0 e1 pst)) (freqOf S V) w
      = Aof (Fzp h w S) V / (5 * (e0 * e1)) + Pof (Fzp h w S) V / (3 * e0) := by
  obtain ⟨hP, hA⟩ := Fzp_PA h w S hS V hV
  rw [hP, hA]
  exact zeroPointLong_eq h na S w V e0 e1 pst hna hlen hw

include hh hk hhdk hna hlen hw hS in
/-- thermal part, longitudinal class, every T ≥ 0 (at T = 0 both sides vanish) -/
theorem c01_longitudinal_thermal (T V e0 e1 pst : ℝ) (hT : 0 ≤ T) (hV : 0 < V) (_he0 : e0 ≠ 0) (_he1 : e1 ≠ 0) :
    thermalLongAt k hdk na T V (mgLong (sliceOf S V e0 e1 pst)) (freqOf S V) w
      = Aof (Fth h k T w S) V / (5 * (e0 * e1)) + Pof (Fth h k T w S) V / (3 * e0) := by
  rcases hT.eq_or_lt with h0 | hpos
  · subst h0
    obtain ⟨hP, hA⟩ := Fth_zero_PA h k w S V
    rw [hP, hA]
    simp [thermalLongAt]
  · obtain ⟨hP, hA⟩ := Fth_PA h k hdk T hh hk hhdk hpos w S hS V hV
    rw [hP, hA]
    exact thermalLong_eq k hdk na S w T V e0 e1 pst hna hlen hw hpos.ne'

include hh hk hhdk hna hlen hw hS in
/-- **C01, longitudinal.**  value_isothermal of c_ii (strain fraction e) at any grid point T ≥ 0, V > 0 equals
A/(5e²) + P_ph/(3e) with P_ph = −∂F_ph/∂V, A = V∂²F_ph/∂V² − P_ph. -/
theorem c01_longitudinal (T V e pst : ℝ) (hT : 0 ≤ T) (hV : 0 < V) (_he : e ≠ 0) :
    valueIsothermalLongAt { h := h, k := k, hdk := hdk, na := na } w T (sliceOf S V e e pst)
      = Aof (Fph h k T w S) V / (5 * e ^ 2) + Pof (Fph h k T w S) V / (3 * e) := by
  obtain ⟨hP, hA⟩ := Fph_PA_add h k hdk T hh hk hhdk hT w S hS V hV
  unfold valueIsothermalLongAt
  show zeroPointLongAt h na V (mgLong (sliceOf S V e e pst)) (freqOf S V) w
      + thermalLongAt k hdk na T V (mgLong (sliceOf S V e e pst)) (freqOf S V) w = _
  rw [c01_longitudinal_zero_point h na S w hna hlen hw hS V e e pst hV _he _he,
    c01_longitudinal_thermal h k hdk na S w hh hk hhdk hna hlen hw hS T V e e pst hT hV _he _he, hP, hA]
  ring

include hna hlen hw hS in
/-- zero-point part, off-diagonal class:  A_zp/(15e_ie_j) -/
theorem c01_offdiagonal_zero_point (V ei ej pst : ℝ) (hV : 0 < V) (_hei : ei ≠ 0) (_hej : ej ≠ 0) :
    zeroPointOffAt h na V (mgOff (sliceOf S V ei ej pst)) (freqOf S V) w
      = Aof (Fzp h w S) V / (15 * (ei * ej)) := by
  rw [(Fzp_PA h w S hS V hV).2]
  exact zeroPointOff_eq h na S w V ei ej pst hna hlen hw

include hh hk hhdk hna hlen hw hS in
/-- thermal part, off-diagonal class, every T ≥ 0:  A_th/(15e_ie_j) -/
theorem c01_offdiagonal_thermal (T V ei ej pst : ℝ) (hT : 0 ≤ T) (hV : 0 < V) (_hei : ei ≠ 0) (_hej : ej ≠ 0) :
    thermalOffAt k hdk na T V (mgOff (sliceOf S V ei ej pst)) (freqOf S V) w
      = Aof (Fth h k T w S) V / (15 * (ei * ej)) := by
  rcases hT.eq_or_lt with h0 | hpos
  · subst h0
    rw [(Fth_zero_PA h k w S V).2]
    simp [thermalOffAt]
  · rw [(Fth_PA h k hdk T hh hk hhdk hpos w S hS V hV).2]
    exact thermalOff_eq k hdk na S w T V ei ej pst hna hlen hw hpos.ne'

include hh hk hhdk hna hlen hw hS in
/-- **C01, off-diagonal.**  value_isothermal of c_ij (i ≠ j ≤ 3) equals A/(15e_ie_j) + (P − P_static) where P is
the supplied total pressure at the grid point and P_static the supplied static pressure at that volume. -/
theorem c01_offdiagonal (T V ei ej P pst : ℝ) (hT : 0 ≤ T) (hV : 0 < V) (_hei : ei ≠ 0) (_hej : ej ≠ 0) :
    valueIsothermalOffAt { h := h, k := k, hdk := hdk, na := na } w T P (sliceOf S V ei ej pst)
      = Aof (Fph h k T w S) V / (15 * (ei * ej)) + (P - pst) := by
  unfold valueIsothermalOffAt
  show zeroPointOffAt h na V (mgOff (sliceOf S V ei ej pst)) (freqOf S V) w
      + thermalOffAt k hdk na T V (mgOff (sliceOf S V ei ej pst)) (freqOf S V) w + (P - pst) = _
  rw [c01_offdiagonal_zero_point h na S w hna hlen hw hS V ei ej pst hV _hei _hej,
    c01_offdiagonal_thermal h k hdk na S w hh hk hhdk hna hlen hw hS T V ei ej pst hT hV _hei _hej,
    (Fph_PA_add h k hdk T hh hk hhdk hT w S hS V hV).2]
  ring

include hh hk hhdk hna hlen hw hS in
/-- the statement's literal form: when the supplied total pressure is static + phonon pressure of the same
spectrum, c_ij = A/(15e_ie_j) + P_ph -/
theorem c01_offdiagonal_phonon_pressure (T V ei ej P pst : ℝ) (hT : 0 ≤ T) (hV : 0 < V) (hei : ei ≠ 0)
    (hej : ej ≠ 0) (hP : P = pst + Pof (Fph h k T w S) V) :
    valueIsothermalOffAt { h := h, k := k, hdk := hdk, na := na } w T P (sliceOf S V ei ej pst)
      = Aof (Fph h k T w S) V / (15 * (ei * ej)) + Pof (Fph h k T w S) V := by
  rw [c01_offdiagonal h k hdk na S w hh hk hhdk hna hlen hw hS T V ei ej P pst hT hV hei hej, hP]
  ring

include hh hk hhdk hna hlen hw hS in
/-- the same identity for a whole (T, V) grid: every entry `[t][v]` of the model's `value_isothermal` array -/
theorem c01_longitudinal_grid (ts : List (TempRow ℝ)) (pts : List (ℝ × ℝ × ℝ))
    (hts : ∀ r ∈ ts, 0 ≤ r.T) (hpts : ∀ x ∈ pts, 0 < x.1 ∧ x.2.1 ≠ 0) :
    valueIsothermalLong { h := h, k := k, hdk := hdk, na := na } w ts
        (pts.map fun x => sliceOf S x.1 x.2.1 x.2.1 x.2.2)
      = ts.map fun r => pts.map fun x =>
          Aof (Fph h k r.T w S) x.1 / (5 * x.2.1 ^ 2) + Pof (Fph h k r.T w S) x.1 / (3 * x.2.1) := by
  unfold valueIsothermalLong
  refine List.map_congr_left (fun r hr => ?_)
  rw [List.map_map]
  refine List.map_congr_left (fun x hx => ?_)
  exact c01_longitudinal h k hdk na S w hh hk hhdk hna hlen hw hS r.T x.1 x.2.1 x.2.2 (hts r hr)
    (hpts x hx).1 (hpts x hx).2

end Spectrum

/-! #### clauses that hold for arbitrary arrays (no hypothesis on the spectrum at all) -/

/-- the off-diagonal pressure term is exactly supplied total pressure − supplied static pressure -/
theorem c01_offdiagonal_pressure_term (c : Consts ℝ) (w : List ℝ) (T P : ℝ) (s : VolSlice ℝ) :
    valueIsothermalOffAt c w T P s
      - (zeroPointOffAt c.h c.na s.V (mgOff s) s.freq w + thermalOffAt c.k c.hdk c.na T s.V (mgOff s) s.freq w)
      = P - s.pstatic := by
  unfold valueIsothermalOffAt; ring

/-- rows with T = 0: the thermal part is exactly 0, so value_isothermal is the zero-point part -/
theorem c01_T0 (c : Consts ℝ) (w : List ℝ) (s : VolSlice ℝ) (g : ModeGamma ℝ) :
    thermalLongAt c.k c.hdk c.na 0 s.V g s.freq w = 0 ∧ thermalOffAt c.k c.hdk c.na 0 s.V g s.freq w = 0 ∧
    valueIsothermalLongAt c w 0 s = zeroPointLongAt c.h c.na s.V (mgLong s) s.freq w := by
  simp [thermalLongAt, thermalOffAt, valueIsothermalLongAt]

/-! #### non-vacuity: a concrete spectrum satisfying every hypothesis, and the numbers it gives -/

/-- two atoms, one q-point of weight 2, six modes ω = 100/V (γ = 1, g = 0) -/
noncomputable abbrev Sx : List (List Mode) := [List.replicate 6 (invMode 100)]

example : GoodS Sx ∧ (∀ row ∈ Sx, row.length = 3 * 2) ∧ sumL ([2] : List ℝ) ≠ 0 := by
  exact ⟨goodS_replicate 6 100 (by norm_num), by simp [Sx], by simp⟩

/-- with h = 1, V = 1, e = 1/3: A_zp = 150, P_zp = 150, so c_ii^zp = 150/(5/9) + 150/1 = 420 (not 0 = 0) -/
example : zeroPointLongAt 1 2 1 (mgLong (sliceOf Sx 1 (1/3) (1/3) 0)) (freqOf Sx 1) [2] = 420 := by
  rw [zeroPointLong_eq 1 2 Sx [2] 1 (1/3) (1/3) 0 (by norm_num) (by simp [Sx]) (by simp)]
  simp [Azp, Pzp, wsum, dropΓ, List.replicate, azp, pzp, invMode]
  norm_num

/-! #### the model IS the source: bodies re-extracted from nonshear.py on this run

`tools/gen_tables.py` parses the bodies of `zero_point_contribution`, `thermal_contribution`, `value_isothermal` (both
classes), the `mode_gamma` wiring and the return expressions of `Q1`, `Q2` from the working tree into expression trees
(`Generated.ns*`, `Generated.mgWiring*`, `Generated.q1Expr/q2Expr`).  The model functions about which everything above is
proved are *definitionally* those trees (for every scalar type — `Lemmas/NonShearSource.lean`, by `rfl`); here the
statement at ℝ.  A changed sign, index or factor in those Python bodies makes these theorems fail to check. -/

open Cij.NSExpr in
theorem c01_model_is_source (c : Consts ℝ) (w : List ℝ) (T P cv : ℝ) (s : VolSlice ℝ) (g : ModeGamma ℝ) (a b d e : ℝ) :
    zeroPointLongAt c.h c.na s.V g s.freq w = evalBody (envAt c w T P cv s g a b d e) Generated.nsZpLong ∧
    zeroPointOffAt c.h c.na s.V g s.freq w = evalBody (envAt c w T P cv s g a b d e) Generated.nsZpOff ∧
    thermalLongAt c.k c.hdk c.na T s.V g s.freq w = evalBody (envAt c w T P cv s g a b d e) Generated.nsThLong ∧
    thermalOffAt c.k c.hdk c.na T s.V g s.freq w = evalBody (envAt c w T P cv s g a b d e) Generated.nsThOff ∧
    valueIsothermalLongAt c w T s = evalBody (envAt c w T P cv s (mgLong s)
        (zeroPointLongAt c.h c.na s.V (mgLong s) s.freq w) (thermalLongAt c.k c.hdk c.na T s.V (mgLong s) s.freq w) d e)
        Generated.nsIsoLong ∧
    valueIsothermalOffAt c w T P s = evalBody (envAt c w T P cv s (mgOff s)
        (zeroPointOffAt c.h c.na s.V (mgOff s) s.freq w) (thermalOffAt c.k c.hdk c.na T s.V (mgOff s) s.freq w) d e)
        Generated.nsIsoOff :=
  ⟨zeroPointLong_is_source c w T P cv s g a b d e, zeroPointOff_is_source c w T P cv s g a b d e,
    thermalLong_is_source c w T P cv s g a b d e, thermalOff_is_source c w T P cv s g a b d e,
    valueIsothermalLong_is_source c w T P cv s d e, valueIsothermalOff_is_source c w T P cv s d e⟩

theorem c01_mode_gamma_wiring_is_source :
    Generated.mgWiringLong = [([0], 0), ([1, 0], 1), ([1, 1], 1), ([2], 2)] ∧
    Generated.mgWiringOff = [([0], 0), ([1, 0], 1), ([1, 1], 1), ([2], 2)] :=
  Cij.NSExpr.modeGamma_wiring_is_source

/-- the model's Bose factors are the translated `Q1`, `Q2` return expressions -/
theorem c01_q_is_source (x : ℝ) :
    q1 x = Generated.q1Expr.eval Real.exp x ∧ q2 x = Generated.q2Expr.eval Real.exp x := by
  exact ⟨(congrFun Cij.NSGlue.q1Src_eq x).symm, (congrFun Cij.NSGlue.q2Src_eq x).symm⟩

/-! #### the glue IS the source: averaging, weights, prefactors, Q, masks, class table — re-extracted from nonshear.py on this run

`tools/gens/nonshear_src.py` translates what the generators above leave out (`Generated/NonShearGlue.lean`): the module function
`average_over_modes` as a reduction tree (copy → `clear_gamma_point` → `numpy.average` over the mode axis → `numpy.average` with
`weights=q_weights` over the q axis), `clear_gamma_point` as index data, the method `average_over_modes(self, amount)`, `q_weights`,
the accessors, `__init__`, `prefactors` of both classes as whole expression trees, the broadcasting subscripts, `Q`, the
`ret[numpy.where(self.t_array == 0), :] = 0` statements, the unit conversions, the class table.  `CijModel/NSGlue.lean` gives these
data their meaning; the theorems below say that the model functions about which everything above is proved ARE that meaning, for
all inputs.  The `…_source` theorems at the end restate the headline identities for `Source.valueIsothermalAt`, a
`value_isothermal` assembled from translated pieces only. -/

section GlueSource
open Cij.NSGlue Cij.NSExpr Generated.NonShearGlue

/-- `NonShear.averageOverModes` is the meaning of the translated method → module function → reduction tree, for ALL arrays and
weights; the tree clears a COPY (the caller's array is untouched), `clear_gamma_point` works in place on what it is given -/
theorem c01_glue_is_source_average (x : List (List ℝ)) (w : List ℝ) :
    methodAvg avgMethod avgTree clearSpec x w = .a0 (averageOverModes x w) ∧
    avgTree.mutatesInput = false ∧ clearSpec.inPlaceOnly = true :=
  ⟨methodAvg_gen x w, by decide +kernel, by decide +kernel⟩

/-- the translated `clear_gamma_point` on any `[q][m]` array, any number of q-points: the first three entries of the FIRST row
become 0, every other entry of every row is kept -/
theorem c01_glue_is_source_clear (r : List ℝ) (X : List (List ℝ)) :
    clearAt clearSpec (r :: X) = (List.replicate (min 3 r.length) 0 ++ r.drop 3) :: X := by
  rw [clearAt_gen]
  show zeroFirst 3 r :: X = _
  congr 1
  match r with
  | [] => rfl
  | [a] => simp [zeroFirst]
  | [a, b] => simp [zeroFirst, List.replicate]
  | a :: b :: c :: rest => simp [zeroFirst, List.replicate]

/-- **the translated averaging is the weighted mode sum**: for every spectrum shape (ANY number of q-points, rows of 3·na entries),
any weights with Σw ≠ 0 and any per-mode quantity φ, `self.average_over_modes([φ])` as translated, times 3·na, is
Σ_q (w_q / Σw) Σ_{m ∉ Γ-acoustic} φ_qm: only the three acoustic modes of the first q-point are left out, whatever nq, and the
weights are divided by their exact sum -/
theorem c01_glue_is_source_average_sum {μ : Type} (S : List (List μ)) (w : List ℝ) (φ : μ → ℝ) (na : ℕ) (hna : na ≠ 0)
    (hlen : ∀ row ∈ S, row.length = 3 * na) (hw : sumL w ≠ 0) :
    ∃ a, srcLong.avg (S.map (List.map φ)) w = some a ∧ srcOff.avg (S.map (List.map φ)) w = some a ∧
      a * 3 * na = wsum w (dropΓ S) φ :=
  ⟨_, srcLong_avg _ w, srcOff_avg _ w, average_eq_wsum S w φ na hna hlen hw⟩

/-- `q_weights` as translated: the second components of `calculator.qha_input.weights`, in file order, nothing scaled, rounded,
normalised or dropped -/
theorem c01_glue_is_source_weights {β : Type} (pairs : List (β × ℝ)) :
    evalQWeights qWeights pairs = some (pairs.map (·.2)) ∧ qWeights.path = ["calculator", "qha_input", "weights"] :=
  ⟨rfl, rfl⟩

/-- the model's prefactors are the translated `prefactors` expressions for all strain fractions; in closed form
(1/(5e²), 1/(3e)) and (1/(15e_ie_j), 1/(3e_i), 1/(3e_j)) -/
theorem c01_glue_is_source_prefactors (e0 e1 : ℝ) :
    prefactorsLong e0 e1 = evalPref prefExprsLong e0 e1 ∧ prefactorsOff e0 e1 = evalPref prefExprsOff e0 e1 ∧
    (e0 ≠ 0 → (evalPref prefExprsLong e0 e0).p0 = 1 / (5 * e0 ^ 2) ∧ (evalPref prefExprsLong e0 e0).p2 = 1 / (5 * e0 ^ 2) ∧
      (evalPref prefExprsLong e0 e0).p10 = 1 / (3 * e0)) ∧
    (e0 ≠ 0 → e1 ≠ 0 → (evalPref prefExprsOff e0 e1).p0 = 1 / (15 * (e0 * e1)) ∧
      (evalPref prefExprsOff e0 e1).p2 = 1 / (15 * (e0 * e1))) := by
  refine ⟨prefactorsLong_gen e0 e1, prefactorsOff_gen e0 e1, fun h => ?_, fun h0 h1 => ?_⟩
  · exact ⟨(prefLong_closed e0 h).1, (prefLong_closed e0 h).2.1, (prefLong_closed e0 h).2.2.1⟩
  · exact ⟨(prefOff_closed e0 e1 h0 h1).1, (prefOff_closed e0 e1 h0 h1).2.1⟩

/-- `mode_gamma` as translated (wiring + the broadcasting subscript of each prefactor: one prefactor per VOLUME) is the model's
`modeGamma`, in both classes; and every broadcasting subscript of every method has the pattern the per-(T, V) model assumes -/
theorem c01_glue_is_source_mode_gamma (p : Pref ℝ) (mg0 mg1 mg2 : List (List ℝ)) :
    wiringGamma Generated.mgWiringLong mgBroadcastLong p mg0 mg1 mg2 = some (modeGamma p mg0 mg1 mg2) ∧
    wiringGamma Generated.mgWiringOff mgBroadcastOff p mg0 mg1 mg2 = some (modeGamma p mg0 mg1 mg2) ∧
    bcastTable.all bcastOk = true :=
  ⟨wiringGammaLong_gen p mg0 mg1 mg2, wiringGammaOff_gen p mg0 mg1 mg2, by decide +kernel⟩

/-- `Q` as translated is `h_div_k · (ω / T)`, elementwise, with no special case (T = 0 and ω ≤ 0 are not treated here: the
T = 0 rows are overwritten afterwards, the Γ-acoustic entries by `clear_gamma_point`) -/
theorem c01_glue_is_source_Q (hdk T : ℝ) (freq : List (List ℝ)) :
    Qarr hdk T freq = map2 (fun f => evalQDef hdk T f qDef) freq ∧ ∀ f, evalQDef hdk T f qDef = hdk * (f / T) :=
  ⟨Qarr_gen hdk T freq, fun _ => rfl⟩

/-- the translated `ret[numpy.where(self.t_array == 0), :] = 0` on ANY temperature grid and any `[t][v]` array: exactly the rows
whose temperature IS 0 become 0 — wherever they stand, none, one or several; and the model's `thermal_contribution` grids are
the translated masks applied to the translated unmasked bodies -/
theorem c01_glue_is_source_T0_rows (c : Consts ℝ) (w : List ℝ) (ts : List (TempRow ℝ)) (vs : List (VolSlice ℝ))
    (temps : List ℝ) (grid : List (List ℝ)) :
    applyMasks masksThLong temps grid
      = some (List.zipWith (fun T row => if T = 0 then row.map (fun _ => (0 : ℝ)) else row) temps grid) ∧
    applyMasks masksThOff temps grid
      = some (List.zipWith (fun T row => if T = 0 then row.map (fun _ => (0 : ℝ)) else row) temps grid) ∧
    applyMasks masksThLong (ts.map (·.T)) (rawGrid Generated.nsThLong mgLong c w ts vs) = some (thermalLong c w ts vs) ∧
    applyMasks masksThOff (ts.map (·.T)) (rawGrid Generated.nsThOff mgOff c w ts vs) = some (thermalOff c w ts vs) ∧
    masksZpLong = [] ∧ masksZpOff = [] ∧ masksIsoLong = [] ∧ masksIsoOff = [] := by
  refine ⟨?_, ?_, thermalLong_mask_gen c w ts vs, thermalOff_mask_gen c w ts vs, masks_gen.2.2.2.2.1,
    masks_gen.2.2.2.2.2.1, masks_gen.2.2.2.2.2.2.1, masks_gen.2.2.2.2.2.2.2.1⟩
  · rw [masks_gen.1, applyMasks_t0]; simp
  · rw [masks_gen.2.1, applyMasks_t0]; simp

/-- accessors hand over the calculator's arrays of the same name; `__init__` stores `e` and the calculator untouched and reads
`na` off the calculator -/
theorem c01_glue_is_source_accessors : AccessorsKnown := by decide +kernel

/-- every `units.Quantity(…).to(…).magnitude` is dimensionally consistent; h: `_h` J·m → Ry·cm, k: `_k` eV/K → Ry/K,
`h_div_k`: `_h/_k` with units(h)/units(k) on both sides (the hypothesis h_div_k = h/k of the theorems above) -/
theorem c01_glue_is_source_units : UnitsKnown := by decide +kernel

/-- the off-diagonal class overrides exactly prefactors, mode_gamma, zero_point_contribution, thermal_contribution,
value_isothermal and inherits the rest (averaging, weights, Q, Q1, Q2 included) -/
theorem c01_glue_is_source_hierarchy : HierarchyKnown := by decide +kernel

/-- every function of the module and every method of its three classes is translated (tree / data) — the list is complete -/
theorem c01_glue_coverage_complete : CoverageComplete := by decide +kernel

/-- no module-level container (nothing a result could be cached in between calculators) -/
theorem c01_glue_no_module_state : NoModuleState := by decide +kernel

variable (h k hdk : ℝ) (na : ℕ) (S : List (List Mode)) (w : List ℝ)
variable (hh : 0 < h) (hk : 0 < k) (hhdk : hdk = h / k)
variable (hna : na ≠ 0) (hlen : ∀ row ∈ S, row.length = 3 * na) (hw : sumL w ≠ 0) (hS : GoodS S)

include hh hk hhdk hna hlen hw hS in
/-- **C01, longitudinal, on the source.**  `value_isothermal` ASSEMBLED FROM THE TRANSLATED PIECES (translated averaging tree and
method, translated prefactor expressions, wiring and broadcasting, translated `Q`, `Q1`, `Q2`, translated bodies, translated
T = 0 statement) at any grid point T ≥ 0, V > 0 equals A/(5e²) + P_ph/(3e) -/
theorem c01_longitudinal_source (T V e pst P cv : ℝ) (hT : 0 ≤ T) (hV : 0 < V) (he : e ≠ 0) :
    srcLong.valueIsothermalAt q1Src q2Src { h := h, k := k, hdk := hdk, na := na } w T P cv (sliceOf S V e e pst)
      = some (Aof (Fph h k T w S) V / (5 * e ^ 2) + Pof (Fph h k T w S) V / (3 * e)) := by
  rw [q1Src_eq, q2Src_eq, srcLong_valueIsothermal,
    c01_longitudinal h k hdk na S w hh hk hhdk hna hlen hw hS T V e pst hT hV he]

include hh hk hhdk hna hlen hw hS in
/-- **C01, off-diagonal, on the source.**  A/(15e_ie_j) + (P − P_static) -/
theorem c01_offdiagonal_source (T V ei ej P pst cv : ℝ) (hT : 0 ≤ T) (hV : 0 < V) (hei : ei ≠ 0) (hej : ej ≠ 0) :
    srcOff.valueIsothermalAt q1Src q2Src { h := h, k := k, hdk := hdk, na := na } w T P cv (sliceOf S V ei ej pst)
      = some (Aof (Fph h k T w S) V / (15 * (ei * ej)) + (P - pst)) := by
  rw [q1Src_eq, q2Src_eq, srcOff_valueIsothermal,
    c01_offdiagonal h k hdk na S w hh hk hhdk hna hlen hw hS T V ei ej P pst hT hV hei hej]

include hh hk hhdk hna hlen hw hS in
/-- zero-point and thermal part separately, on the source, both classes -/
theorem c01_parts_source (T V e0 e1 pst P cv : ℝ) (hT : 0 ≤ T) (hV : 0 < V) (he0 : e0 ≠ 0) (he1 : e1 ≠ 0) :
    srcLong.zeroPointAt q1Src q2Src { h := h, k := k, hdk := hdk, na := na } w T P cv (sliceOf S V e0 e1 pst)
      = some (Aof (Fzp h w S) V / (5 * (e0 * e1)) + Pof (Fzp h w S) V / (3 * e0)) ∧
    srcLong.thermalAt q1Src q2Src { h := h, k := k, hdk := hdk, na := na } w T P cv (sliceOf S V e0 e1 pst)
      = some (Aof (Fth h k T w S) V / (5 * (e0 * e1)) + Pof (Fth h k T w S) V / (3 * e0)) ∧
    srcOff.zeroPointAt q1Src q2Src { h := h, k := k, hdk := hdk, na := na } w T P cv (sliceOf S V e0 e1 pst)
      = some (Aof (Fzp h w S) V / (15 * (e0 * e1))) ∧
    srcOff.thermalAt q1Src q2Src { h := h, k := k, hdk := hdk, na := na } w T P cv (sliceOf S V e0 e1 pst)
      = some (Aof (Fth h k T w S) V / (15 * (e0 * e1))) := by
  rw [q1Src_eq, q2Src_eq, srcLong_zeroPoint, srcLong_thermal, srcOff_zeroPoint, srcOff_thermal]
  exact ⟨congrArg some (c01_longitudinal_zero_point h na S w hna hlen hw hS V e0 e1 pst hV he0 he1),
    congrArg some (c01_longitudinal_thermal h k hdk na S w hh hk hhdk hna hlen hw hS T V e0 e1 pst hT hV he0 he1),
    congrArg some (c01_offdiagonal_zero_point h na S w hna hlen hw hS V e0 e1 pst hV he0 he1),
    congrArg some (c01_offdiagonal_thermal h k hdk na S w hh hk hhdk hna hlen hw hS T V e0 e1 pst hT hV he0 he1)⟩

end GlueSource

/-- non-vacuity of the source evaluators: the translated averaging on a concrete 2-q-point array with weights (1, 3):
the three Γ-acoustic entries of the first q-point are ignored, the second q-point counts in full -/
example : Cij.NSGlue.srcLong.avg [[7, 7, 7, 3], [1, 1, 1, 1]] ([1, 3] : List ℝ) = some (15 / 16) := by
  rw [Cij.NSGlue.srcLong_avg]
  norm_num [averageOverModes, clearGamma, zeroFirst, mean, sumL]

/-- A temperature grid where T = 0 is the SECOND row and occurs twice -/
example : Cij.NSGlue.applyMasks Generated.NonShearGlue.masksThLong ([300, 0, 0] : List ℝ) [[1, 2], [3, 4], [5, 6]]
    = some [[1, 2], [0, 0], [0, 0]] := by
  rw [Cij.NSGlue.masks_gen.1, Cij.NSGlue.applyMasks_t0]
  simp

/-! #### ties shared with other properties

The statement of this property also rests on code whose translation is owned by another property's file; the theorems are restated
here so that this property's obligations are re-checked against those files too (a change there breaks THIS check's proof as well). -/

/-- the glue of `cij/core/mode_gamma.py` this property's statement rests on (which member of the returned triple is γ, which
V∂γ/∂V, the signs): every `interpolate_mode_*` function returns `(exp s, −s′, −s″)` as translated on this run -/
theorem c01_mode_glue_is_source : ∀ e ∈ Generated.modeReturnPattern, e.2 = Cij.Interp.canonicalPattern :=
  Cij.Interp.return_pattern_is_source

end Cij.C01
