/-
  C11 — every interpolation method returns a consistent (ω, γ, V∂γ/∂V) triple.

  The statements are about `CijModel/Interp.lean` (the model of `cij/core/mode_gamma.py`, of the wiring line in
  `calculator.py` and of `ModePlotter.plot_modes`), `CijModel/PPoly.lean` (scipy's pchip / akima classes) and the interpretation of
  the translated source by `CijModel/ModeGammaGlue.lean` — the same definitions the correspondence run executes.

  * `triple_consistent`            any interpolant `s` with derivative `s'`, `s''` (the library contract): the three returned
                                   arrays are ω = exp(s(ln V)), γ = −dlnω/dlnV, V∂γ/∂V of that ONE ω.
  * `polyder_is_derivative`        numpy.polyder/polyval on coefficient lists vs `HasDerivAt`.
  * `poly_methods_consistent`      lsq_poly / lagrange / krogh: the contract holds unconditionally (for all data).
  * `lsq_minimises`, `lsq_exact`   the normal-equation solution is the least-squares polynomial, and it IS the generating
                                   polynomial when ln ω is a polynomial of degree ≤ order on ≥ order+1 distinct volumes.
  * `elimination_total`, `lsq_total`, `lsq_exact_kernel`, `lsq_poly_law_exact`
                                   the Gaussian elimination of the model (first non-zero pivot) answers on every non-singular
                                   system and its answer solves it; the normal equations of ≥ order+1 distinct volumes are
                                   non-singular, so `lstsqPolyfit` ALWAYS answers there (any data) and returns the generating
                                   polynomial on polynomial data — no assumption on the solver is left.
  * `interp_poly_is_the_interpolant`, `interp_poly_exact`   lagrange/krogh kernel = THE interpolating polynomial.
  * `power_law_exact_*`            power-law data are reproduced exactly at every V > 0 (whole extrapolated grid).
  * `modes_not_mixed`, `gamma_acoustic_zero`                index discipline of the double loop.
  * `plot_select`, `plot_modes_draws_select`   n = 0, 1, 2 draw ω, γ, V∂γ/∂V (true of the code since /repo 17c4262, which repaired
                                   an n = 1 / n = 2 swap; `plot_select_not_swapped` excludes that defect).
  * `hermite_raises`               the `hermite` method cannot return (negative result).
  * `ppoly_*`, `pchip_*`, `power_law_exact_ppoly*`   pchip / akima: scipy's PchipInterpolator / Akima1DInterpolator are MODELLED (`CijModel/PPoly.lean`:
                                   slope rules, Hermite pieces in PPoly's power basis, piece location with extrapolation) — the interpolant takes the node
                                   values; `nu=1` is the derivative of `nu=0` everywhere (C¹, node slope from both sides), `nu=2` of `nu=1` off the interior
                                   nodes; hence `triple_consistent`'s conclusion for the returned triple with NO contract assumption
                                   (`ppoly_mode_consistent`); PCHIP slope sign/size (0 at a sign change, else common sign and ≤ 3·min|secant|; ends too) and
                                   the Fritsch–Carlson consequence (monotone data ⇒ monotone interpolant on the node range); power laws reproduced exactly.
  * `mode_glue_is_source`          the triple pattern `(exp s, −s', −s'')` and the node preparation (thin / flip) of the model are the ones
                                   the translator extracts from `mode_gamma.py` on this run (Generated/ModeGammaSpec.lean).

  * `mode_glue_src_*`              EVERY function of `mode_gamma.py` is re-translated on each run as statement lists / expression trees
                                   (`tools/gens/modegamma_src.py` → `Generated/ModeGammaGlue.lean`; locals α-renamed) and interpreted by
                                   `CijModel/ModeGammaGlue.lean` (Python values, numpy/scipy calls by NAME, the libraries as parameters): the model's
                                   `interpolateModeF` for every method and `interpolateModesF` for the double loop ARE that interpretation — all
                                   inputs, any scalar with ANY `ExpLog` pair (no law, no base), any kernels; the inventory is complete.
                                   The model raises what the source raises on malformed inputs (`…F` definitions of
                                   `CijModel/Interp.lean`: no volume → `ValueError` of `[::0]` for the thinning methods; a volume block without
                                   q-point j / mode k → `IndexError` at the first missing read in loop order), so the mode and loop theorems carry
                                   NO hypothesis on the input (`mode_glue_src_lagrange_krogh`, `…_ppoly`, `…_loop`,
                                   `…_one_fit_per_mode`); `mode_glue_src_wellformed`: on well-formed inputs `interpolateModesF` is the
                                   `interpolateModes` of the other theorems (and of C12 / C13).  The one hypothesis left — the kernel returns one
                                   sample per evaluation point — is proved for every modelled kernel (`mode_glue_src_kernels`) and remains for the
                                   FITPACK spline only (`mode_glue_src_loop_std`).

  PARTIAL (see the comments at the theorems): FITPACK (`spline`) internals are a parameter (contract measured by the harness).
  Rank-deficient least squares (fewer than order+1 distinct volumes; numpy: minimum-norm solution) is outside the model.
-/
import CijProofs.Lemmas.Interp
import CijProofs.Lemmas.ModeGammaSource
import CijProofs.Lemmas.SolveTotal
import CijProofs.Lemmas.PPoly
import CijProofs.Lemmas.PPolySource
import CijProofs.Lemmas.ModeGammaGlueSource
import Mathlib.Analysis.SpecialFunctions.Log.Deriv
import Mathlib.Analysis.SpecialFunctions.Pow.Real
import Mathlib.Analysis.Calculus.Deriv.Polynomial
import CijProofs.Lemmas.PlotModesSource

namespace Cij.C11

open Cij.Interp Polynomial

/-- `triple_consistent`, pointwise: only differentiability AT `ln V` is needed -/
theorem triple_consistent_at (s s' s'' : ℝ → ℝ) (V : ℝ) (hV : 0 < V) :
    (HasDerivAt s (s' (Real.log V)) (Real.log V) →
        HasDerivAt (fun v => Real.exp (s (Real.log v))) (-((-s' (Real.log V)) * Real.exp (s (Real.log V)) / V)) V) ∧
      (HasDerivAt s' (s'' (Real.log V)) (Real.log V) →
        HasDerivAt (fun v => -s' (Real.log v)) ((-s'' (Real.log V)) / V) V) := by
  have hlog : HasDerivAt Real.log V⁻¹ V := Real.hasDerivAt_log hV.ne'
  constructor
  · intro hs
    have h1 : HasDerivAt (fun v => s (Real.log v)) (s' (Real.log V) * V⁻¹) V := hs.comp V hlog
    refine h1.exp.congr_deriv ?_
    field_simp
  · intro hs'
    have h1 : HasDerivAt (fun v => s' (Real.log v)) (s'' (Real.log V) * V⁻¹) V := hs'.comp V hlog
    refine h1.neg.congr_deriv ?_
    field_simp

/-- For ANY log–log interpolant `s` with derivative `s'` and second derivative `s''` (this is all that is assumed of
scipy's spline / pchip / akima objects and their `nu=1`, `nu=2` evaluations): the model's output
`(exp s(ln V), −s'(ln V), −s''(ln V))` is `(ω, γ, g)` with `dω/dV = −γ ω / V` (i.e. γ = −dlnω/dlnV) and
`dγ/dV = g / V` (i.e. g = V ∂γ/∂V = dγ/dlnV), at every `V > 0`.  These are exactly the hypotheses C01/C02 make on
`freq_array`, `mode_gamma`. -/
theorem triple_consistent (s s' s'' : ℝ → ℝ) (hs : ∀ x, HasDerivAt s (s' x) x) (hs' : ∀ x, HasDerivAt s' (s'' x) x)
    (V : ℝ) (hV : 0 < V) :
    HasDerivAt (fun v => Real.exp (s (Real.log v)))
        (-((-s' (Real.log V)) * Real.exp (s (Real.log V)) / V)) V ∧
      HasDerivAt (fun v => -s' (Real.log v)) ((-s'' (Real.log V)) / V) V :=
  ⟨(triple_consistent_at s s' s'' V hV).1 (hs _), (triple_consistent_at s s' s'' V hV).2 (hs' _)⟩

example : ∀ x : ℝ, HasDerivAt (fun x => x ^ 2) (2 * x) x ∧ HasDerivAt (fun x : ℝ => 2 * x) 2 x := by
  intro x
  constructor
  · simpa using hasDerivAt_pow 2 x
  · simpa using (hasDerivAt_id x).const_mul (2 : ℝ)

/-- `polyval(polyder(p), x)` is the derivative of `x ↦ polyval(p, x)`; and `polyder(p, 2)` the second -/
theorem polyder_is_derivative (p : List ℝ) (x : ℝ) :
    HasDerivAt (polyval p) (polyval (polyder p) x) x ∧
      HasDerivAt (polyval (polyder p)) (polyval (polyderN 2 p) x) x := by
  have h (q : List ℝ) : HasDerivAt (polyval q) (polyval (polyder q) x) x := by
    have : polyval q = fun x => (toPoly q).eval x := funext (polyval_eq_eval q)
    rw [this, polyval_eq_eval, toPoly_polyder]
    exact (toPoly q).hasDerivAt x
  exact ⟨h p, by simpa [polyderN] using h (polyder p)⟩

example : polyder ([3, 0, 2, 5] : List ℚ) = [9, 0, 2] ∧ polyderN 2 ([3, 0, 2, 5] : List ℚ) = [18, 0] ∧
    polyval ([3, 0, 2, 5] : List ℚ) 2 = 33 := by
  refine ⟨?_, ?_, ?_⟩ <;> norm_num [polyder, polyderN, polyval]

section Lsq
variable {K : Type} [Field K] [LinearOrder K] [IsStrictOrderedRing K]

omit [LinearOrder K] [IsStrictOrderedRing K] in
/-- a row of `numpy.vander(xs, n)` dotted with the coefficient vector is Horner's value: `(V a)_r = polyval(a, x_r)`,
so `residuals` is `V a − y` -/
theorem vander_row_dot (x : K) (a : List K) : dot (powersDesc x a.length) a = polyval a x :=
  dot_powersDesc x a

omit [IsStrictOrderedRing K] in
/-- what the solver returns satisfies the normal equations (it is checked before it is returned) -/
theorem lsq_sound (xs ys : List K) (order : ℕ) (a : List K) (h : lstsqPolyfit xs ys order = some a) :
    normalEq xs ys order a = true := by
  unfold lstsqPolyfit at h
  simp only at h
  split at h
  · cases h
  · split at h
    · cases h; assumption
    · cases h

/-- a solution of the normal equations minimises the sum of squared residuals among all polynomials of degree ≤ order:
it IS numpy.linalg.lstsq's answer for a full-rank Vandermonde system -/
theorem lsq_minimises (xs ys : List K) (order : ℕ) (a b : List K) (ha : normalEq xs ys order a = true)
    (hb : b.length ≤ order + 1) :
    ((xs.zip ys).map fun p => (polyval a p.1 - p.2) ^ 2).sum ≤ ((xs.zip ys).map fun p => (polyval b p.1 - p.2) ^ 2).sum := by
  obtain ⟨hla, hmom⟩ := (normalEq_iff xs ys order a).mp ha
  have hdeg := natDegree_sub_toPoly_lt b a (order + 1) hb hla.le (Nat.succ_pos _)
  have hk := moments_kill (xs.zip ys) (fun p => p.1) (fun p => polyval a p.1 - p.2) (order + 1) hmom _ hdeg
  have hsplit : ((xs.zip ys).map fun p => (polyval b p.1 - p.2) ^ 2).sum
      = ((xs.zip ys).map fun p => (polyval a p.1 - p.2) ^ 2).sum
        + (((xs.zip ys).map fun p => (polyval b p.1 - polyval a p.1) ^ 2).sum
          + 2 * ((xs.zip ys).map fun p => (toPoly b - toPoly a).eval p.1 * (polyval a p.1 - p.2)).sum) := by
    rw [← List.sum_map_mul_left, ← List.sum_map_add, ← List.sum_map_add]
    congr 1
    refine List.map_congr_left fun p _ => ?_
    simp only [eval_sub, ← polyval_eq_eval]
    ring
  rw [hsplit, hk]
  have : 0 ≤ ((xs.zip ys).map fun p => (polyval b p.1 - polyval a p.1) ^ 2).sum :=
    List.sum_nonneg fun x hx => by
      obtain ⟨p, _, rfl⟩ := List.mem_map.mp hx
      exact sq_nonneg _
  linarith

/-- If `ln ω` is a polynomial `c` of degree ≤ order in `ln V` on the sampled volumes and there are at least
`order + 1` distinct volumes, then the normal equations have exactly one solution and it is `c` itself. -/
theorem lsq_exact (xs : List K) (order : ℕ) (c : List K) (hc : c.length = order + 1)
    (hdist : order + 1 ≤ xs.toFinset.card) :
    normalEq xs (xs.map (polyval c)) order c = true ∧
      ∀ a, normalEq xs (xs.map (polyval c)) order a = true → a = c := by
  constructor
  · rw [normalEq_iff]
    refine ⟨hc, fun k _ => ?_⟩
    rw [← List.map_prod_left_eq_zip, List.map_map]
    simp [Function.comp_def]
  · intro a ha
    obtain ⟨hla, hmom⟩ := (normalEq_iff _ _ order a).mp ha
    simp only [← List.map_prod_left_eq_zip, List.map_map, Function.comp_def] at hmom
    have hD0 : toPoly a - toPoly c = 0 :=
      eq_zero_of_moments_eq_zero xs _ (order + 1) (natDegree_sub_toPoly_lt a c _ hla.le hc.le (Nat.succ_pos _)) hdist
        (by simpa only [eval_sub, polyval_eq_eval] using hmom)
    exact toPoly_injective a c (hla.trans hc.symm) (sub_eq_zero.mp hD0)

omit [LinearOrder K] [IsStrictOrderedRing K] in
/-- The model's Gaussian elimination `solve` (pivot = first row with a non-zero leading entry) on an
`n × (n+1)` augmented system `[A | b]` over a field: if `A y = 0` has only the zero solution, `solve` ANSWERS, and its answer
`x` has `n` entries and satisfies `A x = b` row by row.  (Converse direction `solve_none_kernel`: no answer ⇒ a non-zero kernel
vector exists; `solve_sound`: every answer solves the system.) -/
theorem elimination_total [DecidableEq K] (n : ℕ) (rows : List (List K)) (hlen : rows.length = n)
    (hw : ∀ r ∈ rows, r.length = n + 1)
    (hker : ∀ y : List K, y.length = n → (∀ r ∈ rows, dot r (y ++ [0]) = 0) → y = List.replicate n 0) :
    ∃ x, solve n rows = some x ∧ x.length = n ∧ ∀ r ∈ rows, dot (r.take n) x = r.getD n 0 :=
  solve_total n rows hlen hw hker

/-- For ANY data `ys` on abscissae `xs` with at least `order + 1` distinct values, `lstsq_polyfit` answers: the
normal matrix `VᵀV` is non-singular (`Σ_r p(x_r)² = 0` forces `p = 0`: root counting), so the elimination finds the solution
and the certificate `normalEq` passes.  With `lsq_minimises` the answer is THE least-squares polynomial. -/
theorem lsq_total (xs ys : List K) (order : ℕ) (hl : xs.length = ys.length) (hdist : order + 1 ≤ xs.toFinset.card) :
    ∃ a, lstsqPolyfit xs ys order = some a ∧ normalEq xs ys order a = true :=
  lstsqPolyfit_total xs ys order hl hdist

/-- If `ln ω` is a polynomial `c` of degree ≤ order on ≥ order + 1 distinct abscissae, the executable
solver returns `c` itself, hence the kernel returns value, first and second derivative of `c` at EVERY evaluation point (the
whole extrapolated grid).  Unconditional: the solver's totality is `lsq_total`. -/
theorem lsq_exact_kernel (xs pts : List K) (order : ℕ) (c : List K) (hc : c.length = order + 1)
    (hdist : order + 1 ≤ xs.toFinset.card) :
    lstsqPolyfit xs (xs.map (polyval c)) order = some c ∧
      lsqInterpolant order xs (xs.map (polyval c)) pts
        = .ok (pts.map fun x => (polyval c x, polyval (polyder c) x, polyval (polyderN 2 c) x)) := by
  obtain ⟨a, ha, hne⟩ := lsq_total xs (xs.map (polyval c)) order (by simp) hdist
  have hac := (lsq_exact xs order c hc hdist).2 a hne
  subst hac
  refine ⟨ha, ?_⟩
  unfold lsqInterpolant
  rw [ha]

end Lsq

example : lstsqPolyfit ([0, 1, 2, 3] : List ℚ) [1, 3, 7, 13] 2 = some [1, 1, 1] := by decide +kernel
example : ([0, 1, 2, 3] : List ℚ).map (polyval [1, 1, 1]) = [1, 3, 7, 13] ∧ 2 + 1 ≤ ([0, 1, 2, 3] : List ℚ).toFinset.card := by
  decide +kernel
/-- a genuinely over-determined fit with non-zero residual (an instance of `lsq_total`: 4 data, 4 ≥ 1 + 1 distinct abscissae) -/
example : lstsqPolyfit ([0, 1, 2, 3] : List ℚ) [0, 1, 0, 1] 1 = some [1 / 5, 1 / 5] := by decide +kernel
example : ([0, 1, 2, 3] : List ℚ).length = ([0, 1, 0, 1] : List ℚ).length ∧ 1 + 1 ≤ ([0, 1, 2, 3] : List ℚ).toFinset.card := by
  decide +kernel
/-- `elimination_total`: a non-singular system whose first pivot candidate is zero (the row search matters); and a singular
one, on which the elimination does not answer -/
example : solve 2 ([[0, 1, 3], [2, 1, 5]] : List (List ℚ)) = some [1, 3] ∧
    solve 2 ([[1, 2, 3], [2, 4, 5]] : List (List ℚ)) = none := by decide +kernel
/-- the hypothesis `order + 1 ≤ #distinct` of `lsq_total` is needed: with 2 distinct abscissae a parabola is not determined,
the normal matrix is singular and the model does not answer -/
example : lstsqPolyfit ([1, 2, 1, 2] : List ℚ) [1, 2, 3, 4] 2 = none := by decide +kernel

section Newton
variable {K : Type} [Field K] [DecidableEq K]

/-- For ANY data on distinct nodes the kernel's polynomial (i) passes through every node, (ii) has degree < number of nodes,
and (iii) is the only such polynomial. -/
theorem interp_poly_is_the_interpolant (xs ys : List K) (hlen : xs.length = ys.length) (hnd : xs.Nodup) :
    let P := newtonPoly (newtonBuild (xs.zip ys) [])
    (∀ p ∈ xs.zip ys, (newtonEval (newtonBuild (xs.zip ys) []) p.1).1 = p.2) ∧
      P.natDegree ≤ xs.length - 1 ∧
      ∀ Q : K[X], Q.natDegree < xs.length → (∀ p ∈ xs.zip ys, Q.eval p.1 = p.2) → Q = P := by
  intro P
  have hz : (xs.zip ys).map Prod.fst = xs := by
    rw [List.map_fst_zip]; omega
  have hb := newtonBuild_interp (xs.zip ys) [] [] rfl (by simp) (by simpa [hz] using hnd)
  simp only [List.nil_append, List.length_nil, zero_add, List.length_zip, hlen, min_self] at hb
  have hP : P.natDegree ≤ xs.length - 1 := by
    have := natDegree_newtonPoly_le (newtonBuild (xs.zip ys) [])
    rwa [hb.2, ← hlen] at this
  refine ⟨fun p hp => by rw [newtonEval_eq]; exact hb.1 p hp, hP, fun Q hQ hQi => ?_⟩
  · have hdeg : (Q - P).natDegree < xs.toFinset.card := by
      rw [List.toFinset_card_of_nodup hnd]
      exact lt_of_le_of_lt (natDegree_sub_le _ _) (max_lt hQ (lt_of_le_of_lt hP (by omega)))
    have hroot : ∀ x ∈ xs.toFinset, (Q - P).eval x = 0 := by
      intro x hx
      have hx' : x ∈ (xs.zip ys).map Prod.fst := by rw [hz]; exact List.mem_toFinset.mp hx
      obtain ⟨p, hp, rfl⟩ := List.mem_map.mp hx'
      rw [eval_sub, hQi p hp, hb.1 p hp, sub_self]
    exact sub_eq_zero.mp (eq_zero_of_natDegree_lt_card_of_eval_eq_zero' _ _ hroot hdeg)

/-- If `ln ω` is a polynomial `c` with fewer coefficients than (thinned) nodes — degree < number of
nodes; a power law has degree 1 — the lagrange/krogh kernel returns `c`'s value, first and second derivative at EVERY
evaluation point (the whole extrapolated grid). -/
theorem interp_poly_exact (xs pts : List K) (c : List K) (hnd : xs.Nodup) (hc : c.length ≤ xs.length)
    (hpos : 0 < xs.length) :
    newtonInterpolant xs (xs.map (polyval c)) pts
      = .ok (pts.map fun x => (polyval c x, polyval (polyder c) x, polyval (polyderN 2 c) x)) := by
  have h := interp_poly_is_the_interpolant xs (xs.map (polyval c)) (by simp) hnd
  have hQ := h.2.2 (toPoly c) (natDegree_toPoly_lt c _ hc hpos) (by
    intro p hp
    rw [← List.map_prod_left_eq_zip] at hp
    obtain ⟨x, _, rfl⟩ := List.mem_map.mp hp
    exact (polyval_eq_eval c x).symm)
  unfold newtonInterpolant
  simp only [Except.ok.injEq]
  refine List.map_congr_left fun x _ => ?_
  rw [newtonEval_eq, ← hQ]
  simp [polyval_eq_eval, toPoly_polyder, polyderN]

end Newton

example : newtonInterpolant ([1, 2, 4] : List ℚ) [1, 4, 16] [3, 5]
    = .ok [(9, 6, 2), (25, 10, 2)] := by decide +kernel

/-- `lsq_poly`, `lagrange`, `krogh`: whatever the data, the three sample functions of the kernel are one polynomial function
`s`, its derivative and its second derivative — so `triple_consistent` applies with no further assumption. -/
theorem poly_methods_consistent :
    (∀ a : List ℝ, ∀ x, HasDerivAt (polyval a) (polyval (polyder a) x) x ∧
        HasDerivAt (polyval (polyder a)) (polyval (polyderN 2 a) x) x) ∧
    (∀ nodes : List (ℝ × ℝ), ∀ x,
        HasDerivAt (fun x => (newtonEval nodes x).1) (newtonEval nodes x).2.1 x ∧
        HasDerivAt (fun x => (newtonEval nodes x).2.1) (newtonEval nodes x).2.2 x) := by
  refine ⟨fun a x => polyder_is_derivative a x, fun nodes x => ?_⟩
  simp only [newtonEval_eq]
  exact ⟨(newtonPoly nodes).hasDerivAt x, (derivative (newtonPoly nodes)).hasDerivAt x⟩

/-- **power-law exactness** for any kernel that is exact on degree-1 polynomials on the given nodes (`lsq_exact_kernel` with
order ≥ 1 — see `power_law_exact_lsq` —, `interp_poly_exact` with ≥ 2 nodes): the model returns `(ω₀ (V/V₀)^(−γ), γ, 0)` at every
`V > 0` of the grid, inside or outside the sampled range. -/
theorem power_law_exact (I : Interpolant ℝ) (nodeVols vArray : List ℝ) (w0 V0 g : ℝ) (hw : 0 < w0) (hV0 : 0 < V0)
    (hnodes : ∀ V ∈ nodeVols, 0 < V) (hgrid : ∀ V ∈ vArray, 0 < V)
    (hI : ∀ c : List ℝ, c.length = 2 → I (nodeVols.map Real.log) ((nodeVols.map Real.log).map (polyval c)) (vArray.map Real.log)
        = .ok ((vArray.map Real.log).map fun x => (polyval c x, polyval (polyder c) x, polyval (polyderN 2 c) x))) :
    finishMode I nodeVols (nodeVols.map fun V => w0 * (V / V0) ^ (-g)) vArray
      = .ok (vArray.map fun V => (w0 * (V / V0) ^ (-g), g, 0)) := by
  set c : List ℝ := [-g, Real.log w0 + g * Real.log V0] with hc
  have hpl : ∀ V, 0 < V → w0 * (V / V0) ^ (-g) = Real.exp (polyval c (Real.log V)) := fun V hV => by
    rw [← power_law_log w0 V0 g V hw hV0 hV, Real.exp_log (mul_pos hw (Real.rpow_pos_of_pos (div_pos hV hV0) _))]
  rw [List.map_congr_left fun V hV => hpl V (hnodes V hV), finishMode_poly_law I nodeVols vArray c (hI c rfl)]
  simp only [Except.ok.injEq]
  refine List.map_congr_left fun V hVm => ?_
  rw [hpl V (hgrid V hVm)]
  simp [hc, polyder, polyderN, polyval]

/-- lagrange / krogh on ≥ 2 distinct positive node volumes reproduce a power law exactly on the whole grid -/
theorem power_law_exact_interp_poly (nodeVols vArray : List ℝ) (w0 V0 g : ℝ) (hw : 0 < w0) (hV0 : 0 < V0)
    (hnodes : ∀ V ∈ nodeVols, 0 < V) (hgrid : ∀ V ∈ vArray, 0 < V) (hnd : nodeVols.Nodup) (h2 : 2 ≤ nodeVols.length) :
    finishMode newtonInterpolant nodeVols (nodeVols.map fun V => w0 * (V / V0) ^ (-g)) vArray
      = .ok (vArray.map fun V => (w0 * (V / V0) ^ (-g), g, 0)) := by
  classical
  refine power_law_exact _ nodeVols vArray w0 V0 g hw hV0 hnodes hgrid fun c hc => ?_
  refine interp_poly_exact _ _ c ?_ (by simp [hc, h2]) (by simp; omega)
  refine (List.nodup_map_iff_inj_on hnd).mpr fun a ha b hb hab => ?_
  exact Real.log_injOn_pos (Set.mem_Ioi.mpr (hnodes a ha)) (Set.mem_Ioi.mpr (hnodes b hb)) hab

/-- `lsq_poly`: if ln ω is a polynomial `c` of degree ≤ order in ln V (a power law: leading coefficients 0) on ≥ order+1 distinct
positive volumes, the returned triple is `(exp c(ln V), −c'(ln V), −c''(ln V))` at EVERY grid volume — the exact ω, γ and V∂γ/∂V of the
generating law, inside and outside the sampled range.  No assumption on the solver (`lsq_total`). -/
theorem lsq_poly_law_exact (vols vArray : List ℝ) (order : ℕ) (c : List ℝ) (hc : c.length = order + 1)
    (hpos : ∀ V ∈ vols, 0 < V) (hdist : order + 1 ≤ vols.toFinset.card) :
    interpolateMode .lsqPoly order (kernelOf .lsqPoly order (fun _ _ _ => .error .valueError)) vols
        (vols.map fun V => Real.exp (polyval c (Real.log V))) vArray
      = .ok (vArray.map fun v => (Real.exp (polyval c (Real.log v)), -polyval (polyder c) (Real.log v),
          -polyval (polyderN 2 c) (Real.log v))) := by
  have hk := (lsq_exact_kernel (vols.map Real.log) (vArray.map Real.log) order c hc
    (by rw [log_nodes_card vols hpos]; exact hdist)).2
  rw [interpolateMode_lsqPoly]
  exact finishMode_poly_law _ vols vArray c hk

/-- `lsq_poly` on ≥ 2 distinct positive volumes (any order ≥ 1) reproduces a power law `ω = ω₀ (V/V₀)^(−γ)` exactly on the whole
grid: `(ω, γ, V∂γ/∂V) = (ω₀ (V/V₀)^(−γ), γ, 0)` -/
theorem power_law_exact_lsq (nodeVols vArray : List ℝ) (w0 V0 g : ℝ) (hw : 0 < w0) (hV0 : 0 < V0)
    (hnodes : ∀ V ∈ nodeVols, 0 < V) (hgrid : ∀ V ∈ vArray, 0 < V) (h2 : 2 ≤ nodeVols.toFinset.card) :
    finishMode (lsqInterpolant 1) nodeVols (nodeVols.map fun V => w0 * (V / V0) ^ (-g)) vArray
      = .ok (vArray.map fun V => (w0 * (V / V0) ^ (-g), g, 0)) := by
  refine power_law_exact _ nodeVols vArray w0 V0 g hw hV0 hnodes hgrid fun c hc => ?_
  exact (lsq_exact_kernel (nodeVols.map Real.log) (vArray.map Real.log) 1 c hc
    (by rw [log_nodes_card nodeVols hnodes]; exact h2)).2

/-- the hypotheses of `lsq_poly_law_exact` / `power_law_exact_lsq` are satisfiable: three distinct positive volumes, order 1
or 2, a power law (leading coefficient 0 for order 2) -/
example : (∀ V ∈ ([3, 2, 1] : List ℝ), 0 < V) ∧ 2 + 1 ≤ ([3, 2, 1] : List ℝ).toFinset.card ∧
    ([0, -3 / 2, 5] : List ℝ).length = 2 + 1 := by
  refine ⟨by norm_num, ?_, rfl⟩
  rw [List.toFinset_card_of_nodup (by norm_num)]
  rfl

/-- `lagrange` / `krogh`: if ln ω is a polynomial `c` of degree < number of thinned nodes (power law: degree 1, needs 2 nodes) on
distinct positive volumes, the returned triple is exact at EVERY grid volume.  No further assumption. -/
theorem interp_poly_law_exact (m : Method) (hm : m = .lagrange ∨ m = .krogh) (order : ℕ) (ho : order ≠ 0)
    (vols vArray : List ℝ) (c : List ℝ) (hpos : ∀ V ∈ vols, 0 < V) (hnd : vols.Nodup)
    (hc : c.length ≤ (thin order vols).length) (hne : 0 < (thin order vols).length) :
    interpolateMode m order (kernelOf m order (fun _ _ _ => .error .valueError)) vols
        (vols.map fun V => Real.exp (polyval c (Real.log V))) vArray
      = .ok (vArray.map fun v => (Real.exp (polyval c (Real.log v)), -polyval (polyder c) (Real.log v),
          -polyval (polyderN 2 c) (Real.log v))) := by
  classical
  set nv := (thin order vols).reverse with hnv
  have hposn : ∀ V ∈ nv, 0 < V := fun V hV => hpos V (thin_subset order vols V (List.mem_reverse.mp hV))
  have hndn : (nv.map Real.log).Nodup :=
    (List.nodup_map_iff_inj_on (List.nodup_reverse.mpr (thin_nodup order vols hnd))).mpr fun a ha b hb hab =>
      Real.log_injOn_pos (Set.mem_Ioi.mpr (hposn a ha)) (Set.mem_Ioi.mpr (hposn b hb)) hab
  have hk := interp_poly_exact (nv.map Real.log) (vArray.map Real.log) c hndn (by simpa [hnv] using hc)
    (by simpa [hnv] using hne)
  have hthin : (thin order (vols.map fun V => Real.exp (polyval c (Real.log V)))).reverse
      = nv.map fun V => Real.exp (polyval c (Real.log V)) := by
    rw [thin_map, hnv, List.map_reverse]
  have hkern : kernelOf m order (fun _ _ _ => .error .valueError : Interpolant ℝ) = newtonInterpolant := by
    rcases hm with rfl | rfl <;> rfl
  rw [interpolateMode_thinned m (hm.imp_right Or.inl) order ho, hkern, hthin]
  exact finishMode_poly_law _ nv vArray c hk

/-- the hypotheses of `interp_poly_law_exact` are satisfiable: three volumes, order 2 keeps the two end volumes, enough for a
power law (two coefficients) -/
example : (thin 2 ([3, 2, 1] : List ℝ)).length = 2 ∧ ([3, 2, 1] : List ℝ).Nodup ∧ ∀ V ∈ ([3, 2, 1] : List ℝ), 0 < V := by
  refine ⟨by decide, by norm_num, by norm_num⟩

section PPolyField
open Cij.PPoly
variable {K : Type} [Field K] [LinearOrder K] [IsStrictOrderedRing K]

/-- **the interpolant takes the node values.**  On any strictly increasing nodes (≥ 2), for arbitrary values: whatever the node
slopes, the `nu = 0` evaluation at node `x_i` is `y_i` (a query at an interior node is evaluated on the piece to its right, at the
last node on the last piece — both give `y_i`); in particular `PchipInterpolator(x, y)(x) = y` and `Akima1DInterpolator(x, y)(x) = y`. -/
theorem ppoly_interpolates_nodes (xs ys : List K) (h : xs.Pairwise (· < ·)) (hn : 2 ≤ xs.length) (hl : xs.length = ys.length) :
    (∀ ds : List K, ∀ i, i < xs.length → evalAt xs ys ds 0 (xs.getD i 0) = some (ys.getD i 0)) ∧
      (∃ r, pchipInterpolant xs ys xs = .ok r ∧ r.map (·.1) = ys) ∧
      (∃ r, akimaInterpolant xs ys xs = .ok r ∧ r.map (·.1) = ys) :=
  ⟨fun ds i hi => (evalAt_node xs ys ds h i hi hn).1, hermiteInterpolant_nodes _ xs ys h hn hl,
    hermiteInterpolant_nodes _ xs ys h hn hl⟩

/-- the constructor refuses exactly what scipy's `prepare_input` refuses (over an ordered field: fewer than two nodes, different
lengths, abscissae not strictly increasing) with `ValueError`, and otherwise answers for every query list -/
theorem ppoly_answers_iff (xs ys pts : List K) :
    ((∃ r, pchipInterpolant xs ys pts = .ok r) ↔ 2 ≤ xs.length ∧ xs.length = ys.length ∧ xs.Pairwise (· < ·)) ∧
      ((∃ r, akimaInterpolant xs ys pts = .ok r) ↔ 2 ≤ xs.length ∧ xs.length = ys.length ∧ xs.Pairwise (· < ·)) := by
  have key : ∀ slopes : List K → List K → List K,
      (∃ r, hermiteInterpolant slopes xs ys pts = .ok r) ↔ 2 ≤ xs.length ∧ xs.length = ys.length ∧ xs.Pairwise (· < ·) := by
    intro slopes
    rw [← validNodes_iff]
    constructor
    · rintro ⟨r, hr⟩
      by_contra hv
      simp [hermiteInterpolant, hv] at hr
    · intro hv
      obtain ⟨hn, hl, hp⟩ := (validNodes_iff xs ys).mp hv
      exact ⟨_, hermiteInterpolant_eq slopes xs ys pts hp hn hl⟩
  exact ⟨key _, key _⟩

/-- **PCHIP, interior node `k`** (secants `a = m_{k-1}`, `b = m_k` of the adjacent pieces): the slope is `0` when the secants have
opposite signs or one vanishes; otherwise it has their common sign and `|d| ≤ 3·min(|a|, |b|)`. -/
theorem pchip_interior_slope (xs ys : List K) (h : xs.Pairwise (· < ·)) (k : ℕ) (h0 : 0 < k) (hk : k + 1 < xs.length) :
    (mAt xs ys (k - 1) * mAt xs ys k ≤ 0 → (pchipSlopes xs ys).getD k 0 = 0) ∧
      (0 < mAt xs ys (k - 1) → 0 < mAt xs ys k → 0 < (pchipSlopes xs ys).getD k 0) ∧
      (mAt xs ys (k - 1) < 0 → mAt xs ys k < 0 → (pchipSlopes xs ys).getD k 0 < 0) ∧
      |(pchipSlopes xs ys).getD k 0| ≤ 3 * min |mAt xs ys (k - 1)| |mAt xs ys k| := by
  rw [pchipSlopes_getD xs ys k (by omega), pchipSlopeAt_interior xs ys k h0 hk]
  have hh0 := hAt_pos xs h (k - 1) (by omega)
  have hh1 := hAt_pos xs h k hk
  refine ⟨pchipInterior_zero _ _ _ _, fun a b => (pchipInterior_pos _ _ _ _ hh0 hh1 a b).1,
    fun a b => (pchipInterior_neg _ _ _ _ hh0 hh1 a b).1, ?_⟩
  obtain ⟨⟨-, b0⟩, ⟨-, b1⟩⟩ := pchipInterior_shape (hAt xs (k - 1)) (hAt xs k) (mAt xs ys (k - 1)) (mAt xs ys k) hh0 hh1
  rcases le_total |mAt xs ys (k - 1)| |mAt xs ys k| with hle | hle
  · rwa [min_eq_left hle]
  · rwa [min_eq_right hle]

/-- **PCHIP, every node incl. both ends, every piece** `[x_i, x_{i+1}]` with secant `Δ_i`: both end slopes of the piece never
oppose `Δ_i` and are at most `3|Δ_i|` in size (the Fritsch–Carlson box) — for all data, the `_edge_case` corrections included. -/
theorem pchip_slopes_in_box (xs ys : List K) (h : xs.Pairwise (· < ·)) (i : ℕ) (hi : i + 2 ≤ xs.length) :
    (0 ≤ (pchipSlopes xs ys).getD i 0 * mAt xs ys i ∧ |(pchipSlopes xs ys).getD i 0| ≤ 3 * |mAt xs ys i|) ∧
      (0 ≤ (pchipSlopes xs ys).getD (i + 1) 0 * mAt xs ys i ∧ |(pchipSlopes xs ys).getD (i + 1) 0| ≤ 3 * |mAt xs ys i|) := by
  rw [pchipSlopes_getD xs ys i (by omega), pchipSlopes_getD xs ys (i + 1) (by omega)]
  exact pchipSlopeAt_shape xs ys h i hi

/-- **affine data** (`ln ω` affine in `ln V`: a power law) are reproduced exactly by both interpolators at EVERY query point —
inside, at nodes, in both extrapolated regions: value `a q + b`, first derivative `a`, second derivative `0`. -/
theorem ppoly_affine_exact (xs pts : List K) (h : xs.Pairwise (· < ·)) (hn : 2 ≤ xs.length) (a b : K) :
    pchipInterpolant xs (xs.map fun x => a * x + b) pts = .ok (pts.map fun q => (a * q + b, a, 0)) ∧
      akimaInterpolant xs (xs.map fun x => a * x + b) pts = .ok (pts.map fun q => (a * q + b, a, 0)) :=
  ⟨hermiteInterpolant_affine _ xs pts h hn a b (pchipSlopes_affine xs h hn a b),
    hermiteInterpolant_affine _ xs pts h hn a b (akimaSlopes_affine xs h hn a b)⟩

/-- non-vacuity and a worked instance over ℚ (nodes 0,1,3,4,6; values 0,2,3,1,1: a secant sign change at x = 3, a flat last piece):
PCHIP slopes — end rule 5/2, harmonic mean 6/7, then 0 at the sign change and at the flat piece; Akima slopes; the model refuses
non-increasing abscissae -/
example : pchipSlopes ([0, 1, 3, 4, 6] : List ℚ) [0, 2, 3, 1, 1] = [5 / 2, 6 / 7, 0, 0, 0] ∧
    akimaSlopes ([0, 1, 3, 4, 6] : List ℚ) [0, 2, 3, 1, 1] = [11 / 4, 23 / 16, -4 / 7, -8 / 9, 1] ∧
    pchipInterpolant ([0, 1, 3, 4, 6] : List ℚ) [0, 2, 3, 1, 1] [-1, 1 / 2, 3, 7]
      = .ok [(-12 / 7, 2 / 7, 29 / 7), (135 / 112, 121 / 56, -23 / 14), (3, 0, -12), (1, 0, 0)] ∧
    pchipInterpolant ([1, 2, 2] : List ℚ) [3, 5, 9] [0] = .error .valueError := by decide +kernel

/-- Akima's fallback `t = ½(m[i+3] + m[i])` where both weights vanish (node 2: secants 1,1 to the left, 0,0 to the right → ½), and
the 2-node special case of both classes (the secant at both nodes: a straight line) -/
example : akimaSlopes ([0, 1, 2, 3, 4, 5] : List ℚ) [0, 1, 2, 2, 2, 2] = [1, 1, 1 / 2, 0, 0, 0] ∧
    (List.range 6).map (akimaF12 ([0, 1, 2, 3, 4, 5] : List ℚ) [0, 1, 2, 2, 2, 2]) = [0, 1, 0, 1, 0, 0] ∧
    pchipInterpolant ([1, 2] : List ℚ) [3, 5] [0, 3 / 2, 4] = .ok [(1, 2, 0), (4, 2, 0), (9, 2, 0)] ∧
    akimaInterpolant ([1, 2, 4] : List ℚ) [3, 5, 9] [0, 3] = .ok [(1, 2, 0), (7, 2, 0)] := by decide +kernel

/-- piece location: a query at an interior node belongs to the piece on its right, at the last node (and beyond) to the last piece,
left of the first node to the first piece -/
example : locate ([0, 1, 3, 4, 6] : List ℚ) 3 = some 2 ∧ locate ([0, 1, 3, 4, 6] : List ℚ) 6 = some 3 ∧
    locate ([0, 1, 3, 4, 6] : List ℚ) 9 = some 3 ∧ locate ([0, 1, 3, 4, 6] : List ℚ) (-5) = some 0 := by decide +kernel

end PPolyField

section PPolyReal
open Cij.PPoly

/-- **the derivative contract of the piecewise cubic, proved** (any node slopes `ds`, so for PCHIP and Akima alike; `spline … nu`
is the function `interp(·, nu, extrapolate=True)` computes):
1. the `nu = 1` evaluation is the derivative of the `nu = 0` evaluation at EVERY point — inside pieces, in both extrapolated
   regions, and at the nodes (C¹);
2. the `nu = 2` evaluation is the derivative of the `nu = 1` evaluation at every point that is not an interior node (strictly inside
   a piece, both extrapolated regions, the two end nodes);
3. at an interior node `x_{j+1}` the pieces on BOTH sides have first derivative `dydx[j+1]`, which is also the `nu = 1` evaluation
   there, and the `nu = 1` function is continuous there. -/
theorem ppoly_derivative_contract (xs ys ds : List ℝ) (h : xs.Pairwise (· < ·)) (hn : 2 ≤ xs.length) :
    (∀ q, HasDerivAt (spline xs ys ds 0) (spline xs ys ds 1 q) q) ∧
      (∀ q, (∀ j, j + 3 ≤ xs.length → q ≠ xs.getD (j + 1) 0) →
        HasDerivAt (spline xs ys ds 1) (spline xs ys ds 2 q) q) ∧
      (∀ j, j + 3 ≤ xs.length →
        (pieceAt xs ys ds j).eval 1 (xs.getD (j + 1) 0) = ds.getD (j + 1) 0 ∧
        (pieceAt xs ys ds (j + 1)).eval 1 (xs.getD (j + 1) 0) = ds.getD (j + 1) 0 ∧
        spline xs ys ds 1 (xs.getD (j + 1) 0) = ds.getD (j + 1) 0 ∧
        ContinuousAt (spline xs ys ds 1) (xs.getD (j + 1) 0)) := by
  refine ⟨spline_hasDerivAt_everywhere xs ys ds h hn, fun q hq => (spline_hasDerivAt_offnode xs ys ds h hn q hq).2, fun j hj => ?_⟩
  obtain ⟨a, b, -, c⟩ := spline_C1_at_node xs ys ds h j hj
  exact ⟨a, b, (spline_node xs ys ds h (j + 1) (by omega) hn).2, c⟩

/-- the glued function IS what the model's kernels return, for any query list -/
theorem ppoly_kernel_is_spline (xs ys pts : List ℝ) (h : xs.Pairwise (· < ·)) (hn : 2 ≤ xs.length) (hl : xs.length = ys.length) :
    pchipInterpolant xs ys pts = .ok (pts.map fun q =>
        (spline xs ys (pchipSlopes xs ys) 0 q, spline xs ys (pchipSlopes xs ys) 1 q, spline xs ys (pchipSlopes xs ys) 2 q)) ∧
      akimaInterpolant xs ys pts = .ok (pts.map fun q =>
        (spline xs ys (akimaSlopes xs ys) 0 q, spline xs ys (akimaSlopes xs ys) 1 q, spline xs ys (akimaSlopes xs ys) 2 q)) :=
  ⟨hermiteInterpolant_eq_spline _ xs ys pts h hn hl, hermiteInterpolant_eq_spline _ xs ys pts h hn hl⟩

/-- **`interpolate_mode_ppoly` returns a consistent triple — no contract assumption.**  For `pchip` and `akima`, any
order ≥ 1, positive strictly decreasing sampled volumes (file order) of which the thinning keeps at least two, ARBITRARY frequencies and
any grid: with `s = spline` on the nodes the code hands to scipy (thinned `[::ceil(nv/order)]`, flipped, logged),
* the model returns exactly `(exp s(ln V), −s'(ln V), −s''(ln V))` on the grid;
* at EVERY `V > 0`: `dω/dV = −γ ω / V`  (γ = −dlnω/dlnV: the second array belongs to the first);
* at every `V > 0` whose `ln V` is not an interior node: `dγ/dV = g / V`  (g = V∂γ/∂V: the third array belongs to the second).
These are the conclusions of `triple_consistent`; its hypotheses are theorems here (`ppoly_derivative_contract`). -/
theorem ppoly_mode_consistent (m : Method) (hm : m = .pchip ∨ m = .akima) (order : ℕ) (ho : order ≠ 0) (lib : Interpolant ℝ)
    (vols freqs vArray : List ℝ) (hpos : ∀ V ∈ vols, 0 < V) (hdec : vols.Pairwise (· > ·)) (hlen : vols.length = freqs.length)
    (h2 : 2 ≤ (thin order vols).length) :
    let xs := ((thin order vols).reverse).map Real.log
    let ys := ((thin order freqs).reverse).map Real.log
    let s := spline xs ys (ppolySlopes m xs ys)
    interpolateMode m order (kernelFull m order lib) vols freqs vArray
        = .ok (vArray.map fun v => (Real.exp (s 0 (Real.log v)), -s 1 (Real.log v), -s 2 (Real.log v))) ∧
      ∀ V, 0 < V →
        HasDerivAt (fun v => Real.exp (s 0 (Real.log v))) (-((-s 1 (Real.log V)) * Real.exp (s 0 (Real.log V)) / V)) V ∧
        ((∀ j, j + 3 ≤ xs.length → Real.log V ≠ xs.getD (j + 1) 0) →
          HasDerivAt (fun v => -s 1 (Real.log v)) ((-s 2 (Real.log V)) / V) V) := by
  intro xs ys s
  have hinc : xs.Pairwise (· < ·) := log_nodes_increasing order vols hpos hdec
  have hn : 2 ≤ xs.length := by simpa [xs] using h2
  have hl : xs.length = ys.length := by simpa [xs, ys] using thin_length_congr order vols freqs hlen
  obtain ⟨c1, c2, -⟩ := ppoly_derivative_contract xs ys (ppolySlopes m xs ys) hinc hn
  refine ⟨?_, fun V hV => ?_⟩
  · rw [interpolateMode_thinned m (Or.inr (Or.inr hm)) order ho, kernelFull_ppoly m hm]
    exact finishMode_eq _ _ _ vArray (s 0) (s 1) (s 2) (hermiteInterpolant_eq_spline _ xs ys _ hinc hn hl)
  · obtain ⟨t1, t2⟩ := triple_consistent_at (s 0) (s 1) (s 2) V hV
    exact ⟨t1 (c1 _), fun hoff => t2 (c2 _ hoff)⟩

/-- **Fritsch–Carlson consequence for PCHIP.**  Monotone data give a monotone interpolant on the whole node range `[x_0, x_{n-1}]`:
non-decreasing values ⇒ non-decreasing interpolant, non-increasing values (the usual case: ω falls as V grows, γ > 0) ⇒ non-increasing
interpolant — so the interpolated γ never changes sign between the sampled volumes.  (Piece by piece: every end slope lies in the
box `[0, 3Δ]` of its piece, `pchip_slopes_in_box`, hence the derivative of the cubic keeps the sign of the secant.) -/
theorem pchip_monotone (xs ys : List ℝ) (h : xs.Pairwise (· < ·)) (hn : 2 ≤ xs.length) :
    ((∀ i, i + 1 < xs.length → ys.getD i 0 ≤ ys.getD (i + 1) 0) →
        MonotoneOn (spline xs ys (pchipSlopes xs ys) 0) (Set.Icc (xs.getD 0 0) (xs.getD (xs.length - 1) 0))) ∧
      ((∀ i, i + 1 < xs.length → ys.getD (i + 1) 0 ≤ ys.getD i 0) →
        AntitoneOn (spline xs ys (pchipSlopes xs ys) 0) (Set.Icc (xs.getD 0 0) (xs.getD (xs.length - 1) 0))) :=
  ⟨fun hy => monotoneOn_nodes _ xs h hn fun i hi => (pchip_piece_mono xs ys h i hi).1 (hy i (by omega)),
    fun hy => antitoneOn_nodes _ xs h hn fun i hi => (pchip_piece_mono xs ys h i hi).2 (hy i (by omega))⟩

/-- **power laws, kernel level**: `pchip` and `akima` on ≥ 2 positive strictly increasing node volumes reproduce
`ω = ω₀ (V/V₀)^(−γ)` exactly on the whole grid: `(ω, γ, V∂γ/∂V) = (ω₀ (V/V₀)^(−γ), γ, 0)` -/
theorem power_law_exact_ppoly (nodeVols vArray : List ℝ) (w0 V0 g : ℝ) (hw : 0 < w0) (hV0 : 0 < V0)
    (hnodes : ∀ V ∈ nodeVols, 0 < V) (hgrid : ∀ V ∈ vArray, 0 < V) (hinc : nodeVols.Pairwise (· < ·)) (h2 : 2 ≤ nodeVols.length) :
    finishMode pchipInterpolant nodeVols (nodeVols.map fun V => w0 * (V / V0) ^ (-g)) vArray
        = .ok (vArray.map fun V => (w0 * (V / V0) ^ (-g), g, 0)) ∧
      finishMode akimaInterpolant nodeVols (nodeVols.map fun V => w0 * (V / V0) ^ (-g)) vArray
        = .ok (vArray.map fun V => (w0 * (V / V0) ^ (-g), g, 0)) := by
  have hlog : (nodeVols.map Real.log).Pairwise (· < ·) := by
    rw [List.pairwise_map]
    exact hinc.imp_of_mem fun {a b} ha _ hab => Real.log_lt_log (hnodes a ha) hab
  have key : ∀ I : Interpolant ℝ, (∀ a b : ℝ, I (nodeVols.map Real.log) ((nodeVols.map Real.log).map fun x => a * x + b)
        (vArray.map Real.log) = .ok ((vArray.map Real.log).map fun q => (a * q + b, a, 0))) →
      finishMode I nodeVols (nodeVols.map fun V => w0 * (V / V0) ^ (-g)) vArray
        = .ok (vArray.map fun V => (w0 * (V / V0) ^ (-g), g, 0)) := by
    intro I hI
    refine power_law_exact I nodeVols vArray w0 V0 g hw hV0 hnodes hgrid fun c hc => ?_
    obtain ⟨a, b, rfl⟩ : ∃ a b, c = [a, b] := by
      match c, hc with
      | [a, b], _ => exact ⟨a, b, rfl⟩
    have e : polyval [a, b] = fun x => a * x + b := by funext x; simp [polyval]
    rw [e, hI a b]
    simp [polyval, polyder, polyderN]
  have hn : 2 ≤ (nodeVols.map Real.log).length := by simpa using h2
  exact ⟨key _ fun a b => (ppoly_affine_exact _ _ hlog hn a b).1, key _ fun a b => (ppoly_affine_exact _ _ hlog hn a b).2⟩

/-- **power laws, mode level**: `interpolate_mode_ppoly` with `pchip` / `akima`, any order ≥ 1 that keeps ≥ 2 of the positive strictly
decreasing sampled volumes: `γ` is the constant exponent and `V∂γ/∂V = 0` at every grid volume, inside and outside the sampled range -/
theorem power_law_exact_ppoly_mode (m : Method) (hm : m = .pchip ∨ m = .akima) (order : ℕ) (ho : order ≠ 0) (lib : Interpolant ℝ)
    (vols vArray : List ℝ) (w0 V0 g : ℝ) (hw : 0 < w0) (hV0 : 0 < V0) (hpos : ∀ V ∈ vols, 0 < V) (hgrid : ∀ V ∈ vArray, 0 < V)
    (hdec : vols.Pairwise (· > ·)) (h2 : 2 ≤ (thin order vols).length) :
    interpolateMode m order (kernelFull m order lib) vols (vols.map fun V => w0 * (V / V0) ^ (-g)) vArray
      = .ok (vArray.map fun V => (w0 * (V / V0) ^ (-g), g, 0)) := by
  set nv := (thin order vols).reverse with hnv
  have hposn : ∀ V ∈ nv, 0 < V := fun V hV => hpos V (thin_subset order vols V (List.mem_reverse.mp hV))
  have hinc : nv.Pairwise (· < ·) := by
    rw [hnv, List.pairwise_reverse]
    exact thin_pairwise _ order vols hdec
  have hk := power_law_exact_ppoly nv vArray w0 V0 g hw hV0 hposn hgrid hinc (by simpa [hnv] using h2)
  have hthin : (thin order (vols.map fun V => w0 * (V / V0) ^ (-g))).reverse = nv.map fun V => w0 * (V / V0) ^ (-g) := by
    rw [thin_map, hnv, List.map_reverse]
  rw [interpolateMode_thinned m (Or.inr (Or.inr hm)) order ho, hthin]
  rcases hm with rfl | rfl
  · exact hk.1
  · exact hk.2

/-- the hypotheses of `ppoly_mode_consistent` / `power_law_exact_ppoly_mode` are satisfiable: five positive strictly decreasing volumes,
order 3 keeps three of them (interval 2) -/
example : (∀ V ∈ ([5, 4, 3, 2, 1] : List ℝ), 0 < V) ∧ ([5, 4, 3, 2, 1] : List ℝ).Pairwise (· > ·) ∧
    (thin 3 ([5, 4, 3, 2, 1] : List ℝ)).length = 3 := by
  refine ⟨by norm_num, by norm_num, by decide⟩

/-- monotone data with a flat piece (values 0,1,1,5 on nodes 0,1,2,4): slopes 3/2, 0, 0, 10/3 — each inside the box `[0, 3Δ]` of both
adjacent pieces (Δ = 1, 0, 2), the instance of `pchip_slopes_in_box` behind `pchip_monotone` -/
example : pchipSlopes ([0, 1, 2, 4] : List ℚ) [0, 1, 1, 5] = [3 / 2, 0, 0, 10 / 3] ∧
    (List.range 3).map (mAt ([0, 1, 2, 4] : List ℚ) [0, 1, 1, 5]) = [1, 0, 2] := by decide +kernel

end PPolyReal

section Loop
variable {α : Type} [Neg α] [Zero α] [ExpLog α]

/-- Two inputs that agree on the series of `(j, k)` (and on volumes, grid, method, order) give the same
three outputs at `(j, k)`, whatever all the other q-points and modes contain. -/
theorem modes_not_mixed (m : Method) (order : ℕ) (I : Interpolant α) (vols vArray : List α) (nq np : ℕ)
    (freqs freqs' : List (List (List α))) (F G D F' G' D' : List (List (List α)))
    (h : interpolateModes m order I vols vArray nq np freqs = .ok (F, G, D))
    (h' : interpolateModes m order I vols vArray nq np freqs' = .ok (F', G', D'))
    (t j k : ℕ) (ht : t < vArray.length) (hj : j < nq) (hk : k < np)
    (hser : series freqs j k = series freqs' j k) :
    entry F t j k = entry F' t j k ∧ entry G t j k = entry G' t j k ∧ entry D t j k = entry D' t j k := by
  obtain ⟨col, hcol, e1, e2, e3⟩ := modes_cell m order I vols vArray nq np freqs F G D h t j k ht hj hk
  obtain ⟨col', hcol', e1', e2', e3'⟩ := modes_cell m order I vols vArray nq np freqs' F' G' D' h' t j k ht hj hk
  rw [hser, hcol'] at hcol
  cases hcol
  exact ⟨e1.trans e1'.symm, e2.trans e2'.symm, e3.trans e3'.symm⟩

/-- The three Γ-point acoustic modes (`j = 0`, `k < 3`) are exactly zero in all three arrays, at every
grid volume, for every method, order and input (whatever is stored at those positions of the input). -/
theorem gamma_acoustic_zero (m : Method) (order : ℕ) (I : Interpolant α) (vols vArray : List α) (nq np : ℕ)
    (freqs : List (List (List α))) (F G D : List (List (List α)))
    (h : interpolateModes m order I vols vArray nq np freqs = .ok (F, G, D))
    (t k : ℕ) (ht : t < vArray.length) (hq : 0 < nq) (hk : k < np) (hk3 : k < 3) :
    entry F t 0 k = some 0 ∧ entry G t 0 k = some 0 ∧ entry D t 0 k = some 0 := by
  obtain ⟨col, hcol, e1, e2, e3⟩ := modes_cell m order I vols vArray nq np freqs F G D h t 0 k ht hq hk
  have hcond : ((0 : ℕ) == 0 && decide (k < 3)) = true := by simp [hk3]
  have : col = vArray.map fun _ => ((0 : α), (0 : α), (0 : α)) := by
    rw [cell, if_pos hcond] at hcol
    exact (Except.ok.inj hcol).symm
  subst this
  simp only [List.getD_eq_getElem?_getD, List.getElem?_map, List.getElem?_eq_getElem ht, Option.map_some,
    Option.getD_some] at e1 e2 e3
  exact ⟨e1, e2, e3⟩

/-- **hermite_raises** (negative result, the code as it exists): with `hermite` and any order ≥ 1 every non-acoustic mode raises
`TypeError` (`CubicHermiteSpline(x, y)` lacks `dydx`), so `interpolate_modes` never returns as soon as there is one such mode. -/
theorem hermite_raises (order : ℕ) (ho : order ≠ 0) (I : Interpolant α) (vols vArray : List α) (nq np : ℕ)
    (freqs : List (List (List α))) (hq : 0 < nq) (hp : 3 < np) :
    (∀ ser, interpolateMode .hermite order I vols ser vArray = .error .typeError) ∧
      ∀ r, interpolateModes .hermite order I vols vArray nq np freqs ≠ .ok r := by
  have hm : ∀ ser, interpolateMode .hermite order I vols ser vArray = .error .typeError := by
    intro ser
    simp [interpolateMode, modeNodes, ho, bind, Except.bind]
  refine ⟨hm, ?_⟩
  rintro ⟨F, G, D⟩ h
  -- the loop returned, so cell `(0, 3)` did (also on an empty grid: the cell is evaluated all the same)
  unfold interpolateModes at h
  cases hc : cells .hermite order I vols vArray nq np freqs with
  | error e => rw [hc] at h; cases h
  | ok c =>
    obtain ⟨col, hcol, -⟩ :=
      cellsOf_cell (fun j k => cell .hermite order I vols vArray j k (series freqs j k)) nq np c hc 0 3 hq hp
    simp [cell, hm] at hcol

end Loop

/-- non-vacuity of the loop theorems: a run that returns (scalar ℚ with exp = log = id, least squares of order 1;
the Γ-acoustic input entries 7, 8, 9 are ignored) -/
example :
    letI : ExpLog ℚ := ⟨id, id⟩
    interpolateModes .lsqPoly 1 (lsqInterpolant 1) ([1, 2, 3] : List ℚ) [4] 1 4
        [[[7, 7, 7, 1]], [[8, 8, 8, 3]], [[9, 9, 9, 5]]]
      = .ok ([[[0, 0, 0, 7]]], [[[0, 0, 0, -2]]], [[[0, 0, 0, 0]]]) := by decide +kernel

/-- `[::ceil(n/order)]` keeps the first element and at most `order` elements (the code's "pick at most `order` nodes") -/
theorem thin_length_le (order n : ℕ) (ho : 0 < order) : (thin order (List.range n)).length ≤ order := by
  unfold thin stride thinInterval
  simp only [List.length_range]
  refine (List.length_filterMap_le _ _).trans ?_
  simp only [List.length_range]
  set i := (n + order - 1) / order with hi
  rcases Nat.eq_zero_or_pos i with h0 | hipos
  · rw [h0]; simp
  · have hi1 : n ≤ order * i := by
      have := Nat.div_add_mod (n + order - 1) order
      have hm := Nat.mod_lt (n + order - 1) ho
      rw [← hi] at this
      generalize order * i = P at *
      omega
    apply Nat.le_of_lt_succ
    rw [Nat.div_lt_iff_lt_mul hipos]
    have : (order + 1) * i = order * i + i := by ring
    rw [this]
    generalize order * i = P at *
    omega

example : thin 3 (List.range 7) = [0, 3, 6] ∧ thin 4 (List.range 7) = [0, 2, 4, 6] ∧ thin 2 (List.range 4) = [0, 2] := by
  decide

/-- The diagnostic plot selects, for n = 0, 1, 2, exactly what the docstring and the property say: ω, γ, V∂γ/∂V;
and for every other n nothing (Python: `w_arrays` unbound) — the model of `plot_modes` agrees with the specification for ALL n. -/
theorem plot_select : ∀ n : Int, plotSelect n = plotSelectSpec n := by
  intro n
  unfold plotSelect plotSelectSpec modeGammaTags
  split_ifs <;> rfl

/-- in particular n = 0 ↦ ω, n = 1 ↦ γ (`mode_gamma[1]`), n = 2 ↦ V∂γ/∂V (`mode_gamma[0]`) -/
theorem plot_select_012 : plotSelect 0 = some .omega ∧ plotSelect 1 = some .gamma ∧ plotSelect 2 = some .vdrDv := by decide

/-- the swapped selection (n = 1 drawing V∂γ/∂V, n = 2 drawing γ: the defect repaired in /repo 17c4262) is excluded -/
theorem plot_select_not_swapped : plotSelect 1 ≠ some .vdrDv ∧ plotSelect 2 ≠ some .gamma ∧
    plotSelect 1 ≠ plotSelect 2 := by decide

/-- the intended selection, stated about the specification: n = 0, 1, 2 ↦ ω, γ, V∂γ/∂V and nothing else -/
theorem plot_select_spec : plotSelectSpec 0 = some .omega ∧ plotSelectSpec 1 = some .gamma ∧
    plotSelectSpec 2 = some .vdrDv ∧ ∀ n : Int, n ≠ 0 → n ≠ 1 → n ≠ 2 → plotSelectSpec n = none := by
  refine ⟨by decide, by decide, by decide, fun n h0 h1 h2 => ?_⟩
  simp [plotSelectSpec, h0, h1, h2]

/-- array level: on the calculator state produced by the wiring line, `plot_modes(ax, n, iq)` draws, for every non-skipped
mode `k`, the column `[:, iq, k]` of the array that `plotSelect n` names -/
theorem plot_modes_draws_select {α : Type} [Mul α] [Zero α] (f g d : List (List (List α))) (np : ℕ) (n : Int) (iq : ℕ)
    (q : Quantity) (hq : plotSelect n = some q) :
    plotModes (calculatorWiring f g d) np n iq
      = .ok (((List.range np).filter fun k => !(iq == 0 && k < 3)).map fun k =>
          (arrayOf f g d q).map fun row => (row.getD iq []).getD k 0) := by
  unfold plotModes
  by_cases hks : ((List.range np).filter fun k => !(iq == 0 && k < 3)).isEmpty = true
  · simp only [hks, if_true]
    rw [List.isEmpty_iff.mp hks]; rfl
  · simp only [hks, Bool.false_eq_true, if_false]
    unfold plotSelect modeGammaTags at hq
    by_cases h0 : n = 0
    · subst h0; simp at hq; subst hq
      simp [calculatorWiring, arrayOf, bind, Except.bind, pure, Except.pure]
    by_cases h1 : n = 1
    · subst h1; simp at hq; subst hq
      simp [calculatorWiring, arrayOf, bind, Except.bind, pure, Except.pure]
    by_cases h2 : n = 2
    · subst h2; simp at hq; subst hq
      simp [calculatorWiring, arrayOf, bind, Except.bind, pure, Except.pure]
    · simp [h0, h1, h2] at hq

/-- concrete instance (a power law with γ = 3/2 on two grid volumes, one q-point, four modes, so γ ≠ V∂γ/∂V = 0):
`plot_modes(n=0)` draws ω, `plot_modes(n=1)` draws γ = 3/2, `plot_modes(n=2)` draws the zeros of V∂γ/∂V; any other n raises -/
example :
    let f : List (List (List ℚ)) := [[[0, 0, 0, 100]], [[0, 0, 0, 120]]]
    let g : List (List (List ℚ)) := [[[0, 0, 0, 3 / 2]], [[0, 0, 0, 3 / 2]]]
    let d : List (List (List ℚ)) := [[[0, 0, 0, 0]], [[0, 0, 0, 0]]]
    plotModes (calculatorWiring f g d) 4 0 0 = .ok [[100, 120]] ∧ plotModes (calculatorWiring f g d) 4 1 0 = .ok [[3 / 2, 3 / 2]] ∧
      plotModes (calculatorWiring f g d) 4 2 0 = .ok [[0, 0]] ∧ plotModes (calculatorWiring f g d) 4 3 0 = .error .unboundLocal := by
  decide +kernel

section GlueSrc
open Cij.ModeGammaGlue
open Generated.ModeGammaGlue (fns loop)
variable {α : Type} [Add α] [Mul α] [Neg α] [Zero α] [One α] [NatCast α] [ExpLog α]

/-- **inventory.**  `mode_gamma.py` defines exactly seven functions, each once, and every one of them is translated as data (six
statement lists `fns`, the loop structure `loop`) — none is only pinned as text; the module has no other statement than its imports
(no module-level state); `numpy` / `scipy` are the packages; NOTHING in any expression of the seven functions is outside the translator's
grammar (no `.other` node, no unknown dotted name, no unknown keyword, no unknown index pattern); the translator's name tables invert
`Lib.pyName` / `Kw.pyName`; and the library functions the module names are exactly the eighteen listed — the only elementwise
transcendental ones being `numpy.log` and `numpy.exp`. -/
theorem mode_glue_src_inventory :
    (Generated.ModeGammaGlue.definedFunctions = Generated.ModeGammaGlue.handled.map (·.1) ∧
      Generated.ModeGammaGlue.definedFunctions.Nodup ∧
      (∀ h ∈ Generated.ModeGammaGlue.handled, h.2 = .translated "fns" ∨ h.2 = .translated "loop") ∧
      Generated.ModeGammaGlue.definedFunctions = fns.map (·.name) ++ [loop.name] ∧
      Generated.ModeGammaGlue.moduleAssigns = [] ∧ Generated.ModeGammaGlue.moduleOtherStatements = [] ∧
      (∀ e ∈ Generated.ModeGammaGlue.imports, (e.1 = "numpy" → e.2 = "numpy") ∧ (e.1 = "scipy" → e.2.startsWith "scipy") ∧
        e.1 ∉ Generated.ModeGammaGlue.definedFunctions)) ∧
    outsideGrammar = [] ∧
    ((∀ e ∈ Generated.ModeGammaGlue.libTable, e.2.pyName = e.1) ∧ (∀ e ∈ Generated.ModeGammaGlue.kwTable, e.2.pyName = e.1)) ∧
    usedLibs.eraseDups =
      [.spUnivariateSpline, .npFlip, .npLog, .npExp, .pyInt, .npCeil, .spLagrange, .npPolyder, .spKrogh, .spPchip, .spAkima,
        .spHermite, .npVander, .npLstsq, .npPoly1d, .npPolyval, .npArray, .pyRange] :=
  ⟨inventory_complete, nothing_outside, tables_ok, used_libs⟩

/-- **`interpolate_mode_spline` is the source's.**  For every order, node arrays and grid — in the ORDER GIVEN, nothing is sorted —, every
spline library (`env.spline k` = `UnivariateSpline(x, y, k=k)` with no `w`, `s`, `ext`): the translated statements
(`UnivariateSpline(flip(log V), flip(log ω), k=order)`; `interp(log v)`, `interp(log v, nu=1)`, `interp(log v, nu=2)`; `exp`, `−`, `−`)
evaluate to the model's `interpolateModeF .spline`.  The NAME `numpy.log` is interpreted as `ExpLog.log` in all three positions (nodes,
values, grid) and `numpy.exp` as `ExpLog.exp`, for an arbitrary pair of functions: nothing about the base of the logarithm is assumed, a
`numpy.log10` anywhere has no interpretation.  (No volume: the empty arrays reach the constructor, whose exception — scipy:
`IndexError` — is the kernel's.) -/
theorem mode_glue_src_spline (env : Env α) (order : ℕ) (vols freqs va : List α) :
    runFn fns env 2 "interpolate_mode_spline" [.arr vols, .arr freqs, .arr va] [("order", .nat order)]
      = (Out.ofExcept (interpolateModeF .spline order (env.spline order) vols freqs va)).map colsVal :=
  spline_is_source env order vols freqs va

/-- **`interpolate_mode_lagrange` / `interpolate_mode_krogh` are the source's**, for ALL node arrays (no hypothesis — not "at
least one volume", not "equal lengths"): `interval = int(ceil(mode_volumes.shape[0] / order))` (order 0: `ZeroDivisionError` in both),
`[::interval]` with that ONE interval on BOTH arrays — `ValueError` (slice step cannot be zero) when there is no volume —, both flipped
and logged, `scipy.interpolate.lagrange` with `numpy.polyder(poly, m=1|2)` resp. `KroghInterpolator` with `.derivative(x, der=1|2)`,
`exp` / `−` / `−`. -/
theorem mode_glue_src_lagrange_krogh (env : Env α) (order : ℕ) (vols freqs va : List α) :
    runFn fns env 2 "interpolate_mode_lagrange" [.arr vols, .arr freqs, .arr va] [("order", .nat order)]
        = (Out.ofExcept (interpolateModeF .lagrange order env.lagrange vols freqs va)).map colsVal ∧
      runFn fns env 2 "interpolate_mode_krogh" [.arr vols, .arr freqs, .arr va] [("order", .nat order)]
        = (Out.ofExcept (interpolateModeF .krogh order env.krogh vols freqs va)).map colsVal :=
  ⟨lagrange_is_source env order vols freqs va, krogh_is_source env order vols freqs va⟩

/-- **`interpolate_mode_ppoly` is the source's** for its three method strings and ALL node arrays: the thinning as above (`ZeroDivisionError`,
then `ValueError` for no volume), the class chosen by the if/elif chain, the 2-argument constructor call on the thinned, flipped, logged
nodes, the three evaluations with `extrapolate=True` (and `nu=1|2`); `hermite`: `CubicHermiteSpline(x, y)` raises `TypeError` AFTER the
thinning (so no volume is a `ValueError` for `hermite` too), whatever the kernel. -/
theorem mode_glue_src_ppoly (env : Env α) (I : Interpolant α) (order : ℕ) (vols freqs va : List α) :
    runFn fns env 2 "interpolate_mode_ppoly" [.arr vols, .arr freqs, .arr va] [("method", .str "pchip"), ("order", .nat order)]
        = (Out.ofExcept (interpolateModeF .pchip order env.pchip vols freqs va)).map colsVal ∧
      runFn fns env 2 "interpolate_mode_ppoly" [.arr vols, .arr freqs, .arr va] [("method", .str "akima"), ("order", .nat order)]
        = (Out.ofExcept (interpolateModeF .akima order env.akima vols freqs va)).map colsVal ∧
      runFn fns env 2 "interpolate_mode_ppoly" [.arr vols, .arr freqs, .arr va] [("method", .str "hermite"), ("order", .nat order)]
        = (Out.ofExcept (interpolateModeF .hermite order I vols freqs va)).map colsVal :=
  ⟨pchip_is_source env order vols freqs va, akima_is_source env order vols freqs va, hermite_is_source env I order vols freqs va⟩

/-- the exceptions of the thinning, in the order the source raises them: `order = 0` → `ZeroDivisionError` (whatever the arrays); no
volume → `ValueError`; and with at least one volume and arrays of equal length `interpolateModeF` is `interpolateMode` -/
theorem mode_glue_src_thinning_errors (m : Method) (hm : m = .lagrange ∨ m = .krogh ∨ m = .pchip ∨ m = .akima ∨ m = .hermite)
    (order : ℕ) (I : Interpolant α) (vols freqs va : List α) :
    interpolateModeF m 0 I vols freqs va = .error .zeroDivision ∧
      (order ≠ 0 → interpolateModeF m order I [] freqs va = .error .valueError) ∧
      (vols.length = freqs.length → vols ≠ [] → interpolateModeF m order I vols freqs va = interpolateMode m order I vols freqs va) := by
  refine ⟨?_, ?_, fun hl hne => interpolateModeF_eq m order I vols freqs va hl hne⟩
  · rcases hm with rfl | rfl | rfl | rfl | rfl <;> rfl
  · intro ho
    have hz : thinInterval 0 order = 0 := by
      simp only [thinInterval, Nat.zero_add]
      exact Nat.div_eq_of_lt (by omega)
    rcases hm with rfl | rfl | rfl | rfl | rfl <;> simp [interpolateModeF, modeNodesF, hz, ho, bind, Except.bind]

/-- **`lstsq_polyfit` is the source's.**  `order += 1`; the matrix handed to `numpy.linalg.lstsq` is `numpy.vander(xs, order + 1)` — the
model's `vander`: `order + 1` columns, DECREASING powers `[x^order, …, x, 1]` — with the 1-d right-hand side `ys` of the ONE call;
the solution is returned as it is, together with `polyval` of it (highest power first) at `new_xs`.  For every solver `env.lstsq`. -/
theorem mode_glue_src_lstsq_polyfit (env : Env α) (fuel order : ℕ) (xs ys new : List α) :
    runFn fns env (fuel + 1) "lstsq_polyfit" [.arr xs, .arr ys, .arr new] [("order", .nat order)]
      = (Out.ofExcept (env.lstsq (vander xs (order + 1)) ys)).map fun a => .tuple2 (.arr a) (.arr (new.map (polyval a))) :=
  lstsq_polyfit_is_source env fuel order xs ys new

/-- **`interpolate_mode_lsq_poly` is the source's**: all volumes in file order (no thinning, no flip), `log` of nodes, values and grid,
one `lstsq_polyfit` call with `order=order`, `exp` of the fitted values, `−polyval(polyder(p, 1))`, `−polyval(polyder(p, 2))` — the
model's `interpolateModeF .lsqPoly` run with the least-squares kernel over the SAME solver (`lsqKernel`: `vander(x, order + 1)`,
1-d right-hand side).  No cap on the number of coefficients, no centring. -/
theorem mode_glue_src_lsq_poly (env : Env α) (order : ℕ) (vols freqs va : List α) :
    runFn fns env 2 "interpolate_mode_lsq_poly" [.arr vols, .arr freqs, .arr va] [("order", .nat order)]
      = (Out.ofExcept (interpolateModeF .lsqPoly order (lsqKernel env.lstsq order) vols freqs va)).map colsVal :=
  lsq_poly_is_source env order vols freqs va

/-- The least-squares kernel of `mode_glue_src_lsq_poly`: with a solver that returns on Vandermonde systems what the model's exact solver returns (the contract of
`numpy.linalg.lstsq`; `lstsqPolyfit` IS the least-squares polynomial by `lsq_minimises` / `lsq_total`) that kernel is the model's
`lsqInterpolant` (with the zero solution of the system with no rows — no volume —: `lsqInterpolantF`), and the libraries of `stdEnv`
give every method exactly the kernel `kernelFull` names.
**One sample per evaluation point, for the modelled kernels**: the Newton-form polynomial kernel (`lagrange`, `krogh`), the least-squares
kernel over ANY solver, `lsqInterpolantF`, and the modelled scipy classes `PchipInterpolator` / `Akima1DInterpolator`
(`CijModel/PPoly.lean`) each return exactly one sample per evaluation point; so with `stdEnv` the loop's kernel contract is a
hypothesis for the FITPACK spline only. -/
theorem mode_glue_src_kernels {β : Type} [Add β] [Sub β] [Mul β] [Div β] [Neg β] [Zero β] [One β] [NatCast β] [BEq β] [LT β]
    [DecidableLT β] [LE β] [DecidableLE β] [ExpLog β] (lib : Interpolant β) (S : List (List β) → List β → Except Err (List β))
    (m : Method) (order : ℕ) :
    (SolvesVander S → lsqKernel S order = lsqInterpolant order ∧
        (stdEnv lib S).kernelFor m order = Cij.PPoly.kernelFull m order lib) ∧
      (SolvesVanderF S → lsqKernel S order = lsqInterpolantF order) ∧
      (LenOK (newtonInterpolant : Interpolant β) ∧ LenOK (lsqKernel S order) ∧ LenOK (lsqInterpolantF order : Interpolant β) ∧
        LenOK (Cij.PPoly.pchipInterpolant : Interpolant β) ∧ LenOK (Cij.PPoly.akimaInterpolant : Interpolant β)) ∧
      ((m = .spline → LenOK lib) → LenFor m ((stdEnv lib S).kernelFor m order)) :=
  ⟨fun hS => ⟨lsqKernel_model S hS order, stdEnv_kernelFor lib S hS m order⟩, fun hS => lsqKernel_modelF S hS order,
    ⟨lenOK_newton, lenOK_lsqKernel S order, lenOK_lsqInterpolantF order, lenOK_hermite _, lenOK_hermite _⟩,
    fun h => stdEnv_lenFor lib S m order h⟩

/-- **`interpolate_modes` is the source's — for EVERY input** (neither "at least one volume" nor "every block carries the header's nq × np frequencies" is
assumed; the model raises what the source raises).  For every method string `s` (the seven of the
dispatch table, or any other: no branch, zero arrays), every order, every list of volume blocks of whatever shapes, every library whose
kernel — where one is called — returns one sample per evaluation point: the interpretation of the translated function — `nq`, `np` from
the header, `ntv = v_array.shape[0]`; three `numpy.zeros((ntv, nq, np))`; `mode_volumes` from `qha_input.volumes`; `for j in range(nq):
for k in range(np):` with the single skip `j == 0 and k in range(3)` BEFORE anything is read; `mode_freqs` =
`[volume.q_points[j].modes[k] for volume in …]` — `IndexError` at the first volume (file order) of the first `(j, k)` (loop order)
that lacks the entry, also for a method outside the table —; the method → function dispatch with `order=order` (and `method=method` for
the ppoly branch) — no volume: `ValueError` of `[::0]` for the five thinning methods —; targets `[:, j, k]` of the three arrays in the order
of the returned triple; `return` in that order — IS the model's `interpolateModesF` (same arrays, same first exception in loop order). -/
theorem mode_glue_src_loop (env : Env α) (s : String) (order nv nq np : ℕ) (volumes : List (α × List (List α))) (va : List α)
    (hI : LenFor (Method.ofString s) (env.kernelFor (Method.ofString s) order)) :
    loop.run fns env [.qha nv nq np volumes, .arr va, .str s, .nat order]
      = (Out.ofExcept (interpolateModesF (Method.ofString s) order (env.kernelFor (Method.ofString s) order)
            (volumes.map (·.1)) va nq np (volumes.map (·.2)))).map fun r => [r.1, r.2.1, r.2.2] :=
  loop_is_source env s order nv nq np volumes va hI

/-- `mode_glue_src_loop` with the libraries as the model has them (`stdEnv`): the ONLY hypothesis left is the contract of the FITPACK spline, and only when
the method is `spline` -/
theorem mode_glue_src_loop_std {β : Type} [Add β] [Sub β] [Mul β] [Div β] [Neg β] [Zero β] [One β] [NatCast β] [BEq β] [LT β]
    [DecidableLT β] [LE β] [DecidableLE β] [ExpLog β] (lib : Interpolant β) (S : List (List β) → List β → Except Err (List β))
    (s : String) (order nv nq np : ℕ) (volumes : List (β × List (List β))) (va : List β)
    (hlib : Method.ofString s = .spline → LenOK lib) :
    loop.run fns (stdEnv lib S) [.qha nv nq np volumes, .arr va, .str s, .nat order]
      = (Out.ofExcept (interpolateModesF (Method.ofString s) order ((stdEnv lib S).kernelFor (Method.ofString s) order)
            (volumes.map (·.1)) va nq np (volumes.map (·.2)))).map fun r => [r.1, r.2.1, r.2.2] :=
  loop_is_source (stdEnv lib S) s order nv nq np volumes va (stdEnv_lenFor lib S _ order hlib)

/-- **the faithful model on well-formed inputs is the model of the other theorems**: with at least one volume and every block carrying
the `nq × np` frequencies of the header, `interpolateModesF` is `interpolateModes` (about which `triple_consistent`, the exactness
theorems, C12 and C13 are stated); and a series that can be read is `series` -/
theorem mode_glue_src_wellformed (m : Method) (order : ℕ) (I : Interpolant α) (va : List α) (nq np : ℕ)
    (volumes : List (α × List (List α))) (hne : volumes ≠ []) (hshape : Shaped volumes nq np) :
    interpolateModesF m order I (volumes.map (·.1)) va nq np (volumes.map (·.2))
        = interpolateModes m order I (volumes.map (·.1)) va nq np (volumes.map (·.2)) ∧
      ∀ j k ser, seriesE (volumes.map (·.2)) j k = .ok ser → ser = series (volumes.map (·.2)) j k :=
  ⟨interpolateModesF_eq m order I va nq np volumes hne hshape, fun j k ser h => seriesE_ok _ j k ser h⟩

/-- **one independent fit per mode, indexed (v, q, m)** — for every input.  Whenever the translated `interpolate_modes` returns
`[F, G, D]`: at every grid index `t`, q-point `j`, mode `k`
* Γ-acoustic (`j = 0`, `k < 3`): the three entries are exactly `0` (whether or not the input carries those frequencies);
* otherwise: EVERY volume block carries the frequency `(j, k)` — the series `[volume.q_points[j].modes[k] for volume in volumes]` was
  read without `IndexError` — and (a method of the table) the entries are the `t`-th sample of the fit of `interpolateModeF` on THAT
  mode's own series and the node volumes — nothing of any other mode enters, nothing is reused between modes (the kernel is called
  afresh on these arguments). -/
theorem mode_glue_src_one_fit_per_mode (env : Env α) (s : String) (order nv nq np : ℕ) (volumes : List (α × List (List α)))
    (va : List α) (hI : LenFor (Method.ofString s) (env.kernelFor (Method.ofString s) order))
    (F G D : List (List (List α)))
    (h : loop.run fns env [.qha nv nq np volumes, .arr va, .str s, .nat order] = .ok [F, G, D])
    (t j k : ℕ) (ht : t < va.length) (hj : j < nq) (hk : k < np) :
    (j = 0 ∧ k < 3 → entry F t j k = some 0 ∧ entry G t j k = some 0 ∧ entry D t j k = some 0) ∧
      (¬(j = 0 ∧ k < 3) →
        seriesE (volumes.map (·.2)) j k = .ok (volumes.map fun vl => (vl.2.getD j []).getD k 0) ∧
        (Method.ofString s ≠ .unknown →
          ∃ col, interpolateModeF (Method.ofString s) order (env.kernelFor (Method.ofString s) order) (volumes.map (·.1))
              (volumes.map fun vl => (vl.2.getD j []).getD k 0) va = .ok col ∧
            entry F t j k = some (col.getD t (0, 0, 0)).1 ∧ entry G t j k = some (col.getD t (0, 0, 0)).2.1 ∧
            entry D t j k = some (col.getD t (0, 0, 0)).2.2)) := by
  rw [loop_is_source env s order nv nq np volumes va hI, interpolateModesF_eq_modesOf] at h
  have hm : modesOf (cellF (Method.ofString s) order (env.kernelFor (Method.ofString s) order) (volumes.map (·.1)) va
      (volumes.map (·.2))) va nq np = .ok (F, G, D) := by
    cases hx : modesOf (cellF (Method.ofString s) order (env.kernelFor (Method.ofString s) order) (volumes.map (·.1)) va
        (volumes.map (·.2))) va nq np with
    | error e => rw [hx] at h; simp [Out.ofExcept, Out.map] at h
    | ok r =>
      rw [hx] at h
      obtain ⟨a, b, c⟩ := r
      simp only [Out.ofExcept, Out.map, bind_ok, Out.ok.injEq, List.cons.injEq, and_true] at h
      obtain ⟨rfl, rfl, rfl⟩ := h
      rfl
  obtain ⟨col, hcol, e1, e2, e3⟩ := modesOf_cell _ va nq np F G D hm t j k ht hj hk
  have hser : series (volumes.map (·.2)) j k = volumes.map fun vl => (vl.2.getD j []).getD k 0 := by
    simp [series, List.map_map, Function.comp_def]
  constructor
  · rintro ⟨rfl, hk3⟩
    have hcond : ((0 : ℕ) == 0 && decide (k < 3)) = true := by simp [hk3]
    have : col = va.map fun _ => ((0 : α), (0 : α), (0 : α)) := by
      rw [cellF, if_pos hcond] at hcol
      exact (Except.ok.inj hcol).symm
    subst this
    simp only [List.getD_eq_getElem?_getD, List.getElem?_map, List.getElem?_eq_getElem ht, Option.map_some,
      Option.getD_some] at e1 e2 e3
    exact ⟨e1, e2, e3⟩
  · intro hs
    have hcond : (j == 0 && decide (k < 3)) = false := by
      simpa using hs
    rw [cellF, hcond] at hcol
    simp only [Bool.false_eq_true, if_false] at hcol
    cases hse : seriesE (volumes.map (·.2)) j k with
    | error e => rw [hse] at hcol; cases hcol
    | ok ser =>
      have hser' : ser = volumes.map fun vl => (vl.2.getD j []).getD k 0 := by
        rw [← hser]; exact seriesE_ok _ j k ser hse
      subst hser'
      refine ⟨rfl, fun hmu => ⟨col, ?_, e1, e2, e3⟩⟩
      have hmu' : (Method.ofString s == Method.unknown) = false := by simpa using hmu
      rw [hse] at hcol
      simpa [hmu'] using hcol

/-- non-vacuity of `mode_glue_src_loop` / `…_one_fit_per_mode`: a well-shaped input (three volumes, one q-point, four modes), and the
translated loop RUN on it (scalar ℚ with exp = log = id, `lsq_poly` of order 1 with the exact solver on the abscissae read back from
the Vandermonde matrix): the same arrays as the model's own run (`interpolateModes` on this input) gives — the Γ-acoustic entries 7, 8, 9 of
the input are ignored, the fourth mode is fitted on its own series 1, 3, 5 at volumes 1, 2, 3 -/
example :
    letI : ExpLog ℚ := ⟨id, id⟩
    loop.run (α := ℚ) fns (stdEnv (β := ℚ) (fun _ _ _ => Except.error Err.valueError)
        (fun A b => match lstsqPolyfit (A.map fun r => r.getD (r.length - 2) 0) b ((A.headD []).length - 1) with
          | some a => Except.ok a | none => Except.error Err.linAlg))
      [.qha 3 1 4 [((1 : ℚ), [[7, 7, 7, 1]]), (2, [[8, 8, 8, 3]]), (3, [[9, 9, 9, 5]])], .arr [4], .str "lsq_poly", .nat 1]
      = Out.ok [[[[0, 0, 0, 7]]], [[[0, 0, 0, -2]]], [[[0, 0, 0, 0]]]] := by decide +kernel

example : Shaped [((1 : ℚ), [[7, 7, 7, 1]]), (2, [[8, 8, 8, 3]]), (3, [[9, 9, 9, 5]])] 1 4 := by
  intro vl hvl j hj k hk
  have hj0 : j = 0 := by omega
  subst hj0
  simp only [List.mem_cons, List.not_mem_nil, or_false] at hvl
  have hk4 : k = 0 ∨ k = 1 ∨ k = 2 ∨ k = 3 := by omega
  rcases hvl with rfl | rfl | rfl <;> rcases hk4 with rfl | rfl | rfl | rfl <;> exact ⟨_, _, rfl, rfl⟩

/-- the malformed inputs, RUN through the translated loop (ℚ, exp = log = id, the libraries of `stdEnv`) and through the model:
(`runQ`, Lemmas/ModeGammaGlueSource.lean: the q-point count of the header is 1, the grid `[4]`)
* no volume: `ValueError` for `lagrange` / `pchip` / `hermite` (the `[::0]` slice; `hermite` never reaches its `TypeError`),
  `ZeroDivisionError` for order 0, three zero arrays for a method outside the table, and for `spline` whatever the constructor raises
  on empty arrays (here the stand-in library's `ValueError`; scipy: `IndexError`, compared by the harness);
* the second volume lacks the fourth mode of Γ: `IndexError`, also for a method outside the table — but a block that lacks only
  Γ-ACOUSTIC entries is not noticed (those are skipped before anything is read). -/
example :
    runQ [] 4 "lagrange" 3 = .raise .valueError ∧ runQ [] 4 "pchip" 3 = .raise .valueError ∧
      runQ [] 4 "hermite" 3 = .raise .valueError ∧ runQ [] 4 "krogh" 0 = .raise .zeroDivision ∧
      runQ [] 4 "nosuchmethod" 3 = .ok [[[[0, 0, 0, 0]]], [[[0, 0, 0, 0]]], [[[0, 0, 0, 0]]]] ∧
      runQ [] 4 "spline" 3 = .raise .valueError ∧
      runQ [(1, [[7, 7, 7, 1]]), (2, [[8, 8, 8]]), (3, [[9, 9, 9, 5]])] 4 "lagrange" 2 = .raise indexError ∧
      runQ [(1, [[7, 7, 7, 1]]), (2, [[8, 8, 8]]), (3, [[9, 9, 9, 5]])] 4 "nosuchmethod" 2 = .raise indexError ∧
      runQ [(1, [[7]]), (2, [[]]), (3, [[9, 9]])] 3 "lagrange" 2 = .ok [[[[0, 0, 0]]], [[[0, 0, 0]]], [[[0, 0, 0]]]] := by
  refine ⟨?_, ?_, ?_, ?_, ?_, ?_, ?_, ?_, ?_⟩ <;> decide +kernel

example :
    letI : ExpLog ℚ := ⟨id, id⟩
    (interpolateModesF (α := ℚ) .lagrange 3 newtonInterpolant [] [4] 1 4 [] = .error .valueError ∧
      interpolateModesF (α := ℚ) .lagrange 2 newtonInterpolant [1, 2, 3] [4] 1 4 [[[7, 7, 7, 1]], [[8, 8, 8]], [[9, 9, 9, 5]]]
        = .error indexError ∧
      -- where the total model `interpolateModes` answers with a default: an interpolation through the made-up value 0
      (interpolateModes (α := ℚ) .lagrange 2 newtonInterpolant [1, 2, 3] [4] 1 4 [[[7, 7, 7, 1]], [[8, 8, 8]], [[9, 9, 9, 5]]]).toBool
        = true ∧
      -- no volume, least squares: numpy's zero solution, no exception (ω = exp 0, γ = −0, V∂γ/∂V = −0)
      interpolateModesF (α := ℚ) .lsqPoly 2 (lsqInterpolantF 2) [] [4] 1 4 [] = .ok ([[[0, 0, 0, 0]]], [[[0, 0, 0, 0]]], [[[0, 0, 0, 0]]])) :=
  ⟨by decide +kernel, by decide +kernel, by decide +kernel, by decide +kernel⟩

/-- a decimal logarithm or a sorted grid has NO interpretation: an expression the semantics does not know is `stuck`, never a default -/
example :
    letI : ExpLog ℚ := ⟨id, id⟩
    (Ex.call (.other "numpy.log10") [.var "v"] []).eval (α := ℚ) (stdEnv (β := ℚ) (fun _ _ _ => Except.error Err.valueError)
        fun _ _ => Except.error Err.linAlg) (fun _ _ _ => Out.stuck) [("v", .arr [1])] = Out.stuck ∧
      (Ex.call (.other "numpy.sort") [.var "v"] []).eval (α := ℚ) (stdEnv (β := ℚ) (fun _ _ _ => Except.error Err.valueError)
        fun _ _ => Except.error Err.linAlg) (fun _ _ _ => Out.stuck) [("v", .arr [1])] = Out.stuck :=
  ⟨rfl, rfl⟩

end GlueSrc

/-- **model-is-source** for the glue of `mode_gamma.py`.  For every method `m` that dispatches to a source function `f`
(`interpolate_modes`' if-chain, compared by the translator): (1) `f`'s returned triple, as extracted from the source on this run,
is `(exp ·(order 0), −·(order 1), −·(order 2))`; (2) `finishMode` applies exactly that pattern to the kernel's samples;
(3) `modeNodes` thins and flips the nodes exactly as `f` does.  A source change to a sign, a derivative order, the `exp`,
the thinning stride or a flip changes `Generated/ModeGammaSpec.lean` and this theorem stops checking. -/
theorem mode_glue_is_source {α : Type} [Neg α] [Zero α] [ExpLog α] (m : Method) (f : String) (h : m.pyFunction = some f)
    (order : ℕ) (ho : order ≠ 0) (I : Interpolant α) (vols freqs nv nf va : List α) :
    Generated.modeReturnPattern.lookup f = some canonicalPattern ∧
    (finishMode I nv nf va = (do
      let r ← I (nv.map ExpLog.log) (nf.map ExpLog.log) (va.map ExpLog.log)
      pure (r.map fun t => (applyElem t (true, false, 0), applyElem t (false, true, 1), applyElem t (false, true, 2))))) ∧
    ∃ sp, Generated.modeNodesSpec.lookup f = some sp ∧
      modeNodes m order vols freqs = .ok (nodesBySpec sp order vols, nodesBySpec sp order freqs) := by
  refine ⟨?_, finish_is_pattern I nv nf va, mode_nodes_is_source m f h order ho vols freqs⟩
  cases m <;> simp [Method.pyFunction] at h <;> subst h <;> decide

/-- **model-is-source for the ppoly branch.**  On this run the translator (`tools/gens/ppoly.py`) found in `interpolate_mode_ppoly`:
(1) the dispatch `pchip → PchipInterpolator`, `akima → Akima1DInterpolator`, `hermite → CubicHermiteSpline` — the classes `kernelFull` /
`interpolateMode` model for these methods; (2) three evaluation calls `nu = 0, 1, 2`, each with `extrapolate=True` — exactly what
`PPoly.sample` computes (whatever the class default); (3) a constructor call with the two positional arguments
`flip(log(mode_volumes))`, `flip(log(mode_freqs))` and no keyword, evaluated at `log(v_array)` — exactly what the model's kernel receives.
Dropping `extrapolate=True`, swapping `nu`, another class, an extra keyword (`method="makima"`), evaluating at `v_array`: each changes
`Generated/PPolySpec.lean` and this theorem stops checking. -/
theorem ppoly_glue_is_source {α : Type} [Add α] [Sub α] [Mul α] [Div α] [Neg α] [Zero α] [One α] [NatCast α] [LT α] [DecidableLT α]
    [LE α] [DecidableLE α] [ExpLog α] (I : Interpolant α) (tv tf va xs ys ds : List α) (q : α) (dflt : Bool) :
    (Generated.ppolyDispatch.map (·.1) = ["pchip", "akima", "hermite"] ∧
      ∀ e ∈ Generated.ppolyDispatch, Cij.PPoly.scipyClass (Method.ofString e.1) = some e.2) ∧
    Cij.PPoly.sample xs ys ds q
      = (Cij.PPoly.sampleBySpec Generated.ppolyEvalCalls dflt xs ys ds q).bind Cij.PPoly.tripleOfList ∧
    (Generated.ppolyCtorKeywords = [] ∧ Generated.ppolyEvalAbscissa = "numpy.log(v_array)" ∧
      ∃ a0 a1 x y, Generated.ppolyCtorArgs = [a0, a1] ∧ Cij.PPoly.ctorArgBySpec a0 tv tf = some x ∧
        Cij.PPoly.ctorArgBySpec a1 tv tf = some y ∧
        finishMode I tv.reverse tf.reverse va = (do
          let r ← I x y (va.map ExpLog.log)
          pure (r.map fun (s, s1, s2) => (ExpLog.exp s, -s1, -s2)))) :=
  ⟨Cij.PPoly.dispatch_is_source, Cij.PPoly.sample_is_source dflt xs ys ds q, Cij.PPoly.ctor_is_source I tv tf va⟩

/-- the two numeric constants of the slope rules are the literals of the INSTALLED scipy's `_cubic.py` (`break_mult = 1.e-9`,
`_edge_case`'s `3.`), whose four functions the model mirrors are pinned on their normalised ast by the same translator run -/
theorem ppoly_constants_are_scipy {K : Type} [Field K] :
    (Cij.PPoly.breakMult : K) = (Generated.akimaBreakMult.1 : K) / (Generated.akimaBreakMult.2 : K) ∧
      (Cij.PPoly.three : K) = (Generated.pchipEdgeFactor : K) ∧ Generated.scipyCubicPinned = true :=
  ⟨Cij.PPoly.breakMult_is_source, Cij.PPoly.edgeFactor_is_source, rfl⟩

/-- non-vacuity: with `extrapolate=False` (what dropping the keyword would mean for Akima) a query outside the nodes has no value,
with `True` it is the first piece's cubic -/
example : Cij.PPoly.evalBySpec false ([0, 1, 3] : List ℚ) [0, 2, 3] [1, 1, 1] 0 (-1) = none ∧
    Cij.PPoly.evalBySpec true ([0, 1, 3] : List ℚ) [0, 2, 3] [1, 1, 1] 0 (-1) = some 4 := by decide +kernel

/-- all five source functions are covered, and all return the canonical pattern -/
theorem mode_return_pattern_all : Generated.modeReturnPattern.length = 5 ∧
    ∀ e ∈ Generated.modeReturnPattern, e.2 = canonicalPattern := ⟨by decide, return_pattern_is_source⟩

/-- non-vacuity: `pchip` dispatches to `interpolate_mode_ppoly`, which thins and flips; `lsq_poly` does neither -/
example : Method.pchip.pyFunction = some "interpolate_mode_ppoly" ∧
    Generated.modeNodesSpec.lookup "interpolate_mode_ppoly" = some (true, true) ∧
    Generated.modeNodesSpec.lookup "interpolate_mode_lsq_poly" = some (false, false) := by decide +kernel

/-- For EVERY integer n the model's selection (`plot_select`: ω, γ, V∂γ/∂V for n = 0, 1, 2, nothing otherwise) is
the interpretation of the selection chain translated from `ModePlotter.plot_modes` on this run, applied to `mode_gamma = [V∂γ/∂V, γ, γ²]` as
`Calculator._interpolate_modes` builds it (translated from calculator.py on this run). -/
theorem plot_select_is_source (n : Int) :
    plotSelect n = Cij.PlotModesSource.selectBy Generated.PlotModes.selection Generated.CalcGlue.interpolateModes.gamma
      Generated.CalcGlue.interpolateModes.freqAttr Generated.CalcGlue.interpolateModes.gammaAttr n :=
  Cij.PlotModesSource.plotSelect_is_source n

/-- the command `cij modes` hands `-n` to `n` and `-q`/`--iq` to `iq` of `plot_modes`, in the declared order; Γ-acoustic skip and loops as
translated -/
theorem plot_command_wiring_is_source :
    Generated.PlotModes.plotParams = ["ax", "n", "iq"] ∧
    Generated.PlotModes.cliCallArgs.drop 1 = Generated.PlotModes.plotParams.drop 1 ∧
    Generated.PlotModes.gammaSkip = 3 ∧ Generated.PlotModes.loopsCanonical = true :=
  ⟨Cij.PlotModesSource.cli_modes_wiring_is_source.1, Cij.PlotModesSource.cli_modes_wiring_is_source.2.1,
   Cij.PlotModesSource.plot_loops_are_source.1, Cij.PlotModesSource.plot_loops_are_source.2.1⟩

end Cij.C11
