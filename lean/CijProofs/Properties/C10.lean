/-
  C10 — Voigt/standard index algebra is a canonical 21-class quotient of the 81 tuples.

  The statements `c10_*` are about `CijModel/Voigt.lean`, whose table is `Generated.voigtToStandard`
  (re-translated from `cij/util/voigt.py` on every run).  Finite quantifiers are stated over ℤ with
  range hypotheses and discharged by kernel evaluation over the complete domain (`decide +kernel`) plus the membership lemmas of
  `Lemmas/Voigt.lean`.

  The statements `voigt_model_is_source*` / `voigt_source_*` (second half) are about the TRANSLATED SOURCE:
  `Generated.VoigtSrc.module` is the whole of `cij/util/voigt.py`, re-emitted from its `ast` on every run as a `PyLite.Module`
  literal and given meaning by the evaluator `PyLite.eval` (`CijModel/PyLite.lean`, the same code the driver runs against
  CPython).  `voigt_model_is_source` says the hand-written model and the translated source agree on the complete finite
  domain (every spelling made of integers or of digits by the theorems for all integers below, the malformed strings and wrong
  arities by kernel evaluation); the `voigt_source_*` theorems restate the clauses of the property about the source itself, so
  they are theorems about what the file says now (relative to the evaluator's semantics, which the harness tests against CPython
  on every run).

  Beyond the finite domain — ALL integers, no `_partial` left:
  * `voigt_source_rejects_voigt`, `voigt_source_rejects_voigt_pair`: Voigt indices, symbolic kernel evaluation (every test the source
    makes on one symbolic integer is decided by its constructors);
  * `voigt_source_rejects_standard_pair`, `voigt_source_standard_pair_canonical`, `voigt_source_rejects_standard`: standard pairs and
    quadruples, `e_` / `c_` and the two `from_standard` classmethods.  `sorted((i, j))` compares two symbolic magnitudes; the kernel
    cannot decide that, so Lemmas/VoigtSrcSort extracts the evaluator's continuation around the sort (a definitional equality
    between two stuck terms, checked by the kernel), rewrites the sort under `i ≤ j` / `j < i` by an ordinary lemma about the
    evaluator's insertion sort, and evaluates the rest — valid for any remaining fuel ≥ 41 and any call depth below the recursion
    limit, so every calling context (direct, via `create`, via the digit spellings) reuses it;
  * `voigt_source_rejects_strain_index`, `voigt_source_modulus_integer`: one-argument integers `n`.  The source spells `str(n)` and
    calls itself on `int(c) for c in …`; Lemmas/VoigtSrcDigits proves the evaluator's `str(int)` is the decimal digit string, runs
    the generator expression over a digit string of SYMBOLIC length by induction (one unit of fuel per character), and dispatches
    on the number of digits.  Stated for `n < intBound = 10 ^ 1900`: the evaluator's fuel covers 1975 digits, beyond that it
    answers `outOfFuel` (never an answer); CPython's own `str(int)` raises ValueError from 10 ^ 4300 on, which PyLite does not model.
    Negative `n`: `e_` → RuntimeError (Voigt index), `c_` → ValueError (`int('-')`), as in CPython.
  * `voigt_model_is_source_ints`: hand model = translated source for every one-, two- and four-integer spelling (the model's
    `toString` digits are the evaluator's, Lemmas/VoigtSrcModelInts).
-/
import CijProofs.Lemmas.Voigt
import CijProofs.Lemmas.VoigtSrc
namespace Cij.C10

open Cij

/-- the canonical key of a 4-index tuple / of a Voigt pair -/
abbrev key4 (t : Int × Int × Int × Int) : Option Modulus := Modulus.fromStandard t.1 t.2.1 t.2.2.1 t.2.2.2
abbrev key2 (p : Int × Int) : Option Modulus := Modulus.fromVoigt p.1 p.2

/-! #### 81 tuples and 36 pairs map onto exactly the 21 canonical keys -/

theorem c10_tuples_into_21 : ∀ t ∈ allTuples, ∃ p ∈ keys21, key4 t = some (keyOfVoigt p) := by
  decide +kernel

theorem c10_pairs_into_21 : ∀ q ∈ allPairs, ∃ p ∈ keys21, key2 q = some (keyOfVoigt p) := by
  decide +kernel

theorem c10_21_onto : ∀ p ∈ keys21, (∃ t ∈ allTuples, key4 t = some (keyOfVoigt p)) ∧
    (∃ q ∈ allPairs, key2 q = some (keyOfVoigt p)) := by
  decide +kernel

theorem c10_21_distinct : keys21.length = 21 ∧ (keys21.map keyOfVoigt).Nodup := by
  decide +kernel

/-- for all integers in range (not just "the list"): a 4-index spelling denotes one of the 21 keys -/
theorem c10_tuples_into_21' (i j k l : Int) (hi : 1 ≤ i ∧ i ≤ 3) (hj : 1 ≤ j ∧ j ≤ 3)
    (hk : 1 ≤ k ∧ k ≤ 3) (hl : 1 ≤ l ∧ l ≤ 3) :
    ∃ p ∈ keys21, Modulus.fromStandard i j k l = some (keyOfVoigt p) :=
  c10_tuples_into_21 (i, j, k, l) ((mem_allTuples i j k l).2 ⟨hi, hj, hk, hl⟩)

/-! #### equality of keys ⇔ related by minor/major symmetry -/

theorem c10_eq_iff_orbit : ∀ s ∈ allTuples, ∀ t ∈ allTuples, (key4 s = key4 t ↔ t ∈ orbit s) := by
  decide +kernel

/-- structural equality is what Python's NamedTuple `__eq__`/`__hash__` use: equal keys have equal
hashes for *any* hash function of the fields. -/
theorem c10_hash_respects_eq {β} (hash : Modulus → β) (a b : Modulus) (h : a = b) : hash a = hash b := by
  rw [h]

/-- a Voigt pair and its transpose give the same key; distinct unordered pairs give distinct keys -/
theorem c10_pair_eq_iff : ∀ p ∈ allPairs, ∀ q ∈ allPairs,
    (key2 p = key2 q ↔ (q = p ∨ q = (p.2, p.1))) := by
  decide +kernel

/-! #### string / integer / 2-index / 4-index spellings agree -/

/-- decimal spelling of a tuple, e.g. (1,1,2,3) ↦ "1123" and 1123 -/
def tupleStr (t : Int × Int × Int × Int) : String :=
  toString t.1 ++ toString t.2.1 ++ toString t.2.2.1 ++ toString t.2.2.2
def tupleInt (t : Int × Int × Int × Int) : Int := 1000 * t.1 + 100 * t.2.1 + 10 * t.2.2.1 + t.2.2.2
def pairStr (p : Int × Int) : String := toString p.1 ++ toString p.2
def pairInt (p : Int × Int) : Int := 10 * p.1 + p.2

theorem c10_spellings_4 : ∀ t ∈ allTuples,
    Modulus.create [.int t.1, .int t.2.1, .int t.2.2.1, .int t.2.2.2] = key4 t ∧
    Modulus.create [.str (tupleStr t)] = key4 t ∧
    Modulus.create [.int (tupleInt t)] = key4 t := by
  decide +kernel

theorem c10_spellings_2 : ∀ p ∈ allPairs,
    Modulus.create [.int p.1, .int p.2] = key2 p ∧
    Modulus.create [.str (pairStr p)] = key2 p ∧
    Modulus.create [.int (pairInt p)] = key2 p := by
  decide +kernel

/-- the documented Voigt map 1→11, 2→22, 3→33, 4→23, 5→13, 6→12 -/
theorem c10_voigt_map :
    Strain.fromVoigt 1 = some ⟨1, 1⟩ ∧ Strain.fromVoigt 2 = some ⟨2, 2⟩ ∧ Strain.fromVoigt 3 = some ⟨3, 3⟩ ∧
    Strain.fromVoigt 4 = some ⟨2, 3⟩ ∧ Strain.fromVoigt 5 = some ⟨1, 3⟩ ∧ Strain.fromVoigt 6 = some ⟨1, 2⟩ := by
  decide +kernel

/-- two-index and four-index spellings of the same component agree -/
theorem c10_two_vs_four : ∀ p ∈ allPairs, ∀ a b, Strain.fromVoigt p.1 = some a → Strain.fromVoigt p.2 = some b →
    key2 p = Modulus.fromStandard a.i a.j b.i b.j := by
  intro p hp a b ha hb
  have : ∀ p ∈ allPairs, key2 p =
      (do let a ← Strain.fromVoigt p.1; let b ← Strain.fromVoigt p.2; Modulus.fromStandard a.i a.j b.i b.j) := by
    decide +kernel
  rw [this p hp, ha, hb]; rfl

/-- strain spellings: e_(v), e_(i,j), e_("ij"), e_(10 i + j), e_("v") agree -/
theorem c10_strain_spellings : ∀ i ∈ idx3, ∀ j ∈ idx3,
    Strain.create [.int i, .int j] = Strain.fromStandard i j ∧
    Strain.create [.str (pairStr (i, j))] = Strain.fromStandard i j ∧
    Strain.create [.int (pairInt (i, j))] = Strain.fromStandard i j ∧
    Strain.fromStandard i j = Strain.fromStandard j i ∧
    (∃ v ∈ idx6, Strain.fromVoigt v = Strain.fromStandard i j ∧ Strain.create [.int v] = Strain.fromVoigt v
        ∧ Strain.create [.str (toString v)] = Strain.fromVoigt v) := by
  decide +kernel

/-! #### round trips through the Voigt and the standard view -/

theorem c10_roundtrip : ∀ p ∈ keys21,
    (keyOfVoigt p).voigt = some p ∧
    key4 (keyOfVoigt p).standard = some (keyOfVoigt p) ∧
    key2 p = some (keyOfVoigt p) := by
  decide +kernel

theorem c10_strain_roundtrip : ∀ v ∈ idx6, ∃ s, Strain.fromVoigt v = some s ∧ s.voigt = some v ∧
    Strain.fromStandard s.standard.1 s.standard.2 = some s := by
  decide +kernel

/-! #### multiplicity = class size, summing to 81 -/

def classSize (k : Modulus) : Nat := (allTuples.filter fun t => key4 t == some k).length

theorem c10_multiplicity : ∀ p ∈ keys21, (keyOfVoigt p).multiplicity = classSize (keyOfVoigt p) := by
  decide +kernel

theorem c10_multiplicity_orbit : ∀ t ∈ allTuples, ∀ k, key4 t = some k →
    k.multiplicity = (orbit t).eraseDups.length := by
  intro t ht k hk
  have : ∀ t ∈ allTuples, (key4 t).map Modulus.multiplicity = some (orbit t).eraseDups.length := by
    decide +kernel
  have h := this t ht
  rw [hk] at h; simpa using h

theorem c10_multiplicity_sum : ((keys21.map keyOfVoigt).map Modulus.multiplicity).sum = 81 := by
  decide +kernel

/-! #### classification partitions the keys 3 / 3 / 15 -/

theorem c10_classification :
    (∀ p ∈ keys21, let k := keyOfVoigt p
      ((k.isLongitudinal && !k.isOffDiagonal && !k.isShear) ||
       (!k.isLongitudinal && k.isOffDiagonal && !k.isShear) ||
       (!k.isLongitudinal && !k.isOffDiagonal && k.isShear)) = true) ∧
    ((keys21.map keyOfVoigt).filter Modulus.isLongitudinal).length = 3 ∧
    ((keys21.map keyOfVoigt).filter Modulus.isOffDiagonal).length = 3 ∧
    ((keys21.map keyOfVoigt).filter Modulus.isShear).length = 15 := by
  decide +kernel

theorem c10_classification_meaning : ∀ p ∈ keys21, let k := keyOfVoigt p
    (k.isLongitudinal = (p.1 == p.2 && p.1 ≤ 3)) ∧
    (k.isOffDiagonal = (p.1 != p.2 && p.2 ≤ 3)) ∧
    (k.isShear = decide (4 ≤ p.2)) ∧
    (k.calcType = if p.2 ≤ 3 then (if p.1 = p.2 then .longitudinal else .offDiagonal) else .shear) := by
  decide +kernel

/-! #### out-of-range indices are rejected — for *every* integer, not only the neighbours -/

theorem c10_reject_standard (i j k l : Int)
    (h : ¬ ((1 ≤ i ∧ i ≤ 3) ∧ (1 ≤ j ∧ j ≤ 3) ∧ (1 ≤ k ∧ k ≤ 3) ∧ (1 ≤ l ∧ l ≤ 3))) :
    Modulus.fromStandard i j k l = none := by
  cases hm : Modulus.fromStandard i j k l with
  | none => rfl
  | some m =>
    exfalso
    obtain ⟨a, b, ha, hb⟩ := modulus_fromStandard_some i j k l m hm
    have h1 := strain_fromStandard_range i j a ha
    have h2 := strain_fromStandard_range k l b hb
    omega

theorem c10_reject_voigt (i j : Int) (h : ¬ ((1 ≤ i ∧ i ≤ 6) ∧ (1 ≤ j ∧ j ≤ 6))) :
    Modulus.fromVoigt i j = none := by
  cases hm : Modulus.fromVoigt i j with
  | none => rfl
  | some m =>
    exfalso
    obtain ⟨a, b, ha, hb⟩ := modulus_fromVoigt_some i j m hm
    have h1 := strain_fromVoigt_range i a ha
    have h2 := strain_fromVoigt_range j b hb
    omega

theorem c10_reject_strain (i j : Int) (h : ¬ ((1 ≤ i ∧ i ≤ 3) ∧ (1 ≤ j ∧ j ≤ 3))) :
    Strain.fromStandard i j = none := by
  cases hm : Strain.fromStandard i j with
  | none => rfl
  | some s => exfalso; have := strain_fromStandard_range i j s hm; omega

theorem c10_reject_strain_voigt (v : Int) (h : ¬ (1 ≤ v ∧ v ≤ 6)) : Strain.fromVoigt v = none := by
  cases hm : Strain.fromVoigt v with
  | none => rfl
  | some s => exfalso; have := strain_fromVoigt_range v s hm; omega

/-- spellings that reach the out-of-range neighbours through the string / integer forms -/
theorem c10_reject_spellings :
    (∀ s ∈ ["", "1", "7", "123", "12345", "10", "01", "17", "70", "1104", "1140", "0111", "4111", "1a", "-12", "1 2"],
        Modulus.create [.str s] = none) ∧
    (∀ n ∈ ([0, 1, 6, 7, 10, 17, 70, 77, 123, 1104, 1140, 4111, 12345, -12, -1123] : List Int),
        Modulus.create [.int n] = none) ∧
    (∀ s ∈ ["", "0", "7", "14", "41", "04", "123", "a"], Strain.create [.str s] = none) ∧
    (∀ n ∈ ([0, 7, 8, 9, -1, 14, 41, 40, 123] : List Int), Strain.create [.int n] = none) := by
  decide +kernel

/-! ## The translated source (`Generated.VoigtSrc.module` under `PyLite.eval`) -/

section Source
open Cij.VoigtSrc

/-- **model = source on the complete finite domain.**  For every spelling in `domainC` (4 indices 0..4 and 2 Voigt indices 0..7,
each positional / str / int; one-argument ints −2..11, malformed strings, long and negative ints; wrong arities) and in `domainE`:
running the translated `cij.util.c_` / `e_` gives the value the model gives, or both reject.  Out-of-fuel / unsupported agree with
nothing, so the evaluator answered on every input. -/
theorem voigt_model_is_source :
    (∀ a ∈ domainC, agreeWith valToModulus (c_ a) (Modulus.create a) = true) ∧
    (∀ a ∈ domainE, agreeWith valToStrain (e_ a) (Strain.create a) = true) :=
  ⟨domainC_agrees, List.all_eq_true.mp domainE_agrees⟩

/-- the domain of `voigt_model_is_source` contains every spelling the property names -/
example : ([.int 1, .int 1, .int 2, .int 3] : List Arg) ∈ domainC ∧ [Arg.str "2311"] ∈ domainC ∧ [Arg.int 46] ∈ domainC ∧
    [Arg.int 4, .int 1, .int 1, .int 1] ∈ domainC ∧ [Arg.int 7, .int 0] ∈ domainC ∧ [Arg.str "1a"] ∈ domainC ∧
    [Arg.int 3, .int 1] ∈ domainE ∧ [Arg.str "6"] ∈ domainE ∧ domainC.length = 1980 ∧ domainE.length = 115 := by
  decide +kernel

/-- the keys the source builds for the 81 tuples, 36 pairs, 9 strain pairs and 6 strain indices are the model's -/
theorem voigt_model_is_source_keys :
    (∀ t ∈ allTuples, srcKey4 t = key4 t) ∧ (∀ p ∈ allPairs, srcKey2 p = key2 p) ∧
    (∀ i ∈ idx3, ∀ j ∈ idx3, srcStrain2 i j = Strain.fromStandard i j) ∧ (∀ v ∈ idx6, srcStrain1 v = Strain.fromVoigt v) :=
  ⟨fun t _ => srcKey4_eq t, fun p _ => srcKey2_eq p, fun i _ j _ => srcStrain2_eq i j,
    fun v hv => srcStrain1_eq (by have := (mem_idx6 v).1 hv; omega)⟩

/-- every view of each of the 21 keys read off the source (`.voigt .standard .multiplicity .is_* .calc_type`) is the model's -/
theorem voigt_model_is_source_views : ∀ p ∈ keys21,
    srcVoigt (keyOfVoigt p) = ((keyOfVoigt p).voigt.map fun (a, b) => [a, b]) ∧
    srcStandard (keyOfVoigt p) = some (let (a, b, c, d) := (keyOfVoigt p).standard; [a, b, c, d]) ∧
    srcMultiplicity (keyOfVoigt p) = some (Int.ofNat (keyOfVoigt p).multiplicity) ∧
    srcFlag "is_longitudinal" (keyOfVoigt p) = some (keyOfVoigt p).isLongitudinal ∧
    srcFlag "is_off_diagonal" (keyOfVoigt p) = some (keyOfVoigt p).isOffDiagonal ∧
    srcFlag "is_shear" (keyOfVoigt p) = some (keyOfVoigt p).isShear ∧
    srcCalcType (keyOfVoigt p) = some (calcName (keyOfVoigt p).calcType) := by
  intro p hp
  have hm : ∀ p ∈ keys21, ((keyOfVoigt p).voigt.map fun (a, b) => [a, b]) = some [p.1, p.2] ∧
      (let (a, b, c, d) := (keyOfVoigt p).standard; [a, b, c, d]) = stdOf p.1 ++ stdOf p.2 := by decide +kernel
  obtain ⟨h1, h2, h3, h4, h5, h6, h7, _⟩ := src_views p hp
  exact ⟨h1.trans (hm p hp).1.symm, h2.trans (congrArg some (hm p hp).2.symm), h3, h4, h5, h6, h7⟩

/-! #### the clauses of C10, restated about the translated source -/

/-- 81 tuples and 36 pairs map ONTO exactly 21 distinct keys -/
theorem voigt_source_canonical_21 :
    (∀ t ∈ allTuples, ∃ p ∈ keys21, srcKey4 t = some (keyOfVoigt p)) ∧
    (∀ q ∈ allPairs, ∃ p ∈ keys21, srcKey2 q = some (keyOfVoigt p)) ∧
    (∀ p ∈ keys21, (∃ t ∈ allTuples, srcKey4 t = some (keyOfVoigt p)) ∧ (∃ q ∈ allPairs, srcKey2 q = some (keyOfVoigt p))) ∧
    keys21.length = 21 ∧ (keys21.map keyOfVoigt).Nodup := by
  refine ⟨fun t ht => ?_, fun q hq => ?_, fun p hp => ⟨?_, ?_⟩, c10_21_distinct.1, c10_21_distinct.2⟩
  · rw [srcKey4_eq]; exact c10_tuples_into_21 t ht
  · rw [srcKey2_eq]; exact c10_pairs_into_21 q hq
  · obtain ⟨t, ht, h⟩ := (c10_21_onto p hp).1; exact ⟨t, ht, (srcKey4_eq t).trans h⟩
  · obtain ⟨q, hq, h⟩ := (c10_21_onto p hp).2; exact ⟨q, hq, (srcKey2_eq q).trans h⟩

/-- two tuples get the same key from the source iff they are related by the minor / major symmetries -/
theorem voigt_source_eq_iff_orbit : ∀ s ∈ allTuples, ∀ t ∈ allTuples, (srcKey4 s = srcKey4 t ↔ t ∈ orbit s) := by
  intro s hs t ht
  rw [srcKey4_eq, srcKey4_eq]; exact c10_eq_iff_orbit s hs t ht

theorem voigt_source_pair_eq_iff : ∀ p ∈ allPairs, ∀ q ∈ allPairs, (srcKey2 p = srcKey2 q ↔ (q = p ∨ q = (p.2, p.1))) := by
  intro p hp q hq
  rw [srcKey2_eq, srcKey2_eq]; exact c10_pair_eq_iff p hp q hq

/-- string, integer, two-index and four-index spellings of the same component give the same key -/
theorem voigt_source_spellings :
    (∀ t ∈ allTuples, decodeC (c_ [.str (tupleStr t)]) = srcKey4 t ∧ decodeC (c_ [.int (tupleInt t)]) = srcKey4 t) ∧
    (∀ p ∈ allPairs, decodeC (c_ [.str (pairStr p)]) = srcKey2 p ∧ decodeC (c_ [.int (pairInt p)]) = srcKey2 p) ∧
    (∀ p ∈ allPairs, ∀ a b, Strain.fromVoigt p.1 = some a → Strain.fromVoigt p.2 = some b →
        srcKey2 p = srcKey4 (a.i, a.j, b.i, b.j)) := by
  have g4 : ∀ t ∈ allTuples, general [.str (tupleStr t)] = true ∧ general [.int (tupleInt t)] = true := by decide +kernel
  have g2 : ∀ p ∈ allPairs, general [.str (pairStr p)] = true ∧ general [.int (pairInt p)] = true := by decide +kernel
  refine ⟨fun t ht => ?_, fun p hp => ?_, fun p hp a b ha hb => ?_⟩
  · rw [decodeC_eq_create (agreeC_general _ (g4 t ht).1), decodeC_eq_create (agreeC_general _ (g4 t ht).2), srcKey4_eq]
    exact (c10_spellings_4 t ht).2
  · rw [decodeC_eq_create (agreeC_general _ (g2 p hp).1), decodeC_eq_create (agreeC_general _ (g2 p hp).2), srcKey2_eq]
    exact (c10_spellings_2 p hp).2
  · rw [srcKey2_eq, srcKey4_eq]; exact c10_two_vs_four p hp a b ha hb

/-- round trip through the Voigt and the standard view (1→11, 2→22, 3→33, 4→23, 5→13, 6→12 — the map as translated), and
canonical ordering: whatever the order of the arguments, the Voigt view of the key is ascending -/
theorem voigt_source_roundtrip :
    (∀ p ∈ keys21, srcKey2 p = some (keyOfVoigt p) ∧ srcVoigt (keyOfVoigt p) = some [p.1, p.2] ∧
        srcStandard (keyOfVoigt p) = some (stdOf p.1 ++ stdOf p.2) ∧
        srcKey4 (keyOfVoigt p).standard = some (keyOfVoigt p)) ∧
    (∀ q ∈ allPairs, (srcKey2 q).bind srcVoigt = some [min q.1 q.2, max q.1 q.2]) ∧
    (∀ t ∈ allTuples, ascending ((srcKey4 t).bind srcVoigt) = true) ∧
    ([1, 2, 3, 4, 5, 6].map stdOf = [[1, 1], [2, 2], [3, 3], [2, 3], [1, 3], [1, 2]]) := by
  have hq : ∀ q ∈ allPairs, (min q.1 q.2, max q.1 q.2) ∈ keys21 ∧
      key2 q = some (keyOfVoigt (min q.1 q.2, max q.1 q.2)) := by decide +kernel
  have hle : ∀ p ∈ keys21, p.1 ≤ p.2 := by decide +kernel
  refine ⟨fun p hp => ⟨?_, (src_views p hp).1, (src_views p hp).2.1, ?_⟩, fun q hq' => ?_, fun t ht => ?_, by decide +kernel⟩
  · rw [srcKey2_eq]; exact (c10_roundtrip p hp).2.2
  · rw [srcKey4_eq]; exact (c10_roundtrip p hp).2.1
  · rw [srcKey2_eq]
    show (key2 q).bind srcVoigt = _
    rw [(hq q hq').2]; exact (src_views _ (hq q hq').1).1
  · obtain ⟨p, hp, h⟩ := c10_tuples_into_21 t ht
    rw [srcKey4_eq]
    show ascending ((key4 t).bind srcVoigt) = true
    rw [h]
    show ascending (srcVoigt (keyOfVoigt p)) = true
    rw [(src_views p hp).1]
    exact decide_eq_true (hle p hp)

/-- the multiplicity the source computes for a key is the number of tuples the source maps to it; the 21 multiplicities sum to 81 -/
theorem voigt_source_multiplicity :
    (∀ p ∈ keys21, srcMultiplicity (keyOfVoigt p) =
        some (Int.ofNat (allTuples.filter fun t => srcKey4 t == some (keyOfVoigt p)).length)) ∧
    ((keys21.map fun p => (srcMultiplicity (keyOfVoigt p)).getD 0).sum = 81) := by
  have hf : ∀ k, (allTuples.filter fun t => srcKey4 t == some k) = (allTuples.filter fun t => key4 t == some k) := by
    intro k; apply List.filter_congr; intro t _; rw [srcKey4_eq]
  refine ⟨fun p hp => ?_, ?_⟩
  · rw [(src_views p hp).2.2.1, hf, c10_multiplicity p hp]; rfl
  · have : (keys21.map fun p => (srcMultiplicity (keyOfVoigt p)).getD 0) =
        (keys21.map fun p => Int.ofNat (keyOfVoigt p).multiplicity) := by
      apply List.map_congr_left; intro p hp; rw [(src_views p hp).2.2.1]; rfl
    rw [this]; decide +kernel

/-- longitudinal / off-diagonal / shear as the source computes them partition the 21 keys 3 / 3 / 15, and `calc_type` names the
class -/
theorem voigt_source_classification :
    (∀ p ∈ keys21,
      srcFlag "is_longitudinal" (keyOfVoigt p) = some (p.1 == p.2 && p.1 ≤ 3) ∧
      srcFlag "is_off_diagonal" (keyOfVoigt p) = some (p.1 != p.2 && p.2 ≤ 3) ∧
      srcFlag "is_shear" (keyOfVoigt p) = some (decide (4 ≤ p.2)) ∧
      srcCalcType (keyOfVoigt p) =
        some (if p.2 ≤ 3 then (if p.1 = p.2 then "LONGITUDINAL" else "OFF_DIAGONAL") else "SHEAR")) ∧
    (keys21.filter fun p => p.1 == p.2 && p.1 ≤ 3).length = 3 ∧
    (keys21.filter fun p => p.1 != p.2 && p.2 ≤ 3).length = 3 ∧
    (keys21.filter fun p => decide (4 ≤ p.2)).length = 15 := by
  refine ⟨fun p hp => ?_, by decide +kernel, by decide +kernel, by decide +kernel⟩
  obtain ⟨_, _, _, h4, h5, h6, h7, _⟩ := src_views p hp
  obtain ⟨m1, m2, m3, m4⟩ := c10_classification_meaning p hp
  refine ⟨h4.trans (congrArg some m1), h5.trans (congrArg some m2), h6.trans (congrArg some m3), h7.trans ?_⟩
  rw [m4]
  by_cases a : p.2 ≤ 3 <;> by_cases b : p.1 = p.2 <;> simp [a, b, calcName]

/-- `repr` of the 21 keys and of the 6 strains as the source formats them: Voigt digits, standard digits in parentheses -/
theorem voigt_source_repr :
    (∀ p ∈ keys21, strOfR (srcRepr (keyOfVoigt p)) = some (reprSpec p)) ∧
    (∀ v ∈ idx6, ∃ s, Strain.fromVoigt v = some s ∧ strOfR (srcReprE s) = some (reprSpecE v)) ∧
    reprSpec (1, 4) = "14(1123)" ∧ reprSpec (6, 6) = "66(1212)" ∧ reprSpecE 5 = "5(13)" := by
  refine ⟨fun p hp => (src_views p hp).2.2.2.2.2.2.2, fun v hv => ?_, by decide +kernel, by decide +kernel, by decide +kernel⟩
  obtain ⟨s, h1, _, _, h4⟩ := src_viewsE v hv
  exact ⟨s, h1, h4⟩

/-! #### out-of-range indices are rejected by the source — for every integer, by evaluating the AST with symbolic arguments -/

/-- `StrainRepresentation.from_voigt(v)` raises RuntimeError for EVERY integer outside 1..6 -/
theorem voigt_source_rejects_voigt (v : Int) (h : ¬(1 ≤ v ∧ v ≤ 6)) :
    excKind (srcFun "StrainRepresentation" "from_voigt" [.int v]) = some "RuntimeError" ∧ Strain.fromVoigt v = none :=
  ⟨src_from_voigt_rejects v h, c10_reject_strain_voigt v h⟩

/-- `c_(i, j)` raises RuntimeError for EVERY pair of integers not both in 1..6 — as the model rejects it -/
theorem voigt_source_rejects_voigt_pair (i j : Int) (h : ¬((1 ≤ i ∧ i ≤ 6) ∧ (1 ≤ j ∧ j ≤ 6))) :
    excKind (srcCall "c_" [.int i, .int j]) = some "RuntimeError" ∧ Modulus.fromVoigt i j = none :=
  ⟨src_c2_rejects i j h, c10_reject_voigt i j h⟩

/-- `e_(i, j)` and `StrainRepresentation.from_standard(i, j)` raise RuntimeError for EVERY pair of integers not both in 1..3
(no exclusions: `sorted((i, j))` on two symbolic magnitudes is handled by continuation extraction + `i ≤ j ∨ j < i`, Lemmas/VoigtSrcSort) -/
theorem voigt_source_rejects_standard_pair (i j : Int) (h : ¬((1 ≤ i ∧ i ≤ 3) ∧ (1 ≤ j ∧ j ≤ 3))) :
    excKind (srcCall "e_" [.int i, .int j]) = some "RuntimeError" ∧
    excKind (srcFun "StrainRepresentation" "from_standard" [.int i, .int j]) = some "RuntimeError" ∧
    Strain.fromStandard i j = none :=
  ⟨(src_e2_all i j).1 (fun hin => h ((in3_iff i j).1 hin)), (src_fs_all i j).1 (fun hin => h ((in3_iff i j).1 hin)),
   c10_reject_strain i j h⟩

/-- … and for EVERY pair in 1..3 both return the canonical strain `(min, max)` — sorted within the pair, for all integers at once -/
theorem voigt_source_standard_pair_canonical (i j : Int) (h : (1 ≤ i ∧ i ≤ 3) ∧ (1 ≤ j ∧ j ≤ 3)) :
    srcCall "e_" [.int i, .int j] = .ok (Strain.toVal ⟨min i j, max i j⟩) ∧
    srcFun "StrainRepresentation" "from_standard" [.int i, .int j] = .ok (Strain.toVal ⟨min i j, max i j⟩) ∧
    Strain.fromStandard i j = some ⟨min i j, max i j⟩ := by
  have hin := (in3_iff i j).2 h
  refine ⟨(src_e2_all i j).2 hin, (src_fs_all i j).2 hin, ?_⟩
  rw [model_fromStandard i j, if_pos hin]

/-- `c_(i, j, k, l)` and `ModulusRepresentation.from_standard(i, j, k, l)` raise RuntimeError for EVERY quadruple of integers not all
in 1..3 -/
theorem voigt_source_rejects_standard (i j k l : Int)
    (h : ¬((1 ≤ i ∧ i ≤ 3) ∧ (1 ≤ j ∧ j ≤ 3) ∧ (1 ≤ k ∧ k ≤ 3) ∧ (1 ≤ l ∧ l ≤ 3))) :
    excKind (srcCall "c_" [.int i, .int j, .int k, .int l]) = some "RuntimeError" ∧
    excKind (srcFun "ModulusRepresentation" "from_standard" [.int i, .int j, .int k, .int l]) = some "RuntimeError" ∧
    Modulus.fromStandard i j k l = none := by
  have hn : ¬(in3 i j ∧ in3 k l) := fun ⟨a, b⟩ => h ⟨((in3_iff i j).1 a).1, ((in3_iff i j).1 a).2, ((in3_iff k l).1 b).1, ((in3_iff k l).1 b).2⟩
  exact ⟨src_c4_rejects i j k l hn, src_c4_direct_rejects i j k l hn, c10_reject_standard i j k l h⟩

/-- **model = source for ALL integer spellings**, not only the decided domain: two and four positional integers without any bound;
one integer `n` (the source spells `str(n)` and calls itself on the digits) for every `n < intBound = 10 ^ 1900`, negative ones
included.  The bound is the evaluator's fuel (one unit per digit of `str(n)`; 1975 digits fit into `fuel.depth = 2000`); CPython's
own `str(int)` refuses from 10 ^ 4300 on. -/
theorem voigt_model_is_source_ints :
    (∀ i j : Int, agreeWith valToStrain (e_ [.int i, .int j]) (Strain.create [.int i, .int j]) = true) ∧
    (∀ i j : Int, agreeWith valToModulus (c_ [.int i, .int j]) (Modulus.create [.int i, .int j]) = true) ∧
    (∀ i j k l : Int, agreeWith valToModulus (c_ [.int i, .int j, .int k, .int l])
        (Modulus.create [.int i, .int j, .int k, .int l]) = true) ∧
    (∀ n : Int, n < Int.ofNat intBound →
        agreeWith valToStrain (e_ [.int n]) (Strain.create [.int n]) = true ∧
        agreeWith valToModulus (c_ [.int n]) (Modulus.create [.int n]) = true) :=
  ⟨agreeE_pair, agreeC_pair, agreeC_quad, fun n hn => ⟨agreeE_int n hn, agreeC_int n hn⟩⟩

/-- `e_(v)` with one integer, every `v < intBound`: below 10 it is the Voigt index (RuntimeError outside 1..6, negative included);
two digits `10 a + b` are the standard pair `(a, b)` (RuntimeError unless both in 1..3, the canonical strain otherwise); three or more
digits are too many positional arguments for `create` — TypeError -/
theorem voigt_source_rejects_strain_index (v : Int) :
    (v < 10 → ¬(1 ≤ v ∧ v ≤ 6) → excKind (srcCall "e_" [.int v]) = some "RuntimeError") ∧
    (∀ n : Nat, v = Int.ofNat n → 10 ≤ n → n < 100 →
        (¬((1 ≤ n / 10 ∧ n / 10 ≤ 3) ∧ (1 ≤ n % 10 ∧ n % 10 ≤ 3)) → excKind (srcCall "e_" [.int v]) = some "RuntimeError") ∧
        ((1 ≤ n / 10 ∧ n / 10 ≤ 3) ∧ (1 ≤ n % 10 ∧ n % 10 ≤ 3) →
          srcCall "e_" [.int v] = .ok (Strain.toVal ⟨Int.ofNat (min (n / 10) (n % 10)), Int.ofNat (max (n / 10) (n % 10))⟩))) ∧
    (∀ n : Nat, v = Int.ofNat n → 100 ≤ n → n < intBound → excKind (srcCall "e_" [.int v]) = some "TypeError") := by
  refine ⟨src_e1_rejects v, ?_, ?_⟩
  · rintro n rfl h1 h2
    obtain ⟨r, a⟩ := src_e1_two n h1 h2
    have hi : in3 (Int.ofNat (n / 10)) (Int.ofNat (n % 10)) ↔ (1 ≤ n / 10 ∧ n / 10 ≤ 3) ∧ (1 ≤ n % 10 ∧ n % 10 ≤ 3) := by
      rw [in3_iff]
      have e1 : (Int.ofNat (n / 10)) = ((n / 10 : Nat) : Int) := rfl
      have e2 : (Int.ofNat (n % 10)) = ((n % 10 : Nat) : Int) := rfl
      rw [e1, e2]; omega
    refine ⟨fun hn => r (fun hin => hn (hi.1 hin)), fun hy => ?_⟩
    rw [a (hi.2 hy)]
    have e1 : (Int.ofNat (n / 10)) = ((n / 10 : Nat) : Int) := rfl
    have e2 : (Int.ofNat (n % 10)) = ((n % 10 : Nat) : Int) := rfl
    have m1 : min (Int.ofNat (n / 10)) (Int.ofNat (n % 10)) = Int.ofNat (min (n / 10) (n % 10)) := by
      have : (Int.ofNat (min (n / 10) (n % 10))) = ((min (n / 10) (n % 10) : Nat) : Int) := rfl
      rw [e1, e2, this]; omega
    have m2 : max (Int.ofNat (n / 10)) (Int.ofNat (n % 10)) = Int.ofNat (max (n / 10) (n % 10)) := by
      have : (Int.ofNat (max (n / 10) (n % 10))) = ((max (n / 10) (n % 10) : Nat) : Int) := rfl
      rw [e1, e2, this]; omega
    rw [m1, m2]
  · rintro n rfl h1 hn
    exact src_e1_many n h1 hn

/-- `c_(v)` with one integer, every `v < intBound`: a negative one dies in `int('-')` (ValueError, as in CPython); one digit
recurses for ever (`create(5)` → `create("5")` → `create(5)` …: RecursionError); two digits `10 a + b` are the Voigt pair `(a, b)`; three
digits and five or more are "Invalid modulus representation" (RuntimeError); four digits are the standard tuple -/
theorem voigt_source_modulus_integer (v : Int) :
    (v < 0 → excKind (srcCall "c_" [.int v]) = some "ValueError") ∧
    (∀ n : Nat, v = Int.ofNat n →
      (n < 10 → excKind (srcCall "c_" [.int v]) = some "RecursionError") ∧
      (10 ≤ n → n < 100 → agreeWith valToModulus (srcCall "c_" [.int v]) (Modulus.fromVoigt (Int.ofNat (n / 10)) (Int.ofNat (n % 10))) = true) ∧
      (100 ≤ n → n < 1000 → excKind (srcCall "c_" [.int v]) = some "RuntimeError") ∧
      (1000 ≤ n → n < 10000 → agreeWith valToModulus (srcCall "c_" [.int v])
          (Modulus.fromStandard (Int.ofNat (n / 1000)) (Int.ofNat (n / 100 % 10)) (Int.ofNat (n / 10 % 10)) (Int.ofNat (n % 10))) = true) ∧
      (10000 ≤ n → n < intBound → excKind (srcCall "c_" [.int v]) = some "RuntimeError")) := by
  refine ⟨fun h => ?_, ?_⟩
  · cases v with
    | ofNat k => exact absurd h (by have : (Int.ofNat k) = (k : Int) := rfl; omega)
    | negSucc a => exact c1_neg a
  · rintro n rfl
    refine ⟨src_c1_one n, src_c1_two n, src_c1_three n, fun h1 h2 => ?_, src_c1_many n⟩
    obtain ⟨r, a⟩ := src_c1_four n h1 h2
    by_cases hin : in3 (Int.ofNat (n / 1000)) (Int.ofNat (n / 100 % 10)) ∧ in3 (Int.ofNat (n / 10 % 10)) (Int.ofNat (n % 10))
    · exact a hin
    · rw [model_fromStandard4, if_neg hin]; exact agree_exc _ (r hin)

/-- non-vacuity of the symbolic statements, and the messages on a few concrete instances -/
example : isExcMsg (srcCall "c_" [.int 0, .int 3]) "RuntimeError" "Invalid voigt index 0" = true ∧
    isExcMsg (srcCall "c_" [.int 1, .int 1, .int 2, .int 4]) "RuntimeError" "Invalid standard index 24" = true ∧
    isExcMsg (srcCall "e_" [.int (-5), .int 2]) "RuntimeError" "Invalid standard index -52" = true ∧
    isExc (srcCall "c_" [.int 5]) "RecursionError" = true ∧ isExc (srcCall "c_" [.str (PyLite.codes "1a")]) "ValueError" = true ∧
    isExc (srcCall "e_" [.int 123]) "TypeError" = true ∧
    isExcMsg (srcCall "e_" [.int (-7), .int (-5)]) "RuntimeError" "Invalid standard index -7-5" = true ∧
    isExcMsg (srcCall "e_" [.int 9, .int 5]) "RuntimeError" "Invalid standard index 59" = true ∧
    isExc (srcCall "c_" [.int (-12)]) "ValueError" = true ∧ isExc (srcCall "c_" [.int 123456789012]) "RuntimeError" = true := by
  decide +kernel

/-- non-vacuity of the bound: twelve-digit integers are far below it -/
example : (123456789012 : Int) < Int.ofNat intBound ∧ (10 : Nat) ^ 1899 < intBound := by
  decide +kernel

end Source

/-! #### non-vacuity: concrete instances of the hypotheses -/

example : (1, 1, 2, 3) ∈ allTuples ∧ key4 (1, 1, 2, 3) = key4 (3, 2, 1, 1) ∧ key4 (1, 1, 2, 3) ≠ key4 (1, 2, 1, 3) := by
  decide +kernel
example : Modulus.create [.str "46"] = Modulus.create [.int 2312] ∧ (Modulus.create [.str "46"]).isSome := by
  decide +kernel
example : Modulus.fromStandard 1 1 2 4 = none ∧ Modulus.fromVoigt 0 3 = none ∧ Modulus.fromVoigt 7 1 = none := by
  decide +kernel

end Cij.C10
