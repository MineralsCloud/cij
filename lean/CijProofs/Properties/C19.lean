/-
  C19 — `cij extract` and `cij extract-geotherm` return table values faithfully.

  Statements are about `CijModel/Extract.lean` (the selection / wiring of cij/cli/extract.py and
  cij/cli/geotherm.py) over an arbitrary ordered field (ℝ, ℚ); file names are those of
  `Generated.writerRules` through `CijModel/Writer.lean`.

  Tie to the SOURCE: `tools/gens/extract_src.py` re-reads cij/cli/extract.py, cij/cli/geotherm.py and the
  registrations of cij/cli/cij.py on every run into `Generated/ExtractSpec.lean` (glob pattern, reader arguments,
  the if/elif selection, `y_index = …` as an expression tree, click options and defaults, spline-call wiring,
  every signature default and module-level statement); the `extract_model_is_source_*` theorems below say that the
  model is the interpretation (`CijModel/ExtractSrc.lean`) of exactly that data.

  Partial by design: `scipy.interpolate.RectBivariateSpline` is a parameter `S` with two contracts,
  `Interpolates` (`S x y z x_i y_j = z_ij`) and `ReproducesBicubicsOn` (a table sampled from a polynomial of degree ≤ 3
  in each variable is reproduced everywhere in the window — what an interpolating bicubic spline does, the spline
  space containing those polynomials).  Proved here: what follows from the contracts along every geotherm; that for
  4×4 tables (no interior knots: the spline is ONE bicubic polynomial) the contracts DETERMINE the spline —
  `bicubic44`, the tensor Lagrange form, is the unique bicubic through the table — and satisfy both.  FITPACK's
  not-a-knot construction for more than 4 nodes per axis is not modelled, and convergence O(h⁴) for general smooth
  functions (`geotherm_between_nodes`, comment below) is not proved: harness/c19.py measures both contracts on the
  real command and the error ratio under refinement.
  Printing (`DataFrame.to_string`) is outside the model (the harness parses the real stdout).
-/
import CijProofs.Lemmas.Extract
import CijProofs.Lemmas.ExtractSource
import CijProofs.Lemmas.Bicubic

namespace Cij.C19

open Cij Cij.Writer Cij.Extract Cij.ExtractSrc Generated

/-! #### nearest-index selection -/

/-- `numpy.argmin(|x − y|)`: the index returned is a nearest grid value, and the FIRST one on a tie. -/
theorem argmin_nearest {α} [Field α] [LinearOrder α] [IsStrictOrderedRing α] (xs : List α) (y : α) (i : Nat)
    (h : argminAbs xs y = some i) :
    ∃ xi, xs[i]? = some xi ∧ ∀ j xj, xs[j]? = some xj → |xi - y| ≤ |xj - y| ∧ (j < i → |xi - y| < |xj - y|) := by
  obtain ⟨v, hv, hall⟩ := argminFirst_spec _ _ h
  simp only [List.getElem?_map, Option.map_eq_some_iff] at hv
  obtain ⟨xi, hxi, rfl⟩ := hv
  refine ⟨xi, hxi, fun j xj hj => ?_⟩
  have := hall j (absv (xj - y)) (by simp [hj])
  simpa [absv_eq_abs] using this

/-- a non-empty axis always yields an index (requests beyond the grid select the end point, see examples) -/
theorem argmin_defined {α} [Field α] [LinearOrder α] [IsStrictOrderedRing α] (xs : List α) (y : α) (h : xs ≠ []) :
    (argminAbs xs y).isSome := by
  unfold argminAbs
  exact argminFirst_isSome _ (by simpa using h)

/-- a requested value that IS on the grid selects (the first occurrence of) itself -/
theorem argmin_on_grid {α} [Field α] [LinearOrder α] [IsStrictOrderedRing α] (xs : List α) (y : α) (i k : Nat)
    (h : argminAbs xs y = some i) (hk : xs[k]? = some y) : xs[i]? = some y := by
  obtain ⟨xi, hxi, hall⟩ := argmin_nearest xs y i h
  have := (hall k y hk).1
  simp only [sub_self, abs_zero, abs_nonpos_iff] at this
  rw [hxi, sub_eq_zero.1 this]

/-! #### extract: one variable -/

/-- `-T t`: the series extracted from a table is the row whose temperature is nearest to `t`, labelled by the
table's pressures.  (`-T` wins if `-P` is given too, as coded.) -/
theorem extract_row_T {α} [Field α] [LinearOrder α] [IsStrictOrderedRing α] (tab : Tab α) (t : α) (p : Option α)
    (labels values : List α) (h : selectRow tab (some t) p = some (labels, values)) :
    labels = tab.cols ∧
    ∃ i ti, tab.rows[i]? = some ti ∧ tab.vals[i]? = some values ∧
      ∀ (j : Nat) (tj : α), tab.rows[j]? = some tj → |ti - t| ≤ |tj - t| ∧ (j < i → |ti - t| < |tj - t|) := by
  simp only [selectRow, pick, Option.bind_eq_bind] at h
  cases hi : argminAbs tab.rows t with
  | none => simp [hi] at h
  | some i =>
    simp only [hi, Option.bind_some] at h
    cases hrow : tab.vals[i]? with
    | none => simp [hrow] at h
    | some row =>
      simp only [hrow, Option.bind_some, Option.pure_def, Option.some.injEq, Prod.mk.injEq] at h
      obtain ⟨rfl, rfl⟩ := h
      obtain ⟨ti, hti, hall⟩ := argmin_nearest tab.rows t i hi
      exact ⟨rfl, i, ti, hti, hrow, hall⟩

/-- `-P p`: the series is the COLUMN whose pressure is nearest to `p`, labelled by the table's temperatures
(the transpose is applied before the row selection). -/
theorem extract_row_P {α} [Field α] [LinearOrder α] [IsStrictOrderedRing α] (tab : Tab α) (p : α)
    (labels values : List α) (hrect : ∀ row ∈ tab.vals, row.length = tab.cols.length)
    (h : selectRow tab none (some p) = some (labels, values)) :
    labels = tab.rows ∧
    ∃ j pj, tab.cols[j]? = some pj ∧
      (∀ (k : Nat) (pk : α), tab.cols[k]? = some pk → |pj - p| ≤ |pk - p| ∧ (k < j → |pj - p| < |pk - p|)) ∧
      values.length = tab.vals.length ∧
      ∀ (i : Nat) (row : List α), tab.vals[i]? = some row → values[i]? = row[j]? := by
  simp only [selectRow, pick, Tab.transpose, Option.bind_eq_bind] at h
  cases hj : argminAbs tab.cols p with
  | none => simp [hj] at h
  | some j =>
    simp only [hj, Option.bind_some] at h
    obtain ⟨pj, hpj, hall⟩ := argmin_nearest tab.cols p j hj
    have hjlt : j < tab.cols.length := by
      by_contra hcon; rw [List.getElem?_eq_none (by omega)] at hpj; cases hpj
    simp only [List.getElem?_map, List.getElem?_range hjlt, Option.map_some, Option.bind_some,
      Option.pure_def, Option.some.injEq, Prod.mk.injEq] at h
    obtain ⟨rfl, rfl⟩ := h
    obtain ⟨c1, c2⟩ := column_spec tab.vals j (fun row hrow => by rw [hrect row hrow]; exact hjlt)
    exact ⟨rfl, j, pj, hpj, hall, c1, c2⟩

/-- neither `-T` nor `-P`: the command fails (UnboundLocalError in the code) -/
theorem extract_needs_T_or_P {α} [Field α] [LinearOrder α] [IsStrictOrderedRing α] (tab : Tab α) :
    selectRow tab none none = none := rfl

/-! #### extract: any number of variables -/

/-- The printed table: index = the shared other-axis labels, one column per requested variable, in the
requested order, each column being exactly the series selected from THAT variable's table. -/
theorem extract_columns {α} [Field α] [LinearOrder α] [IsStrictOrderedRing α]
    (dir : List (String × Tab α)) (vars : List String) (T P : Option α)
    (labels : List α) (series : String → List α)
    (hne : vars ≠ []) (hnodup : labels.Nodup)
    (hsel : ∀ v ∈ vars, (loadData dir v).bind (fun tab => selectRow tab T P) = some (labels, series v))
    (hlen : ∀ v ∈ vars, (series v).length = labels.length) :
    extract dir vars T P = some (labels, vars.map fun v => (v, (series v).map some)) := by
  unfold extract
  have hmap : (vars.map fun v => (loadData dir v).bind fun t => selectRow t T P) =
      (vars.map fun v => (labels, series v)).map some := by
    rw [List.map_map]; apply List.map_congr_left; intro v hv; simpa using hsel v hv
  have hmap' : (vars.map fun v => do let t ← loadData dir v; selectRow t T P) =
      (vars.map fun v => (labels, series v)).map some := hmap
  rw [hmap', optAll_map_some]
  have hlast : (vars.map fun v => (labels, series v)).getLast? =
      some (labels, series (vars.getLast hne)) := by
    rw [List.getLast?_map, List.getLast?_eq_getLast_of_ne_nil hne]; rfl
  simp only [Option.bind_eq_bind, Option.bind_some, hlast, Option.pure_def, Option.some.injEq, Prod.mk.injEq,
    true_and]
  rw [← List.map_prod_left_eq_zip, List.map_map]
  apply List.map_congr_left
  intro v hv
  simp only [Function.comp]
  rw [align_self labels (series v) hnodup (hlen v hv)]

/-! #### variable ↦ file -/

/-- if exactly one file of the directory matches `"{var}_tp_*"`, that file is read — whatever the order in
which glob lists the directory -/
theorem load_unique {α} (dir : List (String × Tab α)) (var f : String) (tab : Tab α)
    (hmem : (f, tab) ∈ dir) (hmatch : globMatches var f = true)
    (huniq : ∀ e ∈ dir, globMatches var e.1 = true → e = (f, tab)) :
    loadData dir var = some tab := by
  unfold loadData
  cases hfind : dir.find? (fun e => globMatches var e.1) with
  | none =>
    rw [List.find?_eq_none] at hfind
    exact absurd hmatch (by simpa using hfind (f, tab) hmem)
  | some e =>
    have h1 := List.find?_some hfind
    have h2 := List.mem_of_find?_eq_some hfind
    rw [huniq e h2 h1]; rfl

/-- on the names the writer rules produce for the pressure base (10 + 2×21 files): a variable name — the part
of a file name before "_tp_", e.g. c11s, bm_VRH, v_p — matches its own file and no other, so `extract` never
reads a different variable's table (e.g. `v` does not pick up `v_p_tp_km_s.txt`, `bm_V` not `bm_VRH_…`). -/
theorem variable_selects_its_file :
    ∀ n₁ ∈ allFnames writerRules "tp", ∀ n₂ ∈ allFnames writerRules "tp",
      ∀ f₁, n₁ = some f₁ → ∀ f₂, n₂ = some f₂ →
        globMatches (stem f₁) f₁ = true ∧ (globMatches (stem f₁) f₂ = true → f₁ = f₂) := by
  rw [allFnames_eq_chars]
  intro n₁ h₁ n₂ h₂ f₁ e₁ f₂ e₂
  obtain ⟨c₁, hc₁, rfl⟩ := List.mem_map.1 h₁
  obtain ⟨c₂, hc₂, rfl⟩ := List.mem_map.1 h₂
  obtain ⟨cs₁, rfl, rfl⟩ := Option.map_eq_some_iff.1 e₁
  obtain ⟨cs₂, rfl, rfl⟩ := Option.map_eq_some_iff.1 e₂
  rw [stem_ofList, globMatches_ofList, globMatches_ofList]
  obtain ⟨h, h'⟩ := stem_selects_chars _ hc₁ _ hc₂ cs₁ rfl cs₂ rfl
  exact ⟨h, fun e => congrArg String.ofList (h' e)⟩

/-- the variable names users type are the documented stems -/
theorem documented_variable_names :
    stem "c11s_tp_gpa.txt" = "c11s" ∧ stem "c46t_tp_gpa.txt" = "c46t" ∧ stem "bm_VRH_tp_gpa.txt" = "bm_VRH" ∧
    stem "G_V_tp_gpa.txt" = "G_V" ∧ stem "v_p_tp_km_s.txt" = "v_p" ∧ stem "v_tp_ang3.txt" = "v" ∧
    (∀ p ∈ keys21, (do let r ← resolve "cij_s"; let f ← ijFname r "tp" (keyOfVoigt p); pure (stem f)) =
      some ("c" ++ toString p.1 ++ toString p.2 ++ "s")) := by
  decide +kernel

/-! #### extract-geotherm -/

/-- the interpolation contract of the spline on one table -/
def Interpolates {α} (S : Spline α) (tab : Tab α) : Prop :=
  ∀ (i j : Nat) (x y z : α), tab.rows[i]? = some x → tab.cols[j]? = some y → (tab.vals[i]?).bind (·[j]?) = some z →
    S tab.rows tab.cols tab.vals x y = z

/-- What the command computes, for any number of (distinct, fresh) variables and ANY spline: the geotherm's
own columns unchanged and in order, followed by one column per variable whose r-th entry is the spline of that
variable's table evaluated at (column named by `--p-col`, column named by `--t-col`) of geotherm row r. -/
theorem geotherm_spec {α} (S : Spline α) (dir : List (String × Tab α)) (vars : List String)
    (geo : List (String × List α)) (tCol pCol : String) (xs ys : List α) (tabs : String → Tab α)
    (hx : dictGet geo pCol = some xs) (hy : dictGet geo tCol = some ys)
    (hload : ∀ v ∈ vars, loadData dir v = some (tabs v))
    (hnodup : vars.Nodup) (hfresh : ∀ v ∈ vars, v ∉ geo.map (·.1)) :
    geotherm S dir vars geo tCol pCol =
      some (geo ++ vars.map fun v => (v, List.zipWith (S (tabs v).rows (tabs v).cols (tabs v).vals) xs ys)) := by
  unfold geotherm
  induction vars generalizing geo with
  | nil => simp
  | cons v vs ih =>
    have hv := hload v (by simp)
    have hnew : v ∉ geo.map (·.1) := hfresh v (by simp)
    simp only [List.foldlM_cons, geothermStep, hv, hx, hy, Option.bind_eq_bind, Option.bind_some,
      Option.pure_def, dictSet_new geo v _ hnew]
    rw [ih (geo ++ [(v, _)]) (dictGet_append_left _ _ _ _ hx) (dictGet_append_left _ _ _ _ hy)
      (fun w hw => hload w (by simp [hw])) (List.nodup_cons.1 hnodup).2
      (fun w hw => by
        simp only [List.map_append, List.map_cons, List.map_nil, List.mem_append, List.mem_singleton, not_or]
        exact ⟨hfresh w (by simp [hw]), fun e => (List.nodup_cons.1 hnodup).1 (e ▸ hw)⟩)]
    simp

/-- the column reported for each variable is the spline of that variable's table along the geotherm -/
theorem geotherm_column {α} (S : Spline α) (dir : List (String × Tab α)) (vars : List String)
    (geo : List (String × List α)) (tCol pCol : String) (xs ys : List α) (tabs : String → Tab α)
    (hx : dictGet geo pCol = some xs) (hy : dictGet geo tCol = some ys)
    (hload : ∀ v ∈ vars, loadData dir v = some (tabs v))
    (hnodup : vars.Nodup) (hfresh : ∀ v ∈ vars, v ∉ geo.map (·.1)) :
    ∃ out, geotherm S dir vars geo tCol pCol = some out ∧
      ∀ v ∈ vars, dictGet out v = some (List.zipWith (S (tabs v).rows (tabs v).cols (tabs v).vals) xs ys) := by
  refine ⟨_, geotherm_spec S dir vars geo tCol pCol xs ys tabs hx hy hload hnodup hfresh, fun v hv => ?_⟩
  rw [dictGet_append_right _ _ _ (hfresh v hv)]
  exact dictGet_map_self vars (fun v => List.zipWith (S (tabs v).rows (tabs v).cols (tabs v).vals) xs ys) v hv

/-- pass-through: every column of the geotherm file is in the output, unchanged, in the same position, with the
same rows in the same order. -/
theorem geotherm_passthrough {α} (S : Spline α) (dir : List (String × Tab α)) (vars : List String)
    (geo : List (String × List α)) (tCol pCol : String) (xs ys : List α) (tabs : String → Tab α)
    (hx : dictGet geo pCol = some xs) (hy : dictGet geo tCol = some ys)
    (hload : ∀ v ∈ vars, loadData dir v = some (tabs v))
    (hnodup : vars.Nodup) (hfresh : ∀ v ∈ vars, v ∉ geo.map (·.1)) :
    ∃ out, geotherm S dir vars geo tCol pCol = some out ∧ out.take geo.length = geo ∧
      out.length = geo.length + vars.length ∧ (out.drop geo.length).map (·.1) = vars := by
  refine ⟨_, geotherm_spec S dir vars geo tCol pCol xs ys tabs hx hy hload hnodup hfresh, ?_, ?_, ?_⟩
  · simp
  · simp
  · simp [Function.comp_def]

/-- grid node ⇒ table entry (default options `--t-col P --p-col T`, i.e. a geotherm file with columns named
T and P): if row r of the geotherm has T = the i-th tabulated temperature and P = the j-th tabulated pressure,
the value reported for variable v is entry (i, j) of v's table — NOT (j, i): temperature and pressure are not
transposed. -/
theorem geotherm_at_node {α} (S : Spline α) (dir : List (String × Tab α)) (vars : List String)
    (geo : List (String × List α)) (ts ps : List α) (tabs : String → Tab α)
    (hT : dictGet geo "T" = some ts) (hP : dictGet geo "P" = some ps)
    (hload : ∀ v ∈ vars, loadData dir v = some (tabs v))
    (hnodup : vars.Nodup) (hfresh : ∀ v ∈ vars, v ∉ geo.map (·.1))
    (hS : ∀ v ∈ vars, Interpolates S (tabs v)) :
    ∃ out, geotherm S dir vars geo = some out ∧
      ∀ v ∈ vars, ∃ col, dictGet out v = some col ∧
        ∀ (r i j : Nat) (t p z : α), ts[r]? = some t → ps[r]? = some p →
          (tabs v).rows[i]? = some t → (tabs v).cols[j]? = some p → ((tabs v).vals[i]?).bind (·[j]?) = some z →
          col[r]? = some z := by
  obtain ⟨out, hout, hcol⟩ := geotherm_column S dir vars geo "P" "T" ts ps tabs hT hP hload hnodup hfresh
  refine ⟨out, hout, fun v hv => ⟨_, hcol v hv, fun r i j t p z htr hpr hi hj hz => ?_⟩⟩
  simp only [List.getElem?_zipWith, htr, hpr, Option.some.injEq]
  exact hS v hv i j t p z hi hj hz

/-- explicitly named columns: the column given to `--t-col` feeds the PRESSURE axis of the table and the one
given to `--p-col` the TEMPERATURE axis — as the help strings say ("--t-col: name of geotherm pressure column"),
contrary to what the option names suggest. -/
theorem geotherm_named_columns {α} (S : Spline α) (dir : List (String × Tab α)) (var : String)
    (geo : List (String × List α)) (tempName presName : String) (ts ps : List α) (tab : Tab α)
    (hT : dictGet geo tempName = some ts) (hP : dictGet geo presName = some ps)
    (hload : loadData dir var = some tab) (hfresh : var ∉ geo.map (·.1)) :
    geotherm S dir [var] geo (tCol := presName) (pCol := tempName) =
      some (geo ++ [(var, List.zipWith (S tab.rows tab.cols tab.vals) ts ps)]) ∧
    geotherm S dir [var] geo (tCol := tempName) (pCol := presName) =
      some (geo ++ [(var, List.zipWith (S tab.rows tab.cols tab.vals) ps ts)]) := by
  constructor
  · have := geotherm_spec S dir [var] geo presName tempName ts ps (fun _ => tab) hT hP
      (fun v hv => by rw [List.mem_singleton.1 hv]; exact hload) (by simp)
      (fun v hv => by rw [List.mem_singleton.1 hv]; exact hfresh)
    simpa using this
  · have := geotherm_spec S dir [var] geo tempName presName ps ts (fun _ => tab) hP hT
      (fun v hv => by rw [List.mem_singleton.1 hv]; exact hload) (by simp)
      (fun v hv => by rw [List.mem_singleton.1 hv]; exact hfresh)
    simpa using this

/-! #### the model IS the source (Generated/ExtractSpec.lean, re-translated from the working tree on every run) -/

/-- nearest-index rule = semantics of the expression tree read from `y_index = …`, for EVERY index vector and
request: where the tree has a value it is the position of a nearest label, the first one on a tie. -/
theorem extract_model_is_source_nearest {α} [Field α] [LinearOrder α] [IsStrictOrderedRing α] (t : Tab α) (y : α)
    (i : Nat) (h : ExtractSpec.extractMain.yIndex.eval t y = some i) :
    ∃ xi, t.rows[i]? = some xi ∧
      ∀ j xj, t.rows[j]? = some xj → |xi - y| ≤ |xj - y| ∧ (j < i → |xi - y| < |xj - y|) :=
  argmin_nearest t.rows y i (by rw [← yIndex_eval]; exact h)

/-- the expression tree has a value on every non-empty axis; as a function it is the model's `argminAbs` of the row labels. -/
theorem extract_model_is_source_nearest_total {α} [Field α] [LinearOrder α] [IsStrictOrderedRing α] (t : Tab α)
    (y : α) : ExtractSpec.extractMain.yIndex.eval t y = argminAbs t.rows y ∧
      (t.rows ≠ [] → (ExtractSpec.extractMain.yIndex.eval t y).isSome) :=
  ⟨yIndex_eval t y, fun h => by rw [yIndex_eval]; exact argmin_defined t.rows y h⟩

/-- the `if temperature != None … elif pressure != None …` chain of the source: `-T` takes the frame as it is
(also when `-P` is given too), `-P` alone takes the TRANSPOSED frame, neither leaves `y` unbound. -/
theorem extract_model_is_source_transpose {α} [Field α] [LinearOrder α] [IsStrictOrderedRing α] (t : Tab α) (y : α)
    (P : Option α) :
    selectOf ExtractSpec.extractMain t (envTP (some y) P) = some (y, t) ∧
    selectOf ExtractSpec.extractMain t (envTP none (some y)) = some (y, t.transpose) ∧
    selectOf ExtractSpec.extractMain t (envTP (none : Option α) none) = none := by
  refine ⟨?_, ?_, ?_⟩ <;> simp [selectOf, envTP, ExtractSpec.extractMain]

/-- labelling by the OTHER coordinate: `x_array` is the column axis of the frame the row is taken from — the
pressures for `-T`, and (after the transposition) the temperatures for `-P`; the row is taken by position. -/
theorem extract_model_is_source_labels {α} [Field α] [LinearOrder α] [IsStrictOrderedRing α] (t : Tab α) (y : α)
    (labels row : List α) (h : pickOf ExtractSpec.extractMain t y = some (labels, row)) :
    labels = t.cols ∧ t.transpose.cols = t.rows ∧
      ∃ i, ExtractSpec.extractMain.yIndex.eval t y = some i ∧ t.vals[i]? = some row := by
  simp only [pickOf, ExtractSpec.extractMain, Option.bind_eq_bind, beq_self_eq_true, if_true, Option.bind_some] at h
  cases hi : (IExpr.argmin (AExpr.abs (AExpr.sub AExpr.index AExpr.y))).eval t y with
  | none => simp [hi] at h
  | some i =>
    simp only [hi, Option.bind_some] at h
    cases hr : t.vals[i]? with
    | none => simp [hr] at h
    | some r =>
      simp only [hr, Option.bind_some, Option.pure_def, Option.some.injEq, Prod.mk.injEq] at h
      exact ⟨h.1.symm, rfl, i, hi, by rw [← h.2]; exact hr⟩

/-- the per-table step of the model is the interpretation of the source data -/
theorem extract_model_is_source_select {α} [Field α] [LinearOrder α] [IsStrictOrderedRing α] (t : Tab α)
    (T P : Option α) : selectRow t T P = selectRowOf ExtractSpec.extractMain t T P :=
  (selectRowOf_eq t T P).symm

/-- the whole command of the model is the interpretation of the source data -/
theorem extract_model_is_source_table {α} [Field α] [LinearOrder α] [IsStrictOrderedRing α]
    (dir : List (String × Tab α)) (vars : List String) (T P : Option α) :
    extract dir vars T P = extractOf ExtractSpec.loadExtract ExtractSpec.extractMain dir vars T P :=
  (extractOf_eq dir vars T P).symm

/-- `load_data` of BOTH modules: `glob(f"{var}_tp_*")[0]` = the model's first match on the prefix `var ++ "_tp_"`,
read with white-space separator, first column as row labels, both label axes through `float`. -/
theorem extract_model_is_source_load {α} (dir : List (String × Tab α)) (var : String) :
    loadData dir var = loadOf ExtractSpec.loadExtract dir var ∧
    loadData dir var = loadOf ExtractSpec.loadGeotherm dir var ∧
    ExtractSpec.loadExtract.readsLabelledFloatTable = true ∧
    ExtractSpec.loadGeotherm.readsLabelledFloatTable = true :=
  ⟨(loadOf_eq_loadData _ rfl rfl dir var).symm, (loadOf_eq_loadData _ rfl rfl dir var).symm, by decide, by decide⟩

/-- no state between invocations: no parameter default of any function of the two modules is anything but a
constant (a mutable default would survive the call), nothing but imports / definitions / the `__main__` guard
stands at module level (nothing is executed at import, e.g. no global pandas option is set), and the only
decorators are click's. -/
theorem extract_model_is_source_stateless :
    noMutableDefault ExtractSpec.signatureDefaults = true ∧
    inertModule ExtractSpec.extractModuleStmts = true ∧ inertModule ExtractSpec.geothermModuleStmts = true ∧
    onlyClickDecorators ExtractSpec.decorators = true := by decide

/-- command-line declarations → keyword parameters; `-T` / `-P` arrive as floats; the separator of `-v` -/
theorem extract_model_is_source_options :
    optParam ExtractSpec.extractOptions "-T" = some "temperature" ∧
    optParam ExtractSpec.extractOptions "-P" = some "pressure" ∧
    optParam ExtractSpec.extractOptions "-v" = some "variables" ∧
    optType ExtractSpec.extractOptions "temperature" = some "click.FLOAT" ∧
    optType ExtractSpec.extractOptions "pressure" = some "click.FLOAT" ∧
    optDefault ExtractSpec.extractOptions "temperature" = none ∧
    optDefault ExtractSpec.extractOptions "pressure" = none ∧
    optParam ExtractSpec.geothermOptions "-g" = some "geotherm" ∧
    optParam ExtractSpec.geothermOptions "--t-col" = some "t_col" ∧
    optParam ExtractSpec.geothermOptions "--p-col" = some "p_col" ∧
    optParam ExtractSpec.geothermOptions "-v" = some "variables" ∧
    ExtractSpec.extractMain.splitSep = "," ∧ ExtractSpec.geothermMain.splitSep = "," := by decide

/-- the registered commands: `cij extract` is cij/cli/extract.py, `cij extract-geotherm` is cij/cli/geotherm.py,
and no command name is registered twice (a later registration would replace an earlier one). -/
theorem extract_model_is_source_registration :
    registeredModule ExtractSpec.registrations "extract" = some "cij.cli.extract" ∧
    registeredModule ExtractSpec.registrations "extract-geotherm" = some "cij.cli.geotherm" ∧
    (ExtractSpec.registrations.map (·.2)).Nodup := by decide

/-- argument wiring of the spline: `RectBivariateSpline(x = df.index, y = df.columns, z = df.to_numpy())` with no
keyword argument (default degrees 3 × 3, s = 0, no bounding box). -/
theorem extract_model_is_source_spline_wiring {α} (S : Spline α) (t : Tab α) :
    fitOf ExtractSpec.fitData S t = some (S t.rows t.cols t.vals) ∧ ExtractSpec.fitData.kw = [] :=
  ⟨fitOf_eq S t, rfl⟩

/-- one pass of the geotherm loop and the whole command, with explicit `--t-col`, `--p-col` and with click's
defaults (`--t-col` ↦ "P", `--p-col` ↦ "T" as the source declares them): the spline's first argument is the column
named by `--p-col`, the second the column named by `--t-col`, `grid=False`. -/
theorem extract_model_is_source_geotherm {α} (S : Spline α) (dir : List (String × Tab α)) (vars : List String)
    (geo : List (String × List α)) (tCol pCol : String) :
    (∀ table var, geothermStep S dir tCol pCol table var =
      geothermStepOf ExtractSpec.loadGeotherm ExtractSpec.fitData ExtractSpec.geothermMain S dir (colEnv tCol pCol) table var) ∧
    geotherm S dir vars geo tCol pCol =
      geothermOf ExtractSpec.loadGeotherm ExtractSpec.fitData ExtractSpec.geothermMain ExtractSpec.geothermOptions S dir vars geo
        (some tCol) (some pCol) ∧
    geotherm S dir vars geo =
      geothermOf ExtractSpec.loadGeotherm ExtractSpec.fitData ExtractSpec.geothermMain ExtractSpec.geothermOptions S dir vars geo :=
  ⟨fun table var => (geothermStepOf_eq S dir tCol pCol table var).symm, (geothermOf_eq S dir vars geo tCol pCol).symm,
    (geothermOf_defaults_eq S dir vars geo).symm⟩

/-- the geotherm file is read with its first line as header and no index column, and printed without an index:
with `table[var] = …` per variable (new column at the end, `geotherm_passthrough`) the geotherm's own columns pass
through and one column per variable is appended in order. -/
theorem extract_model_is_source_passthrough : ExtractSpec.geothermMain.passesColumnsThrough = true := by decide

/-! #### the spline between nodes: what the contracts give, and the 4×4 case in full -/

/-- the table holds the values of `f` at its labels -/
def SampledFrom {α} (tab : Tab α) (f : α → α → α) : Prop :=
  tab.vals = tab.rows.map fun x => tab.cols.map fun y => f x y

/-- (x, y) lies inside the tabulated window -/
def InWindow {α} [LE α] (tab : Tab α) (x y : α) : Prop :=
  (∃ a b, tab.rows.head? = some a ∧ tab.rows.getLast? = some b ∧ a ≤ x ∧ x ≤ b) ∧
  (∃ a b, tab.cols.head? = some a ∧ tab.cols.getLast? = some b ∧ a ≤ y ∧ y ≤ b)

/-- second contract of the spline on one table: polynomials of degree ≤ 3 in each variable are reproduced -/
def ReproducesBicubicsOn {α} [Field α] [LE α] (S : Spline α) (tab : Tab α) : Prop :=
  ∀ c : Fin 4 → Fin 4 → α, SampledFrom tab (bicubicPoly c) →
    ∀ x y, InWindow tab x y → S tab.rows tab.cols tab.vals x y = bicubicPoly c x y

/-- Any interpolant that reproduces bicubic polynomials reproduces them along EVERY geotherm inside the window:
if the table of variable v holds a polynomial `p_v` of degree ≤ 3 in T and in P, the value reported at geotherm row
r is `p_v(T_r, P_r)` exactly — on and between nodes, for any number of variables. -/
theorem geotherm_reproduces_bicubic {α} [Field α] [LinearOrder α] [IsStrictOrderedRing α] (S : Spline α)
    (dir : List (String × Tab α)) (vars : List String)
    (geo : List (String × List α)) (ts ps : List α) (tabs : String → Tab α) (c : String → Fin 4 → Fin 4 → α)
    (hT : dictGet geo "T" = some ts) (hP : dictGet geo "P" = some ps)
    (hload : ∀ v ∈ vars, loadData dir v = some (tabs v))
    (hnodup : vars.Nodup) (hfresh : ∀ v ∈ vars, v ∉ geo.map (·.1))
    (hS : ∀ v ∈ vars, ReproducesBicubicsOn S (tabs v))
    (hc : ∀ v ∈ vars, SampledFrom (tabs v) (bicubicPoly (c v)))
    (hin : ∀ v ∈ vars, ∀ (r : Nat) (t p : α), ts[r]? = some t → ps[r]? = some p → InWindow (tabs v) t p) :
    ∃ out, geotherm S dir vars geo = some out ∧
      ∀ v ∈ vars, ∃ col, dictGet out v = some col ∧
        ∀ (r : Nat) (t p : α), ts[r]? = some t → ps[r]? = some p → col[r]? = some (bicubicPoly (c v) t p) := by
  obtain ⟨out, hout, hcol⟩ := geotherm_column S dir vars geo "P" "T" ts ps tabs hT hP hload hnodup hfresh
  refine ⟨out, hout, fun v hv => ⟨_, hcol v hv, fun r t p htr hpr => ?_⟩⟩
  simp only [List.getElem?_zipWith, htr, hpr, Option.some.injEq]
  exact hS v hv (c v) (hc v hv) t p (hin v hv r t p htr hpr)

/-- 4×4 tables: the tensor-product Lagrange form `bicubic44` meets the interpolation contract -/
theorem bicubic44_interpolates {α} [Field α] (X Y : Fin 4 → α) (Z : Fin 4 → Fin 4 → α)
    (hX : Function.Injective X) (hY : Function.Injective Y) : Interpolates bicubic44 (tab44 X Y Z) := by
  intro i j x y z hi hj hz
  rw [tab44_ofFn] at hi hj hz
  simp only [List.getElem?_ofFn] at hi hj hz
  by_cases hi4 : i < 4
  · by_cases hj4 : j < 4
    · simp only [hi4, hj4, dite_true, Option.bind_some, List.getElem?_ofFn, Option.some.injEq] at hi hj hz
      subst hi hj hz
      exact bicubic44_node X Y Z hX hY _ _
    · simp [hj4] at hj
  · simp [hi4] at hi

/-- `bicubic44` meets the reproduction contract, at every (x, y) (not only inside the window). -/
theorem bicubic44_reproduces_bicubics {α} [Field α] [LE α] (X Y : Fin 4 → α) (Z : Fin 4 → Fin 4 → α)
    (hX : Function.Injective X) (hY : Function.Injective Y) : ReproducesBicubicsOn bicubic44 (tab44 X Y Z) := by
  intro c hc x y _
  have hZ : tab44 X Y Z = tab44 X Y fun i j => bicubicPoly c (X i) (Y j) := by
    simp only [SampledFrom, tab44, List.map_cons, List.map_nil] at hc
    simp only [tab44, hc]
  rw [hZ]
  exact bicubic44_reproduces X Y c hX hY x y

/-- The bicubic polynomial through a 4×4 grid of distinct nodes is UNIQUE (its 16 coefficients are determined), and
it is `bicubic44`: every polynomial of degree ≤ 3 in each variable that takes the table's values at the 16 nodes
equals the tensor Lagrange form everywhere.  For a 4×4 table the two contracts therefore leave no freedom: this IS
what `RectBivariateSpline` (one polynomial piece, no interior knot) returns. -/
theorem bicubic_through_4x4_unique {α} [Field α] (X Y : Fin 4 → α) (Z : Fin 4 → Fin 4 → α)
    (hX : Function.Injective X) (hY : Function.Injective Y) (c d : Fin 4 → Fin 4 → α)
    (hc : ∀ i j, bicubicPoly c (X i) (Y j) = Z i j) (hd : ∀ i j, bicubicPoly d (X i) (Y j) = Z i j) :
    c = d ∧ ∀ x y, bicubicPoly c x y = bicubic44 (tab44 X Y Z).rows (tab44 X Y Z).cols (tab44 X Y Z).vals x y := by
  refine ⟨bicubic_unique X Y c d hX hY fun i j => by rw [hc, hd], fun x y => ?_⟩
  have hZ : Z = fun i j => bicubicPoly c (X i) (Y j) := by funext i j; exact (hc i j).symm
  rw [hZ]
  exact (bicubic44_reproduces X Y c hX hY x y).symm

/-
  FULL STATEMENT not expressible in the model (kept as comment):
  theorem geotherm_between_nodes : for tables sampled from a smooth f on grids of mesh h, the value reported at
    an interior (P, T) tends to f(T, P) as h → 0.
  This is a property of scipy's bicubic RectBivariateSpline (FITPACK), outside cij.  Proved instead: exactness on
  tables of degree ≤ 3 (`geotherm_reproduces_bicubic`, from the contract) and the 4×4 case in full
  (`bicubic44_*`, `bicubic_through_4x4_unique`).  harness/c19.py measures the contract on the real command (bicubic
  tables reproduced to rounding on grids of every size ≥ 4×4) and the error at two/three resolutions of a smooth
  function (must shrink by ≥ 8 per halving of the spacing: fourth order).
-/

/-! #### non-vacuity: concrete instances -/

/-- exact node lookup: a spline satisfying `Interpolates` on tables with distinct labels (value 0 off-node) -/
def nodeSpline : Spline Rat := fun xs ys z x y =>
  match xs.findIdx? (· == x), ys.findIdx? (· == y) with
  | some i, some j => ((z[i]?).bind (·[j]?)).getD 0
  | _, _ => 0

def demoTab : Tab Rat := { rows := [0, 100, 200], cols := [0, 10], vals := [[1, 2], [3, 4], [5, 6]] }
def demoDir : List (String × Tab Rat) := [("bm_V_tp_gpa.txt", demoTab)]

-- nearest row, tie → first, beyond the grid → end point
example : argminAbs ([0, 100, 200] : List Rat) 149 = some 1 ∧ argminAbs ([0, 100, 200] : List Rat) 150 = some 1 ∧
    argminAbs ([0, 100, 200] : List Rat) 151 = some 2 ∧ argminAbs ([0, 100, 200] : List Rat) 1000 = some 2 ∧
    argminAbs ([0, 100, 200] : List Rat) (-5) = some 0 ∧ argminAbs ([] : List Rat) 1 = none := by
  decide +kernel
-- -T picks a row labelled by P; -P picks a column labelled by T
set_option synthInstance.maxSize 512 in
example : extract demoDir ["bm_V"] (some 120) none = some ([0, 10], [("bm_V", [some 3, some 4])]) ∧
    extract demoDir ["bm_V"] none (some 9) = some ([0, 100, 200], [("bm_V", [some 2, some 4, some 6])]) ∧
    extract demoDir ["bm_V"] none none = none ∧ extract demoDir ["bm_R"] (some 1) none = none := by
  decide +kernel
-- geotherm through the nodes (T,P) = (100,10), (200,0): entries (1,1) = 4 and (2,0) = 5 — not the transposed ones
example : geotherm nodeSpline demoDir ["bm_V"] [("P", [10, 0]), ("D", [7, 8]), ("T", [100, 200])] =
    some [("P", [10, 0]), ("D", [7, 8]), ("T", [100, 200]), ("bm_V", [4, 5])] := by
  decide +kernel
-- reading the option NAMES literally (--t-col T --p-col P) feeds P into the temperature axis: off-node here (0)
example : geotherm nodeSpline demoDir ["bm_V"] [("P", [10, 0]), ("T", [100, 200])] (tCol := "T") (pCol := "P") =
    some [("P", [10, 0]), ("T", [100, 200]), ("bm_V", [0, 0])] := by
  decide +kernel
example : Interpolates nodeSpline demoTab := by
  intro i j x y z hi hj hz
  have hi3 : i < 3 := by
    by_contra h; rw [List.getElem?_eq_none (by simp [demoTab]; omega)] at hi; cases hi
  have hj2 : j < 2 := by
    by_contra h; rw [List.getElem?_eq_none (by simp [demoTab]; omega)] at hj; cases hj
  interval_cases i <;> interval_cases j <;> simp [demoTab] at hi hj hz <;> subst hi hj hz <;> decide +kernel

-- the source-read expression tree, evaluated: nearest, tie → first, beyond the grid → end point, empty → none
example : ExtractSpec.extractMain.yIndex.eval ({ rows := [0, 100, 200], cols := [], vals := [] } : Tab Rat) 150 = some 1 ∧
    ExtractSpec.extractMain.yIndex.eval ({ rows := [0, 100, 200], cols := [], vals := [] } : Tab Rat) 151 = some 2 ∧
    ExtractSpec.extractMain.yIndex.eval ({ rows := [0, 100, 200], cols := [], vals := [] } : Tab Rat) 1000 = some 2 ∧
    ExtractSpec.extractMain.yIndex.eval ({ rows := [], cols := [1], vals := [] } : Tab Rat) 1 = none := by
  decide +kernel
-- a 4×4 table of p(x, y) = x³ − 2xy² + y + 3 on nodes 0,1,2,4 × 0,1,3,4: the spline of the model returns p off the nodes
-- (hypotheses of bicubic44_interpolates / _reproduces_bicubics / bicubic_through_4x4_unique are satisfiable)
def demoX : Fin 4 → Rat | 0 => 0 | 1 => 1 | 2 => 2 | 3 => 4
def demoY : Fin 4 → Rat | 0 => 0 | 1 => 1 | 2 => 3 | 3 => 4
def demoP (x y : Rat) : Rat := x * x * x - 2 * x * y * y + y + 3
example : bicubic44 (tab44 demoX demoY fun i j => demoP (demoX i) (demoY j)).rows
      (tab44 demoX demoY fun i j => demoP (demoX i) (demoY j)).cols
      (tab44 demoX demoY fun i j => demoP (demoX i) (demoY j)).vals (3 / 2) (5 / 2) = demoP (3 / 2) (5 / 2) := by
  decide +kernel
example : Function.Injective demoX ∧ Function.Injective demoY :=
  ⟨by intro a b; revert a b; decide +kernel, by intro a b; revert a b; decide +kernel⟩

end Cij.C19
