/-
  C03 — shear components obtained by strain-energy rotation are exact tensor algebra.

  Everything below is about `CijModel/Shear.lean` (the functions the driver runs at `Float` against the real
  `ShearElasticModulusPhononContribution`).  `numpy.linalg.eigh` is the parameter `(T, lam)` with the contract
  `Contract T lam e` (`TᵀT = 1`, `Tᵀ e T = diag lam`); `numpy.isclose(·, 0)` is the parameter `isZero` with the
  contract `isZero x = true ↔ x = 0`.  The theorems hold for EVERY decomposition meeting the contract, hence for
  any sign / order / choice inside a degenerate eigenspace.
-/
import CijProofs.Lemmas.Shear
import CijProofs.Lemmas.ShearSource
import CijProofs.Lemmas.ShearGlueSource
import CijProofs.Lemmas.DegenerateBasis

namespace Cij.C03
open Cij Cij.Shear

/-- `Σ_ijkl C_ijkl e_ij e_kl = Σ_ab C'_aabb λ_a λ_b` for `C' = rotate T C`, `T` orthogonal and diagonalising `e`.
No symmetry of `C` is needed. -/
theorem energy_invariant {R : Type} [CommRing R] (T : Mat3 R) (lam : Vec3 R) (e : Mat3 R) (h : Contract T lam e)
    (C : Fin 3 → Fin 3 → Fin 3 → Fin 3 → R) :
    (sum3 fun i => sum3 fun j => sum3 fun k => sum3 fun l => C i j k l * e i j * e k l) =
    sum3 fun a => sum3 fun b => rotate T C a a b b * lam a * lam b :=
  energy_invariant_model h C

/-- (model form; `c03_exact` below states the same about the pieces translated from shear.py on this run)
Field of characteristic 0 (so also `ℝ`), every symmetric tensor `c` (21 values), every shear key, every
eigen-decomposition meeting the contract, and ANY dictionaries that agree with the exact tensor on the keys the class
asks for (`modulus` on `get_modulus_keys()`, `modulus_rotated` on `get_modulus_keys_rotated()`): the value is `c key`. -/
theorem c03_exact_model {R : Type} [Field R] [CharZero R] (isZero : R → Bool) (hz : ∀ x, isZero x = true ↔ x = 0)
    (key : Modulus) (hk : key ∈ shearKeys) (c : Modulus → R) (T : Mat3 R) (lam : Vec3 R)
    (h : Contract T lam (fictitiousStrain key))
    (modulus modulusRotated : Modulus → R)
    (hm : ∀ k ∈ modulusKeys isZero key, modulus k = c k)
    (hr : ∀ k ∈ modulusKeysRotated isZero lam, modulusRotated k = rotatedLookup T c k) :
    shearValue isZero key lam modulus modulusRotated = c key := by
  rw [shearValue_congr isZero key lam modulus c modulusRotated (rotatedLookup T c) hm hr]
  exact shearValue_exact isZero hz key hk c T lam h

/-- the same over `ℝ`, the instance named in the property -/
theorem c03_exact_real (isZero : ℝ → Bool) (hz : ∀ x, isZero x = true ↔ x = 0)
    (key : Modulus) (hk : key ∈ shearKeys) (c : Modulus → ℝ) (T : Mat3 ℝ) (lam : Vec3 ℝ)
    (h : Contract T lam (fictitiousStrain key)) :
    shearValue isZero key lam c (rotatedLookup T c) = c key :=
  c03_exact_model isZero hz key hk c T lam h c (rotatedLookup T c) (fun _ _ => rfl) (fun _ _ => rfl)

/-- the shear keys are exactly the 15 keys carrying a Voigt index 4–6 -/
theorem c03_shear_keys : shearKeys.length = 15 ∧ shearKeys.Nodup ∧
    ∀ p ∈ keys21, (keyOfVoigt p ∈ shearKeys ↔ 4 ≤ p.2) := by
  decide +kernel

/-- the original-frame keys never contain the target — for every scalar type and every zero test (so also for the
`Float` instance the driver runs) -/
theorem c03_no_self_dependency {α : Type} [NatCast α] (isZero : α → Bool) (key : Modulus) :
    key ∉ modulusKeys isZero key := by
  intro hmem
  unfold modulusKeys energyKeys energyPairs at hmem
  obtain ⟨pq, hpq, hkey⟩ := List.mem_map.mp hmem
  have := (List.mem_filter.mp hpq).2
  simp [hkey] at this

/-- the original-frame keys are a list computed from the key alone (the right-hand side involves neither the scalar nor the zero
test): the components `c_(ijkl)` with
`e_ij = e_kl = 1` other than the target -/
theorem c03_requested_keys {R : Type} [Field R] (isZero : R → Bool) (hz : ∀ x, isZero x = true ↔ x = 0)
    (key : Modulus) : modulusKeys isZero key = (origPairs key).map keyOfPairs :=
  modulusKeys_eq hz key

/-- what the 15 keys ask for in the original frame: the longitudinal partner (if any) and the pure-shear diagonal
components; exactly `multiplicity` loop iterations are skipped as "target" -/
theorem c03_requested_keys_table : ∀ key ∈ shearKeys,
    key ∉ (origPairs key).map keyOfPairs ∧
    (targetPairs key).length = key.multiplicity ∧
    (origPairs key).length + key.multiplicity = (maskPairs key).length * (maskPairs key).length ∧
    ∀ k ∈ (origPairs key).map keyOfPairs, k.isLongitudinal = true ∨ (k.isShear = true ∧ k.i = k.j) := by
  decide +kernel

/-- the rotated-frame keys are longitudinal or off-diagonal only, for every spectrum -/
theorem c03_rotated_keys_nonshear {R : Type} [Field R] (isZero : R → Bool) (hz : ∀ x, isZero x = true ↔ x = 0)
    (lam : Vec3 R) : ∀ k ∈ modulusKeysRotated isZero lam, k.isShear = false := by
  intro k hk
  obtain ⟨a, b, rfl⟩ := mem_modulusKeysRotated isZero ((hz 0).2 rfl) lam hk
  exact key4_diag_nonshear a b

/-- `strain_rotated` is the diagonal of the rotated diagonal strain: `(Tᵀ diag(s) T)_aa = Σ_i T_ia² s_i` -/
theorem c03_strain_rotated {R : Type} [CommRing R] (T : Mat3 R) (s : Vec3 R) (a : Fin 3) :
    strainRotated T s a = sum3 fun i => T i a * T i a * s i :=
  strainRotated_sq T s a

/-- the trace is preserved -/
theorem c03_strain_rotated_trace {R : Type} [CommRing R] (T : Mat3 R) (lam : Vec3 R) (e : Mat3 R)
    (h : Contract T lam e) (s : Vec3 R) : sum3 (strainRotated T s) = sum3 s := by
  have r0 := h.rows 0 0
  have r1 := h.rows 1 1
  have r2 := h.rows 2 2
  simp only [Fin.sum_univ_three, if_true] at r0 r1 r2
  simp only [c03_strain_rotated, sum3]
  linear_combination (s 0) * r0 + (s 1) * r1 + (s 2) * r2

/-- independent of the sign of the eigenvectors -/
theorem c03_strain_rotated_sign {R : Type} [CommRing R] (T : Mat3 R) (σ : Vec3 R) (hσ : ∀ a, σ a * σ a = 1)
    (s : Vec3 R) : strainRotated (fun i a => T i a * σ a) s = strainRotated T s := by
  funext a
  simp only [c03_strain_rotated, sum3]
  have := hσ a
  linear_combination (T 0 a * T 0 a * s 0 + T 1 a * T 1 a * s 1 + T 2 a * T 2 a * s 2) * this

/-- permuted together with the eigenvectors -/
theorem c03_strain_rotated_perm {R : Type} [CommRing R] (T : Mat3 R) (π : Fin 3 → Fin 3) (s : Vec3 R) (a : Fin 3) :
    strainRotated (fun i a => T i (π a)) s a = strainRotated T s (π a) := by
  simp only [c03_strain_rotated]

/-- a sign-flipped decomposition still meets the contract … -/
theorem c03_contract_sign {R : Type} [CommRing R] (T : Mat3 R) (lam : Vec3 R) (e : Mat3 R) (h : Contract T lam e)
    (σ : Vec3 R) (hσ : ∀ a, σ a * σ a = 1) : Contract (fun i a => T i a * σ a) lam e := by
  -- both conditions have the form `X_ab = d_a δ_ab`, which the factor `σ_a σ_b` leaves as it is
  have key : ∀ (a b : Fin 3) (x d : R), (x = if a = b then d else ((0 : Nat) : R)) →
      σ a * σ b * x = if a = b then d else ((0 : Nat) : R) := by
    intro a b x d hx
    rw [hx]
    split
    · next hab => rw [hab, hσ, one_mul]
    · rw [Nat.cast_zero, mul_zero]
  constructor
  · intro a b
    rw [← key a b _ _ (h.orth a b)]
    simp only [sum3]
    ring
  · intro a b
    rw [← key a b _ _ (h.diag a b)]
    simp only [sum3]
    ring

/-- … and so does a column-permuted one (with the eigenvalues permuted alike) -/
theorem c03_contract_perm {R : Type} [CommRing R] (T : Mat3 R) (lam : Vec3 R) (e : Mat3 R) (h : Contract T lam e)
    (π : Fin 3 → Fin 3) (hπ : Function.Injective π) : Contract (fun i a => T i (π a)) (fun a => lam (π a)) e := by
  constructor
  · intro a b
    have := h.orth (π a) (π b)
    by_cases hab : a = b
    · subst hab; simpa using this
    · have : π a ≠ π b := fun hh => hab (hπ hh)
      simp_all
  · intro a b
    have := h.diag (π a) (π b)
    by_cases hab : a = b
    · subst hab; simpa using this
    · have : π a ≠ π b := fun hh => hab (hπ hh)
      simp_all

/-- hence the result does not depend on which valid eigen-decomposition is used (sign, order, or the choice of a basis
inside a degenerate eigenspace), when each is given the exact rotated components of ITS frame -/
theorem c03_basis_independent {R : Type} [Field R] [CharZero R] (isZero : R → Bool) (hz : ∀ x, isZero x = true ↔ x = 0)
    (key : Modulus) (hk : key ∈ shearKeys) (c : Modulus → R) (T T' : Mat3 R) (lam lam' : Vec3 R)
    (h : Contract T lam (fictitiousStrain key)) (h' : Contract T' lam' (fictitiousStrain key)) :
    shearValue isZero key lam c (rotatedLookup T c) = shearValue isZero key lam' c (rotatedLookup T' c) := by
  rw [shearValue_exact isZero hz key hk c T lam h, shearValue_exact isZero hz key hk c T' lam' h']

/-- the contract is met over `ℝ` for c44 by the frame numpy returns (up to sign): spectrum (−1, 0, 1),
`T = [[0,1,0],[−s,0,s],[s,0,s]]`, `s = √2/2` (`T44` of Lemmas/DegenerateBasis.lean) -/
example : ∃ (T : Mat3 ℝ) (lam : Vec3 ℝ), Contract T lam (fictitiousStrain (keyOfVoigt (4, 4))) ∧
    lam 0 = -1 ∧ lam 1 = 0 ∧ lam 2 = 1 := by
  have hkey : keyOfVoigt (4, 4) = Tasks.degShear (0, 1, 2) := by decide +kernel
  exact ⟨Tasks.T44, Tasks.lamShear, hkey ▸ Tasks.T44_contract, rfl, rfl, rfl⟩

/-- a zero test meeting its contract exists -/
example : ∃ isZero : ℝ → Bool, ∀ x, isZero x = true ↔ x = 0 := by
  classical
  exact ⟨fun x => decide (x = 0), fun x => by simp⟩

/-- c44 asks for nothing in the original frame and for c'11, c'13, c'13, c'33 in the rotated one (spectrum −1,0,1);
c14 asks for c11 once and c44 four times; c45 for c44 and c55 four times each -/
example : (origPairs (keyOfVoigt (4, 4))).map keyOfPairs = [] ∧
    ((origPairs (keyOfVoigt (1, 4))).map keyOfPairs).map Modulus.voigt =
      [some (1, 1), some (4, 4), some (4, 4), some (4, 4), some (4, 4)] ∧
    ((origPairs (keyOfVoigt (4, 5))).map keyOfPairs).length = 8 ∧
    (modulusKeysRotated (α := ℚ) (fun x => decide (x = 0)) (fun a => ![-1, 0, 1] a)).map Modulus.voigt =
      [some (1, 1), some (1, 3), some (1, 3), some (3, 3)] := by
  decide +kernel

/-! #### the model IS the source: formulas and loop structure re-extracted from shear.py on this run

`tools/gen_tables.py` extracts the term accumulated into `_energy`, the value returned by
`get_target_elastic_modulus` (locals inlined) and checks the loop structure (`itertools.product(nz, nz)`, key
`c_(i+1, j+1, k+1, l+1)`, skip condition `target and key == target`) of both strain-energy functions.  The model's
`strainEnergy` fold and `targetModulus` are definitionally those expressions for every scalar type. -/

theorem c03_model_is_source {α : Type} [Add α] [Sub α] [Mul α] [Div α] [NatCast α]
    (isZero : α → Bool) (e : Shear.Mat3 α) (resolve : Modulus → α) (target : Option Modulus) (key : Modulus) (eRot eOrig : α) :
    Shear.strainEnergy isZero e resolve target =
      (Shear.energyPairs isZero e target).foldl
        (fun acc pq => acc + ShExpr.eval (ShExpr.envOf (resolve (Shear.keyOfPairs pq)) (e pq.1.1 pq.1.2) (e pq.2.1 pq.2.2) acc acc acc)
          Generated.shearEnergyTerm) ((0 : Nat) : α) ∧
    Shear.targetModulus key e eRot eOrig =
      ShExpr.eval (ShExpr.envOf eRot (e (Shear.idx key.i.i) (Shear.idx key.i.j)) (e (Shear.idx key.j.i) (Shear.idx key.j.j)) eRot eOrig
        ((key.multiplicity : Nat) : α)) Generated.shearTarget :=
  ⟨ShExpr.energy_term_is_source isZero e resolve target, ShExpr.target_is_source key e eRot eOrig⟩

/-! #### the glue IS the source: everything of shear.py around the two formulas, re-extracted on this run

`tools/gens/shear_src.py` → `Generated/ShearGlue.lean`: the cell assignments of `fictitious_strain`, the expressions returned by
`fictitious_strain_rotated` / `transformation_matrix`, the statements of `strain_rotated`, header / key / skip / body of the two
module functions, which strain / resolver / target every energy property and key method uses, the dictionaries behind the
resolvers, `value_isothermal` / `value_adiabatic`, `__init__`, imports and the list of every `def` of the file.
`CijModel/ShearGlue.lean` gives these data their numpy / Python meaning (`none` for anything it does not know).  Below: the
hand-written model IS that meaning, for every scalar type, every one of the 15 keys and every input. -/

/-- `fictitious_strain`, all 15 keys: the matrix the translated assignments build (zeros, then `e[key.i[0]-1, key.i[1]-1] = 1`, its
mirror, `e[key.j[0]-1, key.j[1]-1] = 1`, its mirror, in source order) is the model's; it is symmetric, so the matrix
`numpy.linalg.eigh` assembles from the lower triangle is that very matrix. -/
theorem c03_glue_is_source_fict {α : Type} [Add α] [Sub α] [Mul α] [Div α] [NatCast α] (key : Modulus) (hk : key ∈ shearKeys) :
    ShearGlue.sourceFict (α := α) key = some (fictitiousStrain key) ∧
    (∀ i j, fictitiousStrain (α := α) key i j = fictitiousStrain key j i) ∧
    ShearGlue.symFromLower (fictitiousStrain (α := α) key) = fictitiousStrain key :=
  ⟨ShearGlue.fict_is_source key hk, ShearGlue.fictitiousStrain_symm key, ShearGlue.symFromLower_fict key⟩

/-- The frames: `fictitious_strain_rotated` = `numpy.diag` of component 0, `transformation_matrix` = component 1 of
`numpy.linalg.eigh(self.fictitious_strain)` — for whatever eigh returns (`o.eigh`): no re-ordering, no handedness fix, no rounding. -/
theorem c03_glue_is_source_frames {α : Type} [Add α] [Sub α] [Mul α] [Div α] [NatCast α] (o : ShearGlue.Obj α)
    (hk : o.key ∈ shearKeys) :
    Generated.ShearGlue.cls.self1 o "fictitious_strain_rotated" =
      some (.mat (diagMat (o.eigh (fictitiousStrain o.key)).1)) ∧
    Generated.ShearGlue.cls.self1 o "transformation_matrix" = some (.mat (o.eigh (fictitiousStrain o.key)).2) :=
  ⟨ShearGlue.rotated_is_source o hk, ShearGlue.transformation_is_source o hk⟩

/-- `strain_rotated`, for EVERY matrix `T` held by `transformation_matrix` and every row `s` of `self.strain`: the translated statements
compute the model's `strainRotated T s`, which is the diagonal of `Tᵀ · diag(s) · T` with the product taken in the order written. -/
theorem c03_glue_is_source_strain_rotated {α : Type} [Add α] [Sub α] [Mul α] [Div α] [NatCast α] (env : ShearGlue.Env α)
    (T : Mat3 α) (s : Vec3 α) (hs : env.self "strain" = some (.rows s))
    (hT : env.self "transformation_matrix" = some (.mat T)) :
    ShearGlue.runSr env [] Generated.ShearGlue.cls.strainRotated.2 = some (.rows (strainRotated T s)) ∧
    ∀ a, strainRotated T s a = ShearGlue.mmul (ShearGlue.mmul (ShearGlue.transpose T) (diagMat s)) T a a :=
  ⟨ShearGlue.strainRotated_stmts_is_source env T s hs hT, ShearGlue.strainRotated_eq_matrix T s⟩

/-- … and on the object: `self.strain_rotated` is `strainRotated` of the eigenvector matrix eigh returned -/
theorem c03_glue_is_source_strain_rotated_obj {α : Type} [Add α] [Sub α] [Mul α] [Div α] [NatCast α] (o : ShearGlue.Obj α)
    (hk : o.key ∈ shearKeys) :
    ShearGlue.sourceStrainRotated o = some (strainRotated (o.eigh (fictitiousStrain o.key)).2 o.strain) :=
  ShearGlue.strainRotated_is_source o hk

/-- The two module functions, all inputs: non-zero test `numpy.logical_not(numpy.isclose(e, 0))` (default tolerances = the parameter
`isZero`), `itertools.product(nz, nz)`, `key = c_(i+1, j+1, k+1, l+1)`, `if target and key == target: continue`, then the translated
term accumulated from 0 / the key appended; the accumulator returned as it is. -/
theorem c03_glue_is_source_loops {α : Type} [Add α] [Sub α] [Mul α] [Div α] [NatCast α] (isZero : α → Bool) (e : Mat3 α)
    (resolve : Modulus → α) (target : Option Modulus) :
    Generated.ShearGlue.energyFn.energy Generated.shearEnergyTerm isZero e resolve target =
      some (strainEnergy isZero e resolve target) ∧
    Generated.ShearGlue.keysFn.keys isZero e target = some (energyKeys isZero e target) ∧
    (∀ pq, Generated.ShearGlue.energyFn.keyOf pq = some (keyOfPairs pq) ∧ Generated.ShearGlue.keysFn.keyOf pq = some (keyOfPairs pq)) :=
  ⟨ShearGlue.energyFn_is_source isZero e resolve target, ShearGlue.keysFn_is_source isZero e target, ShearGlue.keyOf_is_source⟩

/-- The loop body is reached exactly once for every ordered pair of non-zero cells — `((ij),(kl))` and
`((kl),(ij))` are two iterations — except, with a target, the pairs whose key is the target. -/
theorem c03_glue_all_ordered_pairs {α : Type} [Add α] [Sub α] [Mul α] [Div α] [NatCast α] (isZero : α → Bool) (e : Mat3 α) (target : Option Modulus) :
    (energyPairs isZero e target).Nodup ∧
    (∀ pq, pq ∈ energyPairs isZero e none ↔ isZero (e pq.1.1 pq.1.2) = false ∧ isZero (e pq.2.1 pq.2.2) = false) ∧
    (∀ t pq, pq ∈ energyPairs isZero e (some t) ↔
      (isZero (e pq.1.1 pq.1.2) = false ∧ isZero (e pq.2.1 pq.2.2) = false) ∧ keyOfPairs pq ≠ t) :=
  ⟨ShearGlue.energyPairs_nodup isZero e target, ShearGlue.mem_energyPairs_none isZero e,
    fun t => ShearGlue.mem_energyPairs_some isZero e t⟩

/-- The cross terms of a rotated strain with three non-zero eigenvalues (c14, c25, c36: spectrum −1, 1, 1): the rotated frame is asked
for all nine `c'_aabb` — each of the cross components (1′2′), (1′3′), (2′3′) TWICE, each longitudinal one once. -/
theorem c03_glue_rotated_cross_terms {α : Type} [Add α] [Sub α] [Mul α] [Div α] [NatCast α] (isZero : α → Bool) (h0 : isZero ((0 : Nat) : α) = true)
    (lam : Vec3 α) (h : ∀ a, isZero (lam a) = false) :
    modulusKeysRotated isZero lam = (fin3.flatMap fun a => fin3.map fun b => key4 a a b b) ∧
    (∀ a b : Fin 3, (modulusKeysRotated isZero lam).count (key4 a a b b) = if a = b then 1 else 2) ∧
    (modulusKeysRotated isZero lam).map Modulus.voigt =
      [some (1, 1), some (1, 2), some (1, 3), some (1, 2), some (2, 2), some (2, 3), some (1, 3), some (2, 3), some (3, 3)] := by
  have hl := ShearGlue.modulusKeysRotated_three isZero h0 lam h
  refine ⟨hl, fun a b => ?_, ?_⟩
  · rw [hl]; exact ShearGlue.cross_counts a b
  · rw [hl]; decide +kernel

/-- The original-frame energy / key list use `fictitious_strain`, `self.modulus[key]` and target `self.key`; the rotated-frame
ones use `fictitious_strain_rotated`, `self.modulus_rotated[key]` and NO target. -/
theorem c03_glue_is_source_wiring {α : Type} [Add α] [Sub α] [Mul α] [Div α] [NatCast α] (o : ShearGlue.Obj α)
    (hk : o.key ∈ shearKeys) :
    ShearGlue.sourceEnergy o "fictitious_strain_energy" =
      some (strainEnergy o.isZero (fictitiousStrain o.key) o.modulus (some o.key)) ∧
    ShearGlue.sourceEnergy o "fictitious_strain_energy_rotated" =
      some (strainEnergy o.isZero (diagMat (o.eigh (fictitiousStrain o.key)).1) o.modulusRotated none) ∧
    ShearGlue.sourceKeys o "get_modulus_keys" = some (modulusKeys o.isZero o.key) ∧
    ShearGlue.sourceKeys o "get_modulus_keys_rotated" =
      some (modulusKeysRotated o.isZero (o.eigh (fictitiousStrain o.key)).1) :=
  ⟨ShearGlue.energy_orig_is_source o hk, ShearGlue.energy_rot_is_source o hk, ShearGlue.keys_orig_is_source o hk,
    ShearGlue.keys_rot_is_source o hk⟩

/-- No post-processing of the value: `value_isothermal` is `get_target_elastic_modulus()` as it is = the translated target formula on the two
translated energies; `value_adiabatic` is `value_isothermal`. -/
theorem c03_glue_is_source_value {α : Type} [Add α] [Sub α] [Mul α] [Div α] [NatCast α] (o : ShearGlue.Obj α)
    (hk : o.key ∈ shearKeys) :
    ShearGlue.sourceValue o "value_isothermal" =
      some (shearValue o.isZero o.key (o.eigh (fictitiousStrain o.key)).1 o.modulus o.modulusRotated) ∧
    ShearGlue.sourceValue o "value_adiabatic" = ShearGlue.sourceValue o "value_isothermal" := by
  have h := ShearGlue.value_is_source o hk
  exact ⟨h.1, h.2.trans h.1.symm⟩

/-- no call to anything in `get_target_elastic_modulus` (three statements: unpack `self.key.standard`, one local, the return), and the
two module functions call exactly these functions — no clean-up (`numpy.where`, `numpy.isclose` on the result), no rounding -/
theorem c03_glue_no_postprocessing :
    Generated.ShearGlue.targetCalls = [] ∧
    Generated.ShearGlue.targetStatements = ["unpack self.key.standard", "local", "return"] ∧
    Generated.ShearGlue.targetParams = [("self", none)] ∧
    Generated.ShearGlue.energyFnCalls =
      ["c_", "itertools.product", "numpy.argwhere", "numpy.isclose", "numpy.logical_not", "resolve_elastic_modulus"] ∧
    Generated.ShearGlue.keysFnCalls =
      ["_keys.append", "c_", "itertools.product", "numpy.argwhere", "numpy.isclose", "numpy.logical_not"] := by
  decide +kernel

/-- `__init__` stores its parameters and two FRESH dictionaries per instance; the class has no base class, no class-level
statement besides its methods; the module binds only `logger`; `numpy`, `itertools`, `c_`, `LazyProperty` are what the evaluators take
them for; the strain / frame properties are `LazyProperty`s, the energies plain properties (they read the dictionaries at call time). -/
theorem c03_glue_state_and_names :
    Generated.ShearGlue.cls.initParams = [("self", none), ("strain", none), ("key", none), ("calculator", some "None")] ∧
    Generated.ShearGlue.cls.initAssigns =
      [("key", .param "key"), ("strain", .param "strain"), ("modulus_isothermal", .freshDict),
       ("modulus_isothermal_rotated", .freshDict), ("calculator", .param "calculator")] ∧
    Generated.ShearGlue.classBases = [] ∧ Generated.ShearGlue.classOtherStatements = [] ∧
    Generated.ShearGlue.moduleAssigns = [("logger", "getLogger(__name__)")] ∧ Generated.ShearGlue.moduleOtherStatements = [] ∧
    (∀ p ∈ [("numpy", "numpy"), ("itertools", "itertools"), ("c_", "cij.util.c_"), ("LazyProperty", "lazy_property.LazyProperty")],
      Generated.ShearGlue.imports.filter (fun q => q.1 == p.1) = [p]) ∧
    Generated.ShearGlue.methodKinds =
      [("__init__", "method"), ("fictitious_strain", "LazyProperty"), ("fictitious_strain_rotated", "LazyProperty"),
       ("transformation_matrix", "LazyProperty"), ("fictitious_strain_energy", "property"),
       ("fictitious_strain_energy_rotated", "property"), ("strain_rotated", "LazyProperty"),
       ("get_target_elastic_modulus", "method"), ("get_modulus_keys", "method"), ("get_modulus_keys_rotated", "method"),
       ("get_elastic_modulus", "method"), ("get_elastic_modulus_rotated", "method"), ("value_isothermal", "LazyProperty"),
       ("value_adiabatic", "property")] := by
  decide +kernel

/-- Every `def` / `lambda` of shear.py (qualified names, in source order, a redefinition would be listed twice) is one the
translators turned into data — none is skipped, none is only pinned as text. -/
theorem c03_glue_inventory_complete :
    Generated.ShearGlue.definedFunctions = Generated.ShearGlue.handled.map (·.1) ∧
    Generated.ShearGlue.definedFunctions.Nodup ∧
    (∀ h ∈ Generated.ShearGlue.handled, h.2 ≠ ShearGlue.Handled.pinned) ∧
    Generated.ShearGlue.definedFunctions.length = 18 := by
  decide +kernel

/-- Exactness, stated about the pieces translated from shear.py on this run.  Field of characteristic 0 (so also `ℝ`), an instance `o`
for one of the 15 keys, every symmetric tensor `c` (21 values), `F` the matrix the translated `fictitious_strain` builds, whatever eigh
returns for it as long as it meets the contract (orthogonal, diagonalising), `ks` / `ksr` the key lists the translated
`get_modulus_keys()` / `get_modulus_keys_rotated()` return, and ANY dictionaries that agree with the exact tensor on them (crystal frame
on `ks`, the frame of the eigenvectors on `ksr`): the translated `value_isothermal` and `value_adiabatic` are `c key`. -/
theorem c03_exact {R : Type} [Field R] [CharZero R] (o : ShearGlue.Obj R) (hz : ∀ x, o.isZero x = true ↔ x = 0)
    (hk : o.key ∈ shearKeys) (c : Modulus → R)
    (F : Mat3 R) (hF : ShearGlue.sourceFict o.key = some F)
    (h : Contract (o.eigh F).2 (o.eigh F).1 F)
    (ks ksr : List Modulus) (hks : ShearGlue.sourceKeys o "get_modulus_keys" = some ks)
    (hksr : ShearGlue.sourceKeys o "get_modulus_keys_rotated" = some ksr)
    (hm : ∀ k ∈ ks, o.modulus k = c k)
    (hr : ∀ k ∈ ksr, o.modulusRotated k = rotatedLookup (o.eigh F).2 c k) :
    ShearGlue.sourceValue o "value_isothermal" = some (c o.key) ∧
    ShearGlue.sourceValue o "value_adiabatic" = some (c o.key) := by
  have hF' : F = fictitiousStrain o.key := by
    have := ShearGlue.fict_is_source (α := R) o.key hk
    rw [hF] at this
    exact Option.some.inj this
  subst hF'
  have hks' : ks = modulusKeys o.isZero o.key := by
    have := ShearGlue.keys_orig_is_source o hk
    rw [hks] at this
    exact Option.some.inj this
  have hksr' : ksr = modulusKeysRotated o.isZero (o.eigh (fictitiousStrain o.key)).1 := by
    have := ShearGlue.keys_rot_is_source o hk
    rw [hksr] at this
    exact Option.some.inj this
  subst hks' hksr'
  have hv := ShearGlue.value_is_source o hk
  have he := c03_exact_model o.isZero hz o.key hk c (o.eigh (fictitiousStrain o.key)).2 (o.eigh (fictitiousStrain o.key)).1 h
    o.modulus o.modulusRotated hm hr
  simp only [ShearGlue.Obj.lam] at hv
  rw [he] at hv
  exact hv

/-- non-vacuity of `c03_exact`: its hypotheses about the translated pieces are met by every instance with one of the 15 keys
(the translated `fictitious_strain` and both key methods do return something) -/
example {R : Type} [Field R] (o : ShearGlue.Obj R) (hk : o.key ∈ shearKeys) :
    (∃ F, ShearGlue.sourceFict (α := R) o.key = some F) ∧ (∃ ks, ShearGlue.sourceKeys o "get_modulus_keys" = some ks) ∧
    (∃ ksr, ShearGlue.sourceKeys o "get_modulus_keys_rotated" = some ksr) :=
  ⟨⟨_, ShearGlue.fict_is_source o.key hk⟩, ⟨_, ShearGlue.keys_orig_is_source o hk⟩, ⟨_, ShearGlue.keys_rot_is_source o hk⟩⟩

/-- the translated pieces on a concrete instance (ℚ, c14; no eigen-decomposition enters):
the fictitious strain of c14 as built by the translated assignments, and the nine rotated-frame requests for the spectrum (−1, 1, 1) -/
example : (ShearGlue.sourceFict (α := ℚ) (keyOfVoigt (1, 4))).map (fun F => fin3.map fun i => fin3.map fun j => F i j) =
      some [[1, 0, 0], [0, 0, 1], [0, 1, 0]] ∧
    (modulusKeysRotated (α := ℚ) (fun x => decide (x = 0)) (fun a => ![-1, 1, 1] a)).map Modulus.voigt =
      [some (1, 1), some (1, 2), some (1, 3), some (1, 2), some (2, 2), some (2, 3), some (1, 3), some (2, 3), some (3, 3)] := by
  decide +kernel

end Cij.C03
