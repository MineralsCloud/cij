/-
  C09 — fill refuses exactly when under-determined or inconsistent; never distorts data.

  All statements are about `CijModel/Fill.lean` (the model of `cij/util/fill.py`, run by the driver over `Rat` on the
  very tables the real code gets) for an arbitrary linearly ordered field `α` (ℚ, ℝ, …); the relation rows are
  `Generated.constraints_*` / `Generated.constraintDens` (re-translated from /repo on every run).
  `hs : solveStage … = some s` says that the model's own least-squares solve passed its exact check; a failure would be
  the separate outcome `Err.solver`, never a wrong table.  By `lstsq_total` (section "the model's own solver never
  fails", Lemmas/FillTotal.lean) that outcome is impossible: the system `(AAᵀ)² z = AAᵀ b` always has a solution
  over a linearly ordered field, so `hs` holds for some `s` on every well-shaped input (`solve_stage_total`,
  `fill_never_solver`); `rank_refusal_iff_total`, `triclinic_refusal_iff_total`, `fill_with_decided` are the statements
  without that hypothesis.

  Section "the model is the source" (`fill_model_is_source_*`): the model's parameters ARE what `cij/util/fill.py` and
  `cij/cli/fill.py` say on this run — `Generated/FillSpec.lean` is re-extracted from the source by `tools/gens/fill_src.py`
  (symbol order, defaults, regexes, refusal tests and residual definition as expression trees, lookup test, equation
  rule, stacking order, write-back key, drop rule, command-line wiring, call sites); the semantics of those trees are in
  `Lemmas/FillSource.lean`.  Whatever the two functions contain besides is compared on the normalised ast by the
  translator (a difference is a broken tie naming the statement).

  The model is the code of /repo a4e5038 (residuals always computed; only modulus columns dropped; empty relations
  still go through the rank test; `is_file` lookup).
-/
import Mathlib.Analysis.Real.Sqrt
import CijProofs.Lemmas.FillPerm
import CijProofs.Lemmas.FillTotal
import CijProofs.Lemmas.FillSource
set_option linter.unusedSectionVars false
namespace Cij.C09
open Cij Cij.Fill

section field
variable {α : Type} [Field α] [LinearOrder α] [IsStrictOrderedRing α]

/-! #### refusal for rank ⇔ under-determined -/

/-- With `ignore_rank` off, fill refuses for rank **iff** some non-zero tensor `v` satisfies every (homogeneous)
    symmetry relation and vanishes on every supplied component — i.e. iff two relation-compatible tensors agree on
    all supplied components and still differ (`two_tensors_iff_kernel`).  Exact: no numerical rank threshold. -/
theorem rank_refusal_iff {rel : Rows} {sel : List (Option Nat)} {P : Params α} {t : Table α} {s : Solved α}
    (hsel : (selIdxOf sel).isEmpty = false) (hidx : ∀ i ∈ selIdxOf sel, i < nsym)
    (hs : solveStage (stackA (α := α) (selIdxOf sel) rel)
            ((List.range (nRows t)).map fun k => stackB (selColsOf sel t) rel k) = some s) :
    fillWith rel sel P t = .error .refuseRank ↔
      (P.ignoreRank = false ∧ ∃ v : List α, v.length = nsym ∧ (∃ x ∈ v, x ≠ 0) ∧
        (∀ i ∈ selIdxOf sel, v.getD i 0 = 0) ∧ (∀ r ∈ rel, dot (castRow (α := α) r) v = 0)) := by
  rw [fillWith_refuseRank_iff hsel hs]
  simp only [stackA_kernel_iff _ _ hidx]

/-- the indices produced by the column recognition are always in range (so `hidx` above is automatic) -/
theorem recognised_in_range {names : List String} {sel : List (Option Nat)} (h : recognise names = .ok sel) :
    ∀ i ∈ selIdxOf sel, i < nsym := recognise_lt h

/-- two tensors that satisfy the same (inhomogeneous) relations and agree on the supplied components differ by a
    kernel vector of the stacked system, and conversely -/
theorem two_tensors_iff_kernel (sel : List Nat) (rel : Rows) (x0 : List α) (hx0 : x0.length = nsym) :
    (∃ y : List α, y.length = nsym ∧ y ≠ x0 ∧ (∀ i ∈ sel, y.getD i 0 = x0.getD i 0) ∧
        (∀ r ∈ rel, dot (castRow (α := α) r) y = dot (castRow (α := α) r) x0)) ↔
    (∃ v : List α, v.length = nsym ∧ (∃ e ∈ v, e ≠ 0) ∧ (∀ i ∈ sel, v.getD i 0 = 0) ∧
        (∀ r ∈ rel, dot (castRow (α := α) r) v = 0)) := by
  constructor
  · rintro ⟨y, hyl, hne, hsel, hrel⟩
    refine ⟨vsub y x0, length_vsub hx0 hyl, ?_, ?_, ?_⟩
    · by_contra hall
      simp only [not_exists, not_and, not_not] at hall
      exact hne (eq_of_vsub_zero hx0 hyl hall).symm
    · intro i hi
      have g := getD_axpy (-1 : α) x0 y i
      rw [← vsub] at g; rw [g, hsel i hi]; ring
    · intro r hr; rw [dot_vsub, hrel r hr]; ring
  · rintro ⟨v, hvl, ⟨e, he, he0⟩, hsel, hrel⟩
    refine ⟨axpy 1 v x0, by simp [length_axpy, hvl, hx0], ?_, ?_, ?_⟩
    · intro heq
      obtain ⟨i, hi, rfl⟩ := List.getElem_of_mem he
      have g := getD_axpy (1 : α) v x0 i
      rw [heq, List.getD_eq_getElem _ _ hi] at g
      apply he0; linarith
    · intro i hi
      rw [getD_axpy, hsel i hi]; ring
    · intro r hr
      rw [dot_comm, dot_axpy, dot_comm x0, dot_comm v, hrel r hr]; ring

/-! #### acceptance never distorts -/

/-- Whenever a table is accepted with `ignore_residuals` off — determined or under-determined (`ignore_rank`), any
    number of stacked rows — every entry `e` of every residual vector `A x − b` satisfies `e² ≤ residual_atol`.
    By `residual_shape` these entries are exactly: (written value − supplied value) for every supplied
    component at every volume, and the violation of every symmetry relation by the written table. -/
theorem accept_bounds {A : List (List α)} {bs : List (List α)} {s : Solved α} {P : Params α}
    (hs : solveStage A bs = some s) (hv : verdict P s = .ok ()) (hflag : P.ignoreResiduals = false) :
    ∀ p ∈ List.zip bs s.xs, ∀ e ∈ residualVec A p.1 p.2, e * e ≤ P.residualAtol :=
  accept_residual_entries hs hv hflag

/-- the residual vector of the stacked system: supplied-value displacements, then relation violations -/
theorem residual_shape (sel : List Nat) (selCols : List (List α)) (rel : Rows) (k : Nat) (x : List α)
    (hlen : sel.length = selCols.length) (hidx : ∀ i ∈ sel, i < nsym) :
    residualVec (stackA (α := α) sel rel) (stackB selCols rel k) x =
      List.zipWith (fun i c => x.getD i 0 - c.getD k 0) sel selCols ++
      rel.map (fun r => dot (castRow (α := α) r) x - (Int.cast r.rhs : α) / (Int.cast (Int.ofNat r.den) : α)) :=
  Fill.residualVec_stack sel selCols rel k x hlen hidx

/-- Consistent data are not moved at all: if (at a volume row) some tensor `t` reproduces every supplied value and
    satisfies every relation exactly, and the system is determined, the written solution IS `t` — for any number of
    stacked rows (also ≤ 21, where numpy reports no residuals). -/
theorem accept_consistent_exact {A : List (List α)} {bs : List (List α)} {s : Solved α}
    (hs : solveStage A bs = some s) (hfull : s.rankDeficient = false) :
    ∀ p ∈ List.zip bs s.xs, p.1.length = A.length → ∀ t : List α, t.length = nsym →
      (∀ e ∈ residualVec A p.1 t, e = 0) → p.2 = t :=
  solveStage_consistent hs hfull

/-- the written solution is the exact least-squares solution of the stacked system -/
theorem solution_is_least_squares {A : List (List α)} {bs : List (List α)} {s : Solved α}
    (hs : solveStage A bs = some s) :
    ∀ p ∈ List.zip bs s.xs, p.1.length = A.length → ∀ y : List α,
      sumSq (residualVec A p.1 p.2) ≤ sumSq (residualVec A p.1 y) := by
  intro p hp hb y
  exact lstsq_minimizes hb (solveStage_xs hs p hp).1 y

/-! #### the flags -/

/-- the two flags only disable refusals: a table accepted with both flags off is accepted, with the same result,
    under every setting of the flags -/
theorem flags_only_disable {rel : Rows} {sel : List (Option Nat)} (P : Params α) (t out : Table α)
    (h : fillWith rel sel { P with ignoreRank := false, ignoreResiduals := false } t = .ok out) :
    fillWith rel sel P t = .ok out := Fill.flags_only_disable P t out h

theorem ignore_rank_disables_rank_refusal {rel : Rows} {sel : List (Option Nat)} (P : Params α) (t : Table α)
    (h : P.ignoreRank = true) : fillWith rel sel P t ≠ .error .refuseRank := ignoreRank_never_refuseRank P t h

theorem ignore_residuals_disables_residual_refusal {rel : Rows} {sel : List (Option Nat)} (P : Params α)
    (t : Table α) (h : P.ignoreResiduals = true) : fillWith rel sel P t ≠ .error .refuseResidual :=
  ignoreResiduals_never_refuseResidual P t h

/-- the only outcomes of the decision stage are acceptance and the two refusals, rank first -/
theorem decision_outcomes (P : Params α) (s : Solved α) :
    verdict P s = .ok () ∨ verdict P s = .error .refuseRank ∨ verdict P s = .error .refuseResidual :=
  verdict_cases P s

/-- The flags switch off EXACTLY these refusals: once the rank refusal is out of the way (system determined, or
    `ignore_rank` on), the table is refused for residuals iff `ignore_residuals` is off and the sum of squared
    residuals exceeds the tolerance at some volume — also for an under-determined system under `ignore_rank`. -/
theorem residual_refusal_iff (P : Params α) (s : Solved α) (h : s.rankDeficient = false ∨ P.ignoreRank = true) :
    verdict P s = .error .refuseResidual ↔ (P.ignoreResiduals = false ∧ ∃ r ∈ s.ssq, P.residualAtol < r) := by
  rw [verdict_refuseResidual_iff]
  have : ¬(s.rankDeficient = true ∧ P.ignoreRank = false) := by
    rintro ⟨h1, h2⟩; rcases h with h | h <;> simp_all
  simp only [this, not_false_eq_true, true_and, Solved.residuals]
  tauto

/-- … and `ssq` is what it says: the sum of squared residuals of the written solution, per volume row -/
theorem ssq_is_sum_of_squares {A : List (List α)} {bs : List (List α)} {s : Solved α} (hs : solveStage A bs = some s) :
    s.ssq = List.zipWith (fun b x => sumSq (residualVec A b x)) bs s.xs :=
  (solveStage_eq_some hs).2.2

/-! #### column order and letter case -/

/-  `Rearranged t t'` (Lemmas/FillPerm.lean): `t'` consists of the columns of `t` in any order, every name possibly
    re-cased (`∃ t'', List.Forall₂ (fun c c' => c.1.toLower = c'.1.toLower ∧ c.2 = c'.2) t t'' ∧ t''.Perm t'`).
    `NoCaseDup t`: no two columns of `t` differ by letter case only.  `hrect`: all columns have `n` rows.
    `huser`: IF the system name means a user-supplied relations file, its rows have at most 21 coefficients (the
    packaged systems have exactly 21: `packaged_coeffs_length`, checked on `Generated.constraintSystems`; sympy's
    `linear_eq_to_matrix` over the 21 symbols cannot produce more).  No hypothesis on the solver: the model's own
    solve is PROVED to succeed for `t'` whenever it does for `t` (`lstsq_perm`), so also the outcome `Err.solver`
    is the same.  Both branches are covered: determined, and rank-deficient under `ignore_rank` (the model's
    `x = Aᵀ z` is the minimum-norm solution whatever solution `z` the elimination picks: `rowspace_normalEq_unique`). -/

/-- **Column order and letter case are irrelevant** (full clause).  There is ONE outcome `r` of the solve and
    decision stages — an error, or the solved tensors `xs`, one per volume row — common to `t` and `t'`, and
    `fill` returns, for either table, that error or

      `existingPart P xs ·  ++  newPart P xs t`

    * `existingPart P xs u = (u.map (updCol xs)).filter (keepCol P)`: the columns of the INPUT table `u`, in the
      input order, each name as spelled in the input; the values of a modulus column replaced by the solved component
      (`updCol`), other columns untouched; negligible modulus columns dropped (`keepCol`);
    * `newPart P xs t`: the components no input column stands for, named in lower case, in the order of the 21
      symbols, negligible ones dropped — literally the same list for `t` and `t'`.

    So the two results have the same status, and when they succeed they differ exactly as the inputs do: the block of
    surviving input columns is rearranged / re-cased in the same way (`Rearranged`), the appended block is identical. -/
theorem column_order_case_irrelevant (env : Env) (sys : String) (P : Params α) (t t' : Table α) (n : Nat)
    (hre : Rearranged t t') (hrect : ∀ c ∈ t, c.2.length = n) (hnd : NoCaseDup t) (hnd' : NoCaseDup t')
    (huser : ∀ rows, env.userFile sys = some rows → ∀ r ∈ rows, r.coeffs.length ≤ nsym) :
    ∃ r : Except Err (List (List α)),
      fill env (some sys) P t = r.map (fun xs => existingPart P xs t ++ newPart P xs t) ∧
      fill env (some sys) P t' = r.map (fun xs => existingPart P xs t' ++ newPart P xs t) ∧
      ∀ xs, Rearranged (existingPart P xs t) (existingPart P xs t') := by
  refine ⟨fillSol env sys P t, ?_, ?_, fun xs => hre.existingPart P xs⟩
  · have hf : finish P t = fun xs => existingPart P xs t ++ newPart P xs t :=
      funext fun xs => finish_closed P xs hnd
    rw [fill_eq_fillSol, hf]
  · have hf : finish P t' = fun xs => existingPart P xs t' ++ newPart P xs t :=
      funext fun xs => by rw [finish_closed P xs hnd', hre.newPart P xs]
    rw [fill_eq_fillSol, ← fillSol_rearranged env sys P hre hrect (resolve_coeffs_length env sys huser), hf]

/-- same status: the same error, or both succeed (`system = None` included) -/
theorem column_order_case_same_status (env : Env) (system : Option String) (P : Params α) (t t' : Table α) (n : Nat)
    (hre : Rearranged t t') (hrect : ∀ c ∈ t, c.2.length = n) (hnd : NoCaseDup t) (hnd' : NoCaseDup t')
    (huser : ∀ sys rows, env.userFile sys = some rows → ∀ r ∈ rows, r.coeffs.length ≤ nsym) :
    (∀ e, fill env system P t = .error e ↔ fill env system P t' = .error e) ∧
    ((∃ out, fill env system P t = .ok out) ↔ (∃ out', fill env system P t' = .ok out')) := by
  cases system with
  | none => exact ⟨fun e => by simp [fill], ⟨fun _ => ⟨t', rfl⟩, fun _ => ⟨t, rfl⟩⟩⟩
  | some sys =>
    obtain ⟨r, h1, h2, _⟩ := column_order_case_irrelevant env sys P t t' n hre hrect hnd hnd' (huser sys)
    rw [h1, h2]
    cases r with
    | error e0 => simp [Except.map]
    | ok xs => simp [Except.map]

/-- … and when they succeed the results are the SAME MAP: as lists, `out'` is `out` rearranged / re-cased exactly as
    the input was; hence every (lower-cased name ↦ value list) pair of one is a pair of the other -/
theorem column_order_case_same_map (env : Env) (system : Option String) (P : Params α) (t t' : Table α) (n : Nat)
    (hre : Rearranged t t') (hrect : ∀ c ∈ t, c.2.length = n) (hnd : NoCaseDup t) (hnd' : NoCaseDup t')
    (huser : ∀ sys rows, env.userFile sys = some rows → ∀ r ∈ rows, r.coeffs.length ≤ nsym)
    (out out' : Table α) (ho : fill env system P t = .ok out) (ho' : fill env system P t' = .ok out') :
    Rearranged out out' ∧
    ∀ (name : String) (vals : List α),
      (∃ c ∈ out, c.1.toLower = name ∧ c.2 = vals) ↔ (∃ c' ∈ out', c'.1.toLower = name ∧ c'.2 = vals) := by
  have key : Rearranged out out' := by
    cases system with
    | none =>
      simp only [fill, Except.ok.injEq] at ho ho'
      rw [← ho, ← ho']; exact hre
    | some sys =>
      obtain ⟨r, h1, h2, h3⟩ := column_order_case_irrelevant env sys P t t' n hre hrect hnd hnd' (huser sys)
      rw [h1] at ho; rw [h2] at ho'
      cases r with
      | error e0 => simp [Except.map] at ho
      | ok xs =>
        simp only [Except.map, Except.ok.injEq] at ho ho'
        rw [← ho, ← ho']
        exact (h3 xs).append_right _
  exact ⟨key, key.mem_iff⟩

/-- pure reordering (no re-casing): the result is a permutation of the result — the surviving input columns are
    permuted as in the input, the appended block stays where it is -/
theorem column_order_irrelevant (env : Env) (sys : String) (P : Params α) (t t' : Table α) (n : Nat)
    (hp : t.Perm t') (hrect : ∀ c ∈ t, c.2.length = n) (hnd : NoCaseDup t)
    (huser : ∀ rows, env.userFile sys = some rows → ∀ r ∈ rows, r.coeffs.length ≤ nsym) :
    ∃ r : Except Err (List (List α)),
      fill env (some sys) P t = r.map (fun xs => existingPart P xs t ++ newPart P xs t) ∧
      fill env (some sys) P t' = r.map (fun xs => existingPart P xs t' ++ newPart P xs t) ∧
      ∀ xs, (existingPart P xs t).Perm (existingPart P xs t') := by
  have hnd' : NoCaseDup t' := fun c hc c' hc' h => hnd c (hp.symm.subset hc) c' (hp.symm.subset hc') h
  obtain ⟨r, h1, h2, _⟩ :=
    column_order_case_irrelevant env sys P t t' n (Rearranged.of_perm hp) hrect hnd hnd' huser
  exact ⟨r, h1, h2, fun xs => (hp.map _).filter _⟩

/-- the documented naming rule and the order of the output: the surviving input columns come first, in input order
    and with the input spelling (their names are a sublist of the input names); every appended column is a symbol,
    spelled in lower case, that no input column stands for -/
theorem output_names_and_order (P : Params α) (xs : List (List α)) (t : Table α) :
    ((existingPart P xs t).map (·.1)).Sublist (t.map (·.1)) ∧
    ∀ e ∈ newPart P xs t, e.1 ∈ symbolNames ∧ e.1.toLower = e.1 ∧ ∀ c ∈ t, c.1.toLower ≠ e.1 := by
  constructor
  · have h1 : (t.map (updCol xs)).map (·.1) = t.map (·.1) := by
      rw [List.map_map]
      apply List.map_congr_left
      intro c _
      simp only [Function.comp, updCol]
      cases symIdx c.1 <;> rfl
    rw [← h1]
    exact (List.filter_sublist).map _
  · intro e he
    unfold newPart at he
    obtain ⟨q, hq, hqe⟩ := List.mem_filterMap.1 (List.mem_filter.1 he).1
    split at hqe
    · simp at hqe
    · rename_i hany
      injection hqe with hqe
      subst hqe
      refine ⟨symPairs_names q hq, symbols_lower q.2 (symPairs_names q hq), ?_⟩
      intro c hc hcq
      exact hany (List.any_eq_true.2 ⟨c, hc, by simp [hcq]⟩)

/-- the order of the equations is irrelevant for the model's least squares — outcome (also its own failure `none`)
    and vector, in the determined AND in the rank-deficient (minimum-norm) branch -/
theorem equation_order_irrelevant {n : Nat} {A A' : List (List α)} {b b' : List α} (hb : b.length = A.length)
    (hb' : b'.length = A'.length) (hp : (List.zip A b).Perm (List.zip A' b')) (hrows : ∀ a ∈ A, a.length ≤ n) :
    lstsq n A b = lstsq n A' b' := lstsq_perm hb hb' hp hrows

/-- three facts about single stages, weaker than `column_order_case_irrelevant`: recognition only looks at the
    lower-cased names … -/
theorem column_case_irrelevant_partial (names names' : List String)
    (h : names.map String.toLower = names'.map String.toLower) : recognise names = recognise names' :=
  recognise_case names names' h

/-- … the rank decision only depends on the SET of stacked rows … -/
theorem column_order_irrelevant_rank_partial {n : Nat} {A A' : List (List α)} (h : ∀ r, r ∈ A ↔ r ∈ A') :
    (kerWitness n A).isSome = (kerWitness n A').isSome := kerWitness_isSome_congr h

/-- … and two checked solutions of a determined system coincide -/
theorem column_order_irrelevant_solution_partial {n : Nat} {A A' : List (List α)} {b b' x x' : List α}
    (hb : b.length = A.length) (hp : (List.zip A b).Perm (List.zip A' b'))
    (hker : kerWitness n A = none) (hx : lstsq n A b = some x) (hx' : lstsq n A' b' = some x') : x = x' :=
  lstsq_perm_invariant hb hp hker (lstsq_some hx).1 (lstsq_some hx').1 (lstsq_some hx).2 (lstsq_some hx').2

/-! #### pass-through and dropping -/

/-- non-modulus columns survive the write-back untouched … -/
theorem passthrough_writeback (t : Table α) (xs : List (List α)) (c : String × List α)
    (hc : c ∈ t) (hne : c.1.toLower ∉ symbolNames) : c ∈ writeAll t xs := writeAll_passthrough t xs c hc hne

/-- … and the drop: the output keeps exactly the written-back columns that are not modulus-like or exceed `drop_atol`
    at some volume -/
theorem drop_iff (P : Params α) (t : Table α) (xs : List (List α)) (c : String × List α) :
    c ∈ finish P t xs ↔
      c ∈ writeAll t xs ∧ (matchesCdd c.1.toLower.toList = false ∨ ∃ x ∈ c.2, P.dropAtol < |x|) :=
  mem_finish_iff P t xs c

/-- non-modulus columns pass through untouched — whatever their values (also all zeros) -/
theorem passthrough (P : Params α) (t : Table α) (xs : List (List α)) (c : String × List α)
    (hc : c ∈ t) (hnm : matchesCdd c.1.toLower.toList = false) : c ∈ finish P t xs := by
  rw [drop_iff]
  refine ⟨writeAll_passthrough t xs c hc ?_, Or.inl hnm⟩
  intro hmem
  have := symbolNames_match _ hmem
  rw [hnm] at this; exact absurd this (by simp)

/-- components below the drop tolerance at all volumes are omitted -/
theorem vanishing_component_omitted (P : Params α) (t : Table α) (xs : List (List α)) (c : String × List α)
    (hm : matchesCdd c.1.toLower.toList = true) (hz : ∀ x ∈ c.2, |x| ≤ P.dropAtol) : c ∉ finish P t xs := by
  intro h
  rcases ((drop_iff P t xs c).mp h).2 with h1 | ⟨x, hx, hlt⟩
  · rw [hm] at h1; exact absurd h1 (by simp)
  · exact absurd (hz x hx) (not_le.mpr hlt)

/-! #### trivial branches -/

theorem system_none_unchanged (env : Env) (P : Params α) (t : Table α) :
    fill env none P t = .ok t := rfl

/-! #### no relations (triclinic) -/

/-- with an empty relations file the stacked system has a kernel iff some of the 21 components is not supplied … -/
theorem triclinic_kernel_iff (sel : List Nat) :
    (∃ v : List α, v.length = nsym ∧ (∃ x ∈ v, x ≠ 0) ∧ ∀ i ∈ sel, v.getD i 0 = 0) ↔ ∃ j, j < nsym ∧ j ∉ sel := by
  constructor
  · rintro ⟨v, hl, ⟨x, hx, hx0⟩, hz⟩
    by_contra hall
    push Not at hall
    obtain ⟨i, hi, rfl⟩ := List.getElem_of_mem hx
    have := hz i (hall i (hl ▸ hi))
    rw [List.getD_eq_getElem _ _ hi] at this
    exact hx0 this
  · rintro ⟨j, hj, hns⟩
    refine ⟨selectorRow j, length_selectorRow j, ⟨1, ?_, one_ne_zero⟩, ?_⟩
    · have h1 := getD_selectorRow (α := α) j j hj
      have hlt : j < (selectorRow (α := α) j).length := by rw [length_selectorRow]; exact hj
      rw [List.getD_eq_getElem _ _ hlt, if_pos rfl] at h1
      rw [← h1]; exact List.getElem_mem hlt
    · intro i hi
      by_cases hin : i < nsym
      · rw [getD_selectorRow j i hin, if_neg]; rintro rfl; exact hns hi
      · exact List.getD_eq_default _ _ (by rw [length_selectorRow]; exact Nat.le_of_not_lt hin)

/-- … so triclinic is refused for rank (flag off) iff some of the 21 components is not supplied -/
theorem triclinic_refusal_iff {sel : List (Option Nat)} {P : Params α} {t : Table α} {s : Solved α}
    (hsel : (selIdxOf sel).isEmpty = false) (hidx : ∀ i ∈ selIdxOf sel, i < nsym)
    (hs : solveStage (stackA (α := α) (selIdxOf sel) [])
            ((List.range (nRows t)).map fun k => stackB (selColsOf sel t) [] k) = some s) :
    fillWith [] sel P t = .error .refuseRank ↔ (P.ignoreRank = false ∧ ∃ j, j < nsym ∧ j ∉ selIdxOf sel) := by
  rw [rank_refusal_iff hsel hidx hs, ← triclinic_kernel_iff (α := α)]
  simp

/-- with all 21 components supplied (system determined) the values are returned unchanged: the written solution is
    any tensor `τ` that reproduces the supplied values -/
theorem triclinic_supplied_unchanged {sel : List Nat} {selCols : List (List α)} (hlen : sel.length = selCols.length)
    (hidx : ∀ i ∈ sel, i < nsym) {bs : List (List α)} {s : Solved α}
    (hs : solveStage (stackA (α := α) sel []) bs = some s) (hfull : s.rankDeficient = false)
    (k : Nat) (x τ : List α) (hk : (stackB selCols [] k, x) ∈ List.zip bs s.xs) (hτl : τ.length = nsym)
    (hτ : ∀ e ∈ List.zipWith (fun i c => τ.getD i 0 - c.getD k 0) sel selCols, e = 0) : x = τ := by
  apply solveStage_consistent hs hfull _ hk (by simp [stackA, stackB, hlen]) τ hτl
  rw [residual_shape sel selCols [] k τ hlen hidx]
  simpa using hτ

/-! #### the model's own solver never fails -/

/-- The model's minimum-norm least squares answers on EVERY well-shaped system — any rank, consistent or
    not: the system `(AAᵀ)² z = AAᵀ b` it hands to its elimination always has a solution over a linearly ordered field
    (`AAᵀ b ∈ range (AAᵀ)(AAᵀ)ᵀ`, Mathlib `Matrix.rank_self_mul_transpose`), the elimination finds one
    (`solveAny_complete`) and `x = Aᵀ z` then passes the exact normal-equation check (`normalEq_of_sys_solved`). -/
theorem lstsq_total {n : Nat} {A : List (List α)} {b : List α} (hrows : ∀ r ∈ A, r.length = n)
    (hb : A.length = b.length) : ∃ x, lstsq n A b = some x :=
  Fill.lstsq_total hrows hb

/-- … hence the solve stage always reaches the decision stage: rows of at most 21 entries, right-hand sides as long as
    the matrix has rows -/
theorem solve_stage_total {A bs : List (List α)} (hrows : ∀ a ∈ A, a.length ≤ nsym)
    (hbs : ∀ b ∈ bs, b.length = A.length) : ∃ s, solveStage A bs = some s :=
  solveStage_total hrows hbs

/-- the order of the equations is irrelevant AND both presentations are answered, with the same vector -/
theorem equation_order_irrelevant_total {n : Nat} {A A' : List (List α)} {b b' : List α} (hb : b.length = A.length)
    (hb' : b'.length = A'.length) (hp : (List.zip A b).Perm (List.zip A' b')) (hrows : ∀ a ∈ A, a.length ≤ n) :
    ∃ x, lstsq n A b = some x ∧ lstsq n A' b' = some x := by
  obtain ⟨x, hx⟩ := lstsq_total' hrows hb
  exact ⟨x, hx, (lstsq_perm hb hb' hp hrows) ▸ hx⟩

/-- `Err.solver` is not an outcome of `fill`: for every table, system name, flag setting and
    environment (a user-supplied relations file having at most 21 coefficients per row, as `linear_eq_to_matrix` over the
    21 symbols produces) the result is a table or one of the Python-visible outcomes (ValueError, FileNotFoundError,
    IndexError, LinAlgError, the two refusals). -/
theorem fill_never_solver (env : Env) (system : Option String) (P : Params α) (t : Table α)
    (huser : ∀ sys rows, env.userFile sys = some rows → ∀ r ∈ rows, r.coeffs.length ≤ nsym) :
    fill env system P t ≠ .error .solver :=
  fill_ne_solver env system P t huser

/-- With at least one recognised modulus column the result of `fillWith` IS the decision on a
    solved record — there is no third case: `∃ s` with the solve stage returning `s` and the outcome being the verdict's
    refusal or the written-back table.  (`s` is what `accept_bounds`, `accept_consistent_exact`,
    `solution_is_least_squares`, `residual_refusal_iff`, `ssq_is_sum_of_squares` speak about.) -/
theorem fill_with_decided {rel : Rows} {sel : List (Option Nat)} (P : Params α) (t : Table α)
    (hsel : (selIdxOf sel).isEmpty = false) (hrel : ∀ r ∈ rel, r.coeffs.length ≤ nsym) (hlen : sel.length ≤ t.length) :
    ∃ s, solveStage (stackA (α := α) (selIdxOf sel) rel)
          ((List.range (nRows t)).map fun k => stackB (selColsOf sel t) rel k) = some s ∧
      fillWith rel sel P t = match verdict P s with
        | .error e => .error e
        | .ok () => .ok (finish P t s.xs) := by
  obtain ⟨s, hs⟩ := solveStage_stack_total rel sel t hrel hlen
  exact ⟨s, hs, fillWith_of_solved hsel hs⟩

/-- `rank_refusal_iff` without the hypothesis that the solve answered -/
theorem rank_refusal_iff_total {rel : Rows} {sel : List (Option Nat)} {P : Params α} {t : Table α}
    (hsel : (selIdxOf sel).isEmpty = false) (hidx : ∀ i ∈ selIdxOf sel, i < nsym)
    (hrel : ∀ r ∈ rel, r.coeffs.length ≤ nsym) (hlen : sel.length ≤ t.length) :
    fillWith rel sel P t = .error .refuseRank ↔
      (P.ignoreRank = false ∧ ∃ v : List α, v.length = nsym ∧ (∃ x ∈ v, x ≠ 0) ∧
        (∀ i ∈ selIdxOf sel, v.getD i 0 = 0) ∧ (∀ r ∈ rel, dot (castRow (α := α) r) v = 0)) := by
  obtain ⟨s, hs⟩ := solveStage_stack_total rel sel t hrel hlen
  exact rank_refusal_iff hsel hidx hs

/-- the whole call, packaged system or user file: once the columns are recognised (`sel`) and the relations found
    (`rel`), `fill` refuses for rank iff the flag is off and a non-zero relation-compatible tensor vanishes on all
    supplied components — no side condition on the solver, none on the shape (the recognition produces one selector per
    column, indices in range) -/
theorem fill_rank_refusal_iff (env : Env) (sys : String) (P : Params α) (t : Table α) (sel : List (Option Nat))
    (rel : Rows) (hrec : recognise (t.map (·.1)) = .ok sel) (hres : resolve env sys = .ok rel)
    (hsel : (selIdxOf sel).isEmpty = false)
    (huser : ∀ rows, env.userFile sys = some rows → ∀ r ∈ rows, r.coeffs.length ≤ nsym) :
    fill env (some sys) P t = .error .refuseRank ↔
      (P.ignoreRank = false ∧ ∃ v : List α, v.length = nsym ∧ (∃ x ∈ v, x ≠ 0) ∧
        (∀ i ∈ selIdxOf sel, v.getD i 0 = 0) ∧ (∀ r ∈ rel, dot (castRow (α := α) r) v = 0)) := by
  have hfill : fill env (some sys) P t = fillWith rel sel P t := by simp only [fill, hrec, hres]
  rw [hfill]
  exact rank_refusal_iff_total hsel (recognise_lt hrec) (resolve_coeffs_length env sys huser rel hres)
    (le_of_eq (by rw [recognise_length hrec]; simp))

/-- `triclinic_refusal_iff` without the hypothesis that the solve answered -/
theorem triclinic_refusal_iff_total {sel : List (Option Nat)} {P : Params α} {t : Table α}
    (hsel : (selIdxOf sel).isEmpty = false) (hidx : ∀ i ∈ selIdxOf sel, i < nsym) (hlen : sel.length ≤ t.length) :
    fillWith [] sel P t = .error .refuseRank ↔ (P.ignoreRank = false ∧ ∃ j, j < nsym ∧ j ∉ selIdxOf sel) := by
  obtain ⟨s, hs⟩ := solveStage_stack_total (α := α) [] sel t (by simp) hlen
  exact triclinic_refusal_iff hsel hidx hs

/-! #### lookup of the relations -/

/-- the outcome does not depend on what `Path(system).exists()` says: a directory named like the crystal system in
    the working directory is irrelevant (only `is_file` is consulted) … -/
theorem lookup_cwd_irrelevant (pe pe' : String → Bool) (uf : String → Option Rows) (system : Option String)
    (P : Params α) (t : Table α) :
    fill ⟨pe, uf⟩ system P t = fill ⟨pe', uf⟩ system P t := by
  cases system <;> rfl

/-- … a path to a relations file given in place of a system name is used as the relations … -/
theorem user_file_used (env : Env) (sys : String) (rows : Rows) (e : Err) (hp : packaged sys = .error e)
    (h : env.userFile sys = some rows) (P : Params α) (t : Table α) :
    fill env (some sys) P t =
      match recognise (t.map (·.1)) with
      | .error e => .error e
      | .ok sel => fillWith rows sel P t := by
  simp only [fill, resolve_user_file env sys rows e hp h]
  cases recognise (t.map (·.1)) <;> rfl

/-- … and for a PACKAGED system name nothing in the working directory matters at all — neither `Path.exists` nor a
regular file of that name (fix 6f0d09b; the C14 finding `cwd:regular-file-named-like-system`) -/
theorem lookup_env_irrelevant_packaged (env env' : Env) (sys : String) (rows : Rows) (hp : packaged sys = .ok rows)
    (P : Params α) (t : Table α) : fill env (some sys) P t = fill env' (some sys) P t := by
  simp only [fill, resolve_packaged env sys rows hp, resolve_packaged env' sys rows hp]

/-- … and a user-written file equivalent to the packaged one gives the same outcome as the system name -/
theorem user_file_equivalent (pe pe' : String → Bool) (uf : String → Option Rows) (name path : String) (rows : Rows)
    (e : Err) (hpath : packaged path = .error e) (hpk : packaged name = .ok rows) (hfile : uf path = some rows)
    (P : Params α) (t : Table α) :
    fill ⟨pe, uf⟩ (some path) P t = fill ⟨pe', uf⟩ (some name) P t := by
  simp only [fill, resolve_user_file ⟨pe, uf⟩ path rows e hpath hfile, resolve_packaged ⟨pe', uf⟩ name rows hpk]

end field

/-! #### over ℝ: the √ form of the acceptance bound -/

/-- every supplied value moves, and every relation is violated, by at most `√residual_atol` -/
theorem accept_bounds_sqrt {A : List (List ℝ)} {bs : List (List ℝ)} {s : Solved ℝ} {P : Params ℝ}
    (hs : solveStage A bs = some s) (hv : verdict P s = .ok ()) (hflag : P.ignoreResiduals = false) :
    ∀ p ∈ List.zip bs s.xs, ∀ e ∈ residualVec A p.1 p.2, |e| ≤ Real.sqrt P.residualAtol := by
  intro p hp e he
  have h := accept_bounds hs hv hflag p hp e he
  exact Real.abs_le_sqrt (by rw [sq]; exact h)

/-! #### non-vacuity: concrete instances, evaluated by the kernel over ℚ on the relations of THIS run -/

def env0 : Env := ⟨fun _ => false, fun _ => none⟩
def P0 (ir ik : Bool) : Params Rat := ⟨ir, ik, mkRat 1 100000000, mkRat 1 10⟩
def outcome (r : Except Err (Table Rat)) : String :=
  match r with
  | .ok t => "ok:" ++ String.intercalate "," (t.map fun c => c.1 ++ "=" ++ toString (c.2.headD 0))
  | .error .valueError => "ValueError"
  | .error .fileNotFound => "FileNotFoundError" | .error .indexError => "IndexError"
  | .error .linAlgError => "LinAlgError"
  | .error .refuseRank => "refuse:rank" | .error .refuseResidual => "refuse:residual" | .error .solver => "solver"

/-! Every `fill` below is `Fill.fillChecked` (Lemmas/FillTotal.lean): the kernel does not run the least squares, it checks a
    kernel vector of the stacked system (`.inl`) or an order of its rows that shows there is none (`.inr`), and the normal
    equations for the proposed solution — with a kernel, for the minimum-norm solution `Aᵀ z` given by `z`. -/

/-- the cubic tensor with `c11 = a`, `c12 = b`, `c44 = c` -/
def cubicTensor (a b c : Rat) : List Rat := [a, b, b, 0, 0, 0, a, b, 0, 0, 0, a, 0, 0, 0, c, 0, 0, c, 0, c]

/-- three supplied components, one of each cubic class, then the 18 cubic relations: an order of these rows in which every
    row meets exactly one new unknown -/
def cubicOrder : List Nat := [0, 1, 2, 3, 4, 5, 6, 7, 8, 11, 9, 10, 14, 12, 13, 17, 15, 16, 20, 18, 19]

/-- a determined consistent cubic table is filled with the right values, vanishing components omitted -/
example : outcome (fill env0 (some "cubic") (P0 false false)
      [("V", [100]), ("c11", [300]), ("c12", [100]), ("c44", [80])])
    = "ok:V=100,c11=300,c12=100,c44=80,c13=100,c22=300,c23=100,c33=300,c55=80,c66=80" :=
  fill_of_checked outcome (w := .inr cubicOrder) (cs := [cubicTensor 300 100 80]) (by decide +kernel)

/-- under-determined (c44 class missing): refused for rank; with `ignore_rank` a CONTRADICTORY table (c11 ≠ c22) is
    still refused — for residuals — while a consistent one is completed as far as it is determined -/
example : outcome (fill env0 (some "cubic") (P0 false false)
      [("c11", [300]), ("c22", [400]), ("c12", [100])]) = "refuse:rank" :=
  fill_of_checked outcome (w := .inl (cubicTensor 0 0 1)) (cs := [[2000/3, 1100/3, 300, 0, -1000/3, -100, -100]])
    (by decide +kernel)

example : outcome (fill env0 (some "cubic") (P0 false true)
      [("c11", [300]), ("c22", [400]), ("c12", [100])]) = "refuse:residual" :=
  fill_of_checked outcome (w := .inl (cubicTensor 0 0 1)) (cs := [[2000/3, 1100/3, 300, 0, -1000/3, -100, -100]])
    (by decide +kernel)

example : outcome (fill env0 (some "cubic") (P0 false true)
      [("c11", [300]), ("c22", [300]), ("c12", [100])])
      = "ok:c11=300,c22=300,c12=100,c13=100,c23=100,c33=300" :=
  fill_of_checked outcome (w := .inl (cubicTensor 0 0 1)) (cs := [[600, 300, 300, 0, -300, -100, -100]])
    (by decide +kernel)

/-- triclinic with one component: refused for rank; a non-modulus zero column passes through under `ignore_rank` -/
example : outcome (fill env0 (some "triclinic") (P0 false false) [("c11", [300])]) = "refuse:rank" ∧
    outcome (fill env0 (some "triclinic") (P0 false true) [("c11", [300]), ("P", [0])]) = "ok:c11=300,P=0" := by
  decide +kernel

/-- determined but contradictory: refused for residuals unless `ignore_residuals` -/
example : outcome (fill env0 (some "cubic") (P0 false false)
      [("c11", [300]), ("C22", [305]), ("c12", [100]), ("c44", [80])]) = "refuse:residual" :=
  fill_of_checked outcome (w := .inr [0, 1, 2, 3, 5, 6, 7, 8, 9, 12, 10, 11, 15, 13, 14, 18, 16, 17, 21, 19, 20])
    (cs := [[905/3, 100, 100, 0, 0, 0, 910/3, 100, 0, 0, 0, 905/3, 0, 0, 0, 80, 0, 0, 80, 0, 80]]) (by decide +kernel)

example : outcome (fill env0 (some "cubic") (P0 false false) [("c21", [1]), ("c11", [300])])
    = "ValueError" := by decide +kernel

/-- `lstsq_total` on a rank-deficient AND inconsistent system (rows 1, 2 equal with different right-hand sides, row 3
    zero with a non-zero right-hand side): the model answers with the minimum-norm least-squares solution -/
example : kerWitness 2 ([[1, 1], [1, 1], [0, 0]] : List (List Rat)) = some [-1, 1] ∧
    lstsq 2 ([[1, 1], [1, 1], [0, 0]] : List (List Rat)) [1, 3, 5] = some [1, 1] := by decide +kernel

/-! non-vacuity of the column-order / letter-case clause: a rectangular two-volume table, the same columns in another
    order with two names re-cased; determined (both flags off) and rank-deficient (`ignore_rank`) -/

def tA : Table Rat := [("V", [100, 90]), ("c11", [300, 310]), ("c12", [100, 105]), ("c44", [80, 82])]
def tB : Table Rat := [("C44", [80, 82]), ("V", [100, 90]), ("c11", [300, 310]), ("C12", [100, 105])]

theorem tA_tB_rearranged : Rearranged tA tB := by
  -- each lowered name is compared with a literal: the kernel decides `computed = literal` at once, `computed = computed`
  -- (two `String.toLower`) only very slowly
  have h12 : "c12".toLower = "C12".toLower :=
    (by decide +kernel : "c12".toLower = "c12").trans (by decide +kernel : "C12".toLower = "c12").symm
  have h44 : "c44".toLower = "C44".toLower :=
    (by decide +kernel : "c44".toLower = "c44").trans (by decide +kernel : "C44".toLower = "c44").symm
  exact ⟨[("V", [100, 90]), ("c11", [300, 310]), ("C12", [100, 105]), ("C44", [80, 82])],
    .cons ⟨rfl, rfl⟩ (.cons ⟨rfl, rfl⟩ (.cons ⟨h12, rfl⟩ (.cons ⟨h44, rfl⟩ .nil))),
    List.perm_append_comm (l₁ := [("V", [100, 90]), ("c11", [300, 310]), ("C12", [100, 105])]) (l₂ := [("C44", [80, 82])])⟩

theorem tA_tB_hyps : NoCaseDup tA ∧ NoCaseDup tB ∧ ∀ c ∈ tA, c.2.length = 2 := by
  unfold NoCaseDup; decide +kernel

/-- the hypotheses of `column_order_case_irrelevant` are satisfiable: the theorem applied to `tA`, `tB` -/
example : ∃ r : Except Err (List (List Rat)),
    fill env0 (some "cubic") (P0 false false) tA =
      r.map (fun xs => existingPart (P0 false false) xs tA ++ newPart (P0 false false) xs tA) ∧
    fill env0 (some "cubic") (P0 false false) tB =
      r.map (fun xs => existingPart (P0 false false) xs tB ++ newPart (P0 false false) xs tA) ∧
    ∀ xs, Rearranged (existingPart (P0 false false) xs tA) (existingPart (P0 false false) xs tB) :=
  column_order_case_irrelevant env0 "cubic" (P0 false false) tA tB 2 tA_tB_rearranged tA_tB_hyps.2.2
    tA_tB_hyps.1 tA_tB_hyps.2.1 (fun rows h => by simp [env0] at h)

/-- … evaluated: the table of the first example above (`V, c11, c12, c44`, determined) with the columns in another
    order and two names re-cased — same values per (lower-cased) name, input spelling kept, the surviving input columns
    in the input order, the appended lower-case block identical -/
example : outcome (fill env0 (some "cubic") (P0 false false)
      [("C44", [80]), ("V", [100]), ("c11", [300]), ("C12", [100])])
    = "ok:C44=80,V=100,c11=300,C12=100,c13=100,c22=300,c23=100,c33=300,c55=80,c66=80" :=
  fill_of_checked outcome (w := .inr cubicOrder) (cs := [cubicTensor 300 100 80]) (by decide +kernel)

/-- rank-deficient branch (`ignore_rank`, minimum-norm solution; compare the `ignore_rank` example with `c11, c22, c12` above): also independent
    of order and case -/
example : outcome (fill env0 (some "cubic") (P0 false true) [("C12", [100]), ("c22", [300]), ("C11", [300])])
    = "ok:C12=100,c22=300,C11=300,c13=100,c23=100,c33=300" :=
  fill_of_checked outcome (w := .inl (cubicTensor 0 0 1)) (cs := [[300, 300, 600, 0, -300, -100, -100]])
    (by decide +kernel)

/-! #### the model is the source (`Generated/FillSpec.lean`, re-extracted from fill.py / cli/fill.py on every run) -/

section source
variable {α : Type} [Field α] [LinearOrder α] [IsStrictOrderedRing α]
open Cij.FillSource Generated

/-- **symbol order.**  The model's 21 symbols are the list obtained by evaluating the source's
    `itertools.product(range(1,7), range(1,7)) if i <= j` comprehension, in that order; it is the order of the canonical
    keys of the Voigt model (C10) and of `Generated.symbolPairs`, in which the Laue model (C08) and the translated
    relation rows list the components. -/
theorem fill_model_is_source_symbols :
    symbolNames = Generated.fillSymbols ∧ nsym = Generated.fillSymbols.length ∧
    Generated.fillSymbols = Cij.keys21.map (fun p => s!"c{p.1}{p.2}") ∧
    Generated.fillSymbols = Generated.symbolPairs.map (fun p => s!"c{p.1}{p.2}") :=
  ⟨symbols_are_source, nsym_is_source, symbols_are_keys21, symbols_are_symbolPairs⟩

/-- The model's decision stage IS the semantics of the two `if …: raise Warning(…)` tests as they stand
    in the source (`rank < nsym and not ignore_rank`, then `numpy.any(residuals > residual_atol) and not ignore_residuals`):
    operators, operands, the flag each test consults and their order are extracted as trees; evaluated on the model's
    quantities they give the model's verdict — for every parameter setting, every solved record, and every value `rank`
    that is `< nsym` exactly when the stacked matrix has a kernel.  (Swapping the flags, comparing with `≥`, testing a
    mean or a sum of the residuals, or exchanging the two tests changes the tree and this statement fails.) -/
theorem fill_model_is_source_refusals (P : Params α) (s : Solved α) (rank : Nat)
    (hrank : rank < nsym ↔ s.rankDeficient = true) :
    evalRefusals (refusalEnv P s rank) Generated.fillRefusals = some (verdict P s) :=
  verdict_is_source P s rank hrank

/-- … in the form of the two refusal conditions: rank refusal ⇔ the first extracted test evaluates to true; residual
    refusal ⇔ the first is false and the second true -/
theorem fill_model_is_source_refusal_iff (P : Params α) (s : Solved α) (rank : Nat)
    (hrank : rank < nsym ↔ s.rankDeficient = true) :
    ∃ t0 t1 m0 m1, Generated.fillRefusals = [(t0, m0), (t1, m1)] ∧
      (verdict P s = .error .refuseRank ↔ evalBool (refusalEnv P s rank) t0 = some true) ∧
      (verdict P s = .error .refuseResidual ↔
        evalBool (refusalEnv P s rank) t0 = some false ∧ evalBool (refusalEnv P s rank) t1 = some true) := by
  refine ⟨_, _, _, _, rfl, ?_, ?_⟩
  · rw [verdict_refuseRank_iff]
    have hc : ((rank : α) < (nsym : α)) ↔ s.rankDeficient = true := by rw [Nat.cast_lt]; exact hrank
    simp only [evalBool, evalAtom, refusalEnv, evalCmp, bind, Option.bind, pure, Option.map]
    cases hk : P.ignoreRank <;> simp [hc]
  · rw [verdict_refuseResidual_iff]
    have hc : ((rank : α) < (nsym : α)) ↔ s.rankDeficient = true := by rw [Nat.cast_lt]; exact hrank
    simp only [evalBool, evalAtom, refusalEnv, evalCmp, bind, Option.bind, pure, Option.map, Solved.residuals]
    cases hk : P.ignoreRank <;> cases hr : P.ignoreResiduals <;> cases hd : s.rankDeficient <;> simp [hc, hd]

/-- What the second test compares with `residual_atol` is the source's
    `numpy.sum((a @ x - b) ** 2, axis=0)`: the extracted array expression, evaluated for a volume column, is the model's
    `Σ (a·x − b)²`; and that is what the solve stage records per volume. -/
theorem fill_model_is_source_residuals {A : List (List α)} {bs : List (List α)} {s : Solved α}
    (hs : solveStage A bs = some s) :
    s.residuals = List.zipWith (fun b x => sumSq (residualVec A b x)) bs s.xs ∧
    ∀ b x : List α, evalArr (residualEnv A b x) Generated.fillResidualExpr = some (.scalar (sumSq (residualVec A b x))) :=
  ⟨ssq_is_sum_of_squares hs, fun b x => residual_is_source A b x⟩

/-- **lookup precedence.**  The relations come from the user's path exactly when the source's test
    (`(Path(system).name != system or not Path(packaged).is_file()) and Path(system).is_file()`, extracted as a tree) holds:
    a string with a directory part that names an existing file is that file; a bare name means the packaged file of that
    name, and the user's file only when no packaged file of that name exists; `Path(system).exists()` is not consulted.
    The probe `Path(packaged).is_file()` has its file-system meaning (`constraints/./cubic` IS `constraints/cubic`,
    `Lemmas/FillSource.lean: packagedProbe`): the test as it stood before the fix of the `./cubic` finding
    (`not Path(packaged).is_file() and Path(system).is_file()`) does not satisfy this statement. -/
theorem fill_model_is_source_lookup (env : Env) (sys : String) :
    ∃ useUser, evalBool (lookupEnv (α := α) env sys) Generated.fillLookupTest = some useUser ∧
      resolve env sys =
        if useUser then (match env.userFile sys with | some rows => .ok rows | none => .error .fileNotFound)
        else packaged sys :=
  resolve_is_source env sys

/-- **the repaired behaviour, outright.**  (i) A string WITH a directory part (`./cubic`, `sub/cubic`, `/abs/cubic`) that names
    an existing relations file is used as the relations, whatever its base name — also when the base name is a packaged
    crystal system.  (ii) A packaged system name has NO directory part, and for it nothing in the working directory is
    consulted: two arbitrary environments give the same outcome. -/
theorem path_with_directory_part_is_used (env : Env) (sys : String) (rows : Rows)
    (hd : FillSource.hasDirPart sys = true) (h : env.userFile sys = some rows) (P : Params α) (t : Table α) :
    resolve env sys = .ok rows ∧
    fill env (some sys) P t =
      match recognise (t.map (·.1)) with
      | .error e => .error e
      | .ok sel => fillWith rows sel P t := by
  have hr := FillSource.dir_path_is_used env sys rows hd h
  refine ⟨hr, ?_⟩
  simp only [fill, hr]
  cases recognise (t.map (·.1)) <;> rfl

theorem bare_packaged_name_ignores_cwd (sys : String) (rows : Rows) (hp : packaged sys = .ok rows) :
    FillSource.hasDirPart sys = false ∧
    ∀ (env env' : Env) (P : Params α) (t : Table α), fill env (some sys) P t = fill env' (some sys) P t :=
  ⟨FillSource.packaged_ok_bare hp, fun env env' P t => lookup_env_irrelevant_packaged env env' sys rows hp P t⟩

/-- (i) For every packaged system the relation rows of the model are, as the rational rows handed to the
    least squares and in order, what the source's rule (`parts = line.split("=")`, a row `parts[0] - part` for every
    `part in parts[1:]`; separator, indices and sign extracted) makes of the file's lines part by part;
    (ii) the stacked system is `[supplied rows; relation rows]` in the order of the tuples the source hands to
    `numpy.concatenate`, for the matrix and for the right-hand sides, the relations' constants being the same at every
    volume; (iii) a selector row is zero except for the extracted value (1) at the symbol's index. -/
theorem fill_model_is_source_equations (sel : List Nat) (selCols : List (List α)) (rel : Rows) (k : Nat) :
    (Generated.fillLineParts.map (·.1) = Generated.constraintSystems.map (·.1) ∧
      ∀ e ∈ Generated.fillLineParts,
        (match packaged e.1 with
          | .ok rows => rows.map ratRow
          | .error _ => []) =
        (e.2.flatMap (lineRows Generated.fillEqnLhsIndex Generated.fillEqnRhsFrom Generated.fillEqnRhsSign)).map ratRow) ∧
    stackA (α := α) sel rel = concatBy Generated.fillStackA (sel.map selectorRow) (rel.map castRow) ∧
    stackB selCols rel k = concatBy Generated.fillStackB (selCols.map fun c => c.getD k 0)
      (rel.map fun r => (Int.cast r.rhs : α) / (Int.cast (Int.ofNat r.den) : α)) ∧
    (∀ i, selectorRow (α := α) i = (List.range Generated.fillSymbols.length).map fun j =>
      if j = i then ((Generated.fillSelectorValue.1 : α) / (Generated.fillSelectorValue.2 : α)) else 0) :=
  ⟨relation_rows_are_source, stack_is_source sel selCols rel k⟩

/-- (i) A column is a component iff the source's regex (parsed from the literal; `re.search` semantics on
    ASCII) finds a match in its LOWER-CASED name, and the lower-cased name is what is looked up among the symbols; the drop
    loop uses the same regex, again on the lower-cased name.  (ii) A solved component is written to the first existing
    column whose lower-cased name equals the symbol, else to a new column named by the symbol (`next(…, index)`, extracted).
    (iii) A component column is dropped iff `numpy.allclose(col, 0, atol=drop_atol)` — extracted target 0, extracted
    tolerance parameter `drop_atol` (not `residual_atol`), numpy's default `rtol` multiplying `|0|`. -/
theorem fill_model_is_source_columns (P : Params α) (t : Table α) (xs : List (List α)) (names : List String)
    (sym : String) (col : List α) (hsym : sym ∈ symbolNames) :
    (∃ atoms, parseRegex Generated.fillRegexFit.toList = some atoms ∧
      parseRegex Generated.fillRegexDrop.toList = some atoms ∧
      recognise names = recogniseLower (if Generated.fillFitLowersFirst then names.map String.toLower else names) ∧
      (∀ s : String, matchesCdd s.toList = search atoms s.toList) ∧
      finish P t xs = (writeAll t xs).filter fun c =>
        !(search atoms (if Generated.fillDropLowersFirst then c.1.toLower else c.1).toList &&
          allcloseGeneric P.dropAtol (ratOf Generated.fillDropRtol) (ratOf Generated.fillDropTarget) c.2)) ∧
    writeBack t sym col = setColumn t (chooseKey Generated.fillKeyCompare (t.map (·.1)) sym) col ∧
    (paramValue P Generated.fillDropAtolParam).map (fun atol =>
      allcloseGeneric atol (ratOf Generated.fillDropRtol) (ratOf Generated.fillDropTarget) col)
      = some (allClose0 P.dropAtol col) := by
  refine ⟨?_, writeBack_is_source t sym col (symbols_lower sym hsym), drop_is_source P col⟩
  obtain ⟨atoms, h1, h2⟩ := finish_is_source P t xs
  obtain ⟨atoms', h1', h2', h3'⟩ := recognise_is_source names
  have hsame : atoms' = atoms := by
    rw [regex_drop_is_regex_fit, h1'] at h1
    exact Option.some.inj h1
  subst hsame
  exact ⟨atoms', h1', h1, h2', h3', h2⟩

/-- The signature's parameter names and order and the default of every keyword parameter
    (`system=None, ignore_residuals=False, ignore_rank=False, drop_atol=1e-8, residual_atol=0.1`, as exact decimal
    fractions) are those of `CijModel/FillCall.lean`, from which the driver fills absent keywords. -/
theorem fill_model_is_source_defaults :
    Generated.fillParams = FillCall.paramNames ∧
    Generated.fillDefaults.map (·.1) = FillCall.paramNames.tail ∧
    (lookupDefault "system" = some .none ∧ FillCall.defaultSystem = none) ∧
    lookupDefault "ignore_residuals" = some (.bool FillCall.defaultParams.ignoreResiduals) ∧
    lookupDefault "ignore_rank" = some (.bool FillCall.defaultParams.ignoreRank) ∧
    (lookupDefault "drop_atol").bind defaultNum = some FillCall.defaultParams.dropAtol ∧
    (lookupDefault "residual_atol").bind defaultNum = some FillCall.defaultParams.residualAtol :=
  defaults_are_source

/-- **command line and callers.**  Every `@click.option` of `cij fill` reaches `fill_cij` under the keyword named by its
    own long flag (identity on names: `--ignore-rank` ↦ `ignore_rank`, … — options wired crosswise break this), that keyword
    is a parameter of `fill_cij` and the option's default is the library's; the popped keyword is the file argument; the
    table is printed without index.  Every call site of `fill_cij` in the package passes the table (and at most `system`)
    by position and its settings by `**mapping` or under the same names with the library's defaults. -/
theorem fill_model_is_source_cli :
    ((∀ o ∈ Generated.cliOptions,
        (o.decls.filter isLong).head?.map canonName = some o.kwarg ∧
        o.kwarg ∈ Generated.fillParams.tail ∧
        lookupDefault o.kwarg = some o.default) ∧
      (Generated.cliOptions.map (·.kwarg)).Nodup ∧
      Generated.cliPopped = Generated.cliArgument ∧
      Generated.cliArgument ∉ Generated.fillParams ∧
      Generated.cliArgument ∉ Generated.cliOptions.map (·.kwarg) ∧
      Generated.cliPrintIndex = false) ∧
    ∀ c ∈ Generated.fillCallSites, callSiteOk c = true :=
  ⟨cli_is_source, callers_pass_through⟩

/-- **re-emission.**  The line-level model of `cij fill` (`ElastDat.fillCmd`, C17) reads the count from the extracted field
    of line 2 and sends the next `N + 1` lines (extracted offset) through read_table → fill_cij → to_string. -/
theorem fill_model_is_source_cmd {Num : Type} (F P : NumFmt Num) (k : Nat)
    (fill : ElastDat.Table Num → Option (ElastDat.Table Num)) (l1 l2 : Line) (rest : List Line) :
    ElastDat.fillCmd F P k fill (l1 :: l2 :: rest) = (do
      let n ← l2[Generated.cliCountField]? >>= Lex.parseInt
      let cnt := (n + Generated.cliTableExtra).toNat
      let t ← ElastDat.parseTable F (rest.take cnt)
      let t' ← fill t
      pure (l1 :: l2 :: (ElastDat.printTable P k t' ++ rest.drop cnt))) :=
  fill_cmd_is_source F P k fill l1 l2 rest

/-- **remaining literals.**  `numpy.linalg.lstsq(a, b, rcond=None)` — numpy's own machine-precision rank threshold, which the
    model replaces by the exact rank (assumption 2 of the harness; measured on every case); the candidates of the write-back
    key are the table's columns and the fallback is the symbol; a line is split at `=`; the command is `fill` and its file
    argument must exist.  (Pins in theorem form: the model was written against exactly these.) -/
theorem fill_model_is_source_literals :
    Generated.fillLstsqRcond = none ∧ Generated.fillKeyCandidates = "columns" ∧ Generated.fillKeyFallback = "symbol" ∧
    Generated.fillEqnSeparator = "=" ∧ Generated.cliCommand = "fill" ∧ Generated.cliArgumentMustExist = true := by
  decide +kernel

end source

/-- non-vacuity of the source tie: the extracted tests evaluated over ℚ — a rank-deficient record (rank 20 < 21) with the
    flag off is refused for rank; with `ignore_rank` the second test fires on a residual 1/2 > 1/10; with both flags
    nothing fires -/
example :
    let s : Solved Rat := { rankDeficient := true, m := 3, xs := [], ssq := [0, mkRat 1 2] }
    FillSource.evalRefusals (FillSource.refusalEnv (P0 false false) s 20) Generated.fillRefusals = some (.error .refuseRank) ∧
    FillSource.evalRefusals (FillSource.refusalEnv (P0 false true) s 20) Generated.fillRefusals = some (.error .refuseResidual) ∧
    FillSource.evalRefusals (FillSource.refusalEnv (P0 true true) s 20) Generated.fillRefusals = some (.ok ()) := by
  decide +kernel

/-- the extracted regex finds components anywhere in a name (`xc11`), not in `c1`; the extracted key rule picks the first
    existing column spelled like the symbol in any case; the extracted residual tree on a 2×2 system -/
example :
    (FillSource.parseRegex Generated.fillRegexFit.toList).map (fun a => (FillSource.search a "xc11".toList,
      FillSource.search a "c1".toList)) = some (true, false) ∧
    FillSource.chooseKey Generated.fillKeyCompare ["V", "C12", "c12"] "c12" = "C12" ∧
    FillSource.chooseKey Generated.fillKeyCompare ["V", "C11"] "c12" = "c12" := by
  decide +kernel

/-- the `./cubic` finding, on the model: a user file `./cubic` holding only `c11 = c22` is USED (the table below is then
    under-determined: refused for rank), while the bare name `cubic` fills the same table with the packaged relations although
    the same file is there; the strings have / do not have a directory part -/
example :
    let rel : Rows := [⟨[1, 0, 0, 0, 0, 0, -1, 0, 0, 0, 0, 0, 0, 0, 0, 0, 0, 0, 0, 0, 0], 0, 1⟩]
    let env : Env := ⟨fun _ => true, fun s => if s = "./cubic" ∨ s = "cubic" then some rel else none⟩
    FillSource.hasDirPart "./cubic" = true ∧ FillSource.hasDirPart "cubic" = false ∧
    outcome (fill env (some "./cubic") (P0 false false) [("c11", [300]), ("c12", [100]), ("c44", [80])]) = "refuse:rank" ∧
    outcome (fill env (some "cubic") (P0 false false) [("c11", [300]), ("c12", [100]), ("c44", [80])])
      = "ok:c11=300,c12=100,c44=80,c13=100,c22=300,c23=100,c33=300,c55=80,c66=80" := by
  dsimp only
  exact ⟨by decide +kernel, by decide +kernel, by decide +kernel,
    fill_of_checked outcome (w := .inr cubicOrder) (cs := [cubicTensor 300 100 80]) (by decide +kernel)⟩

end Cij.C09
