/-
  The tiny regex matcher of `CijModel/Regex.lean`: greedy repetition needs no backtracking when the continuation cannot start with
  the repeated class; `str.split()` against `takeWhile`/`dropWhile`; the three patterns of the readers against their regex-free
  recognisers.
-/
import CijModel.Regex

namespace Cij.Regex

theorem isSp_of_digit {c : Char} (h : c.isDigit = true) : isSp c = false := by
  unfold Char.isDigit at h
  simp only [Bool.and_eq_true, decide_eq_true_eq, ge_iff_le] at h
  obtain ⟨h1, h2⟩ := h
  rw [UInt32.le_iff_toNat_le] at h1 h2
  unfold isSp Char.toNat
  have e1 : '0'.val.toNat = 48 := rfl
  have e2 : '9'.val.toNat = 57 := rfl
  rw [e1] at h1; rw [e2] at h2
  simp only [Bool.or_eq_false_iff, Bool.and_eq_false_iff, decide_eq_false_iff_not]
  omega

theorem digit_ne_newline {c : Char} (h : c.isDigit = true) : c ≠ '\n' := by
  intro hc; subst hc; exact absurd h (by decide)

theorem eq_not_sp : isSp '=' = false := by decide
theorem newline_sp : isSp '\n' = true := by decide

@[simp] theorem eatAll_nil (x : Ctx) : x.eatAll [] = x := rfl
@[simp] theorem eatAll_cons (x : Ctx) (c : Char) (cs : List Char) : x.eatAll (c :: cs) = (x.eat c).eatAll cs := rfl

theorem eatAll_append (x : Ctx) (a b : List Char) : x.eatAll (a ++ b) = (x.eatAll a).eatAll b := by
  simp [Ctx.eatAll, List.foldl_append]

theorem eatAll_groups (x : Ctx) (cs : List Char) : (x.eatAll cs).groups = x.groups := by
  induction cs generalizing x with
  | nil => rfl
  | cons c cs ih => simp [ih, Ctx.eat]

theorem eatAll_cur (x : Ctx) (cs : List Char) : (x.eatAll cs).cur = x.cur.map (· ++ cs) := by
  induction cs generalizing x with
  | nil => cases h : x.cur <;> simp [h]
  | cons c cs ih => cases h : x.cur <;> simp [ih, Ctx.eat, h]

theorem eat_none {x : Ctx} (h : x.cur = none) (c : Char) : x.eat c = x := by
  cases x; simp_all [Ctx.eat]

theorem eatAll_none {x : Ctx} (h : x.cur = none) (cs : List Char) : x.eatAll cs = x := by
  induction cs with
  | nil => rfl
  | cons c cs ih => simp [eat_none h, ih]

theorem starLoop_greedy (t : Char → Bool) (kont : Ctx → List Char → Option Groups) (cs : List Char) (x : Ctx)
    (h : ∀ pre c suf, cs = pre ++ c :: suf → (∀ d ∈ pre, t d = true) → t c = true → kont (x.eatAll pre) (c :: suf) = none) :
    starLoop t kont cs x = kont (x.eatAll (cs.takeWhile t)) (cs.dropWhile t) := by
  induction cs generalizing x with
  | nil => rfl
  | cons c r ih =>
    by_cases hc : t c = true
    · have h0 : kont x (c :: r) = none := h [] c r rfl (by simp) hc
      have ih' := ih (x.eat c) (by
        intro pre c' suf hr hpre hc'
        have := h (c :: pre) c' suf (by simp [hr]) (by
          intro d hd
          rcases List.mem_cons.1 hd with rfl | hd
          · exact hc
          · exact hpre d hd) hc'
        simpa using this)
      simp [starLoop, hc, ih', h0, List.takeWhile_cons, List.dropWhile_cons]
    · simp [starLoop, hc, List.takeWhile_cons, List.dropWhile_cons]

theorem starLoop_max (t : Char → Bool) (kont : Ctx → List Char → Option Groups) (cs : List Char) (x : Ctx) (g : Groups)
    (h : kont (x.eatAll (cs.takeWhile t)) (cs.dropWhile t) = some g) : starLoop t kont cs x = some g := by
  induction cs generalizing x with
  | nil => simpa [starLoop] using h
  | cons c r ih =>
    by_cases hc : t c = true
    · have := ih (x.eat c) (by simpa [List.takeWhile_cons, List.dropWhile_cons, hc] using h)
      simp [starLoop, hc, this]
    · simpa [starLoop, hc, List.takeWhile_cons, List.dropWhile_cons] using h

/-! ### `str.split()` against takeWhile / dropWhile -/

/-- the non-space test, as `takeWhile`/`dropWhile` see it -/
abbrev ns : Char → Bool := fun c => !isSp c

theorem test_nonSpace : Cls.nonSpace.test = ns := by funext c; rfl
theorem test_space : Cls.space.test = isSp := by funext c; rfl
theorem test_digit : Cls.digit.test = Char.isDigit := by funext c; rfl
theorem test_nonDigit : Cls.nonDigit.test = fun c => !c.isDigit := by funext c; rfl

/-- nothing follows, or a space follows -/
def Bnd (r : List Char) : Prop := ∀ c, r.head? = some c → isSp c = true

/-- the last character (if any) is not a space -/
def EndsNs (r : List Char) : Prop := ∀ c, r.getLast? = some c → isSp c = false

theorem bnd_nil : Bnd [] := by intro c h; simp at h

theorem bnd_dropWhile_ns (t : List Char) : Bnd (t.dropWhile ns) := by
  induction t with
  | nil => exact bnd_nil
  | cons c t ih =>
    by_cases hc : isSp c = true
    · intro d hd; simp [List.dropWhile_cons, hc] at hd; subst hd; exact hc
    · simpa [List.dropWhile_cons, hc] using ih

theorem head_dropWhile_sp {r : List Char} {c : Char} {t : List Char} (h : r.dropWhile isSp = c :: t) : isSp c = false := by
  induction r with
  | nil => simp at h
  | cons d r ih =>
    by_cases hd : isSp d = true
    · simp [List.dropWhile_cons, hd] at h; exact ih h
    · simp [List.dropWhile_cons, hd] at h; obtain ⟨rfl, _⟩ := h; simpa using hd

theorem splitWs_sp {c : Char} (r : List Char) (h : isSp c = true) : splitWs (c :: r) = splitWs r := by
  simp [splitWs, splitAux, h]

theorem splitWs_dropSp (r : List Char) : splitWs r = splitWs (r.dropWhile isSp) := by
  induction r with
  | nil => rfl
  | cons c r ih =>
    by_cases hc : isSp c = true
    · simp [List.dropWhile_cons, hc, splitWs_sp r hc, ih]
    · simp [List.dropWhile_cons, hc]

theorem splitAux_nonsp (t r cur : List Char) (ht : ∀ d ∈ t, isSp d = false) :
    splitAux (t ++ r) cur = splitAux r (cur ++ t) := by
  induction t generalizing cur with
  | nil => simp
  | cons d t ih =>
    have hd : isSp d = false := ht d (by simp)
    simp [splitAux, hd, ih (cur ++ [d]) (fun e he => ht e (by simp [he]))]

theorem splitWs_token (t r : List Char) (hne : t ≠ []) (ht : ∀ d ∈ t, isSp d = false) (hr : Bnd r) :
    splitWs (t ++ r) = t :: splitWs r := by
  unfold splitWs
  rw [splitAux_nonsp t r [] ht]
  have he : t.isEmpty = false := by cases t <;> simp_all
  cases r with
  | nil => simp [splitAux, he]
  | cons c r' =>
    have hc : isSp c = true := hr c rfl
    simp [splitAux, hc, he]

theorem mem_takeWhile {p : Char → Bool} {t : List Char} {d : Char} (h : d ∈ t.takeWhile p) : p d = true := by
  induction t with
  | nil => simp at h
  | cons c t ih =>
    by_cases hc : p c = true
    · simp [List.takeWhile_cons, hc] at h
      rcases h with rfl | h
      · exact hc
      · exact ih h
    · simp [List.takeWhile_cons, hc] at h

theorem mem_takeWhile_ns {t : List Char} {d : Char} (h : d ∈ t.takeWhile ns) : isSp d = false := by
  simpa [ns] using mem_takeWhile h

theorem splitWs_cons_ns (c : Char) (t : List Char) (hc : isSp c = false) :
    splitWs (c :: t) = (c :: t.takeWhile ns) :: splitWs (t.dropWhile ns) := by
  have h := splitWs_token (c :: t.takeWhile ns) (t.dropWhile ns) (by simp)
    (by intro d hd; rcases List.mem_cons.1 hd with rfl | hd
        · exact hc
        · exact mem_takeWhile_ns hd) (bnd_dropWhile_ns t)
  simpa [List.takeWhile_append_dropWhile] using h

/-- the next token of a line and what follows it -/
def nextTok (r : List Char) : Option (List Char × List Char) :=
  match r.dropWhile isSp with
  | [] => none
  | c :: t => some (c :: t.takeWhile ns, t.dropWhile ns)

theorem splitWs_next (r : List Char) :
    splitWs r = match nextTok r with
      | none => []
      | some (tok, r') => tok :: splitWs r' := by
  rw [splitWs_dropSp r]
  unfold nextTok
  cases h : r.dropWhile isSp with
  | nil => rfl
  | cons c t => simp [splitWs_cons_ns c t (head_dropWhile_sp h)]

theorem splitWs_forall (P : List Char → Prop) (h : ∀ (c : Char) (t : List Char), isSp c = false → P (c :: t.takeWhile ns)) (cs : List Char) :
    ∀ tok ∈ splitWs cs, P tok := by
  suffices H : ∀ n (cs : List Char), cs.length ≤ n → ∀ tok ∈ splitWs cs, P tok from H cs.length cs (Nat.le_refl _)
  intro n
  induction n with
  | zero =>
    intro cs hl tok ht
    rw [List.length_eq_zero_iff.mp (Nat.le_zero.mp hl)] at ht
    cases ht
  | succ n ih =>
    intro cs hl tok ht
    rw [splitWs_next] at ht
    unfold nextTok at ht
    cases hd : cs.dropWhile isSp with
    | nil => rw [hd] at ht; cases ht
    | cons c t =>
      rw [hd] at ht
      rcases List.mem_cons.mp ht with rfl | ht
      · exact h c t (head_dropWhile_sp hd)
      · have h1 := (List.dropWhile_sublist isSp (l := cs)).length_le
        have h2 := (List.dropWhile_sublist ns (l := t)).length_le
        rw [hd, List.length_cons] at h1
        exact ih _ (by omega) tok ht

theorem nextTok_bnd {r tok r' : List Char} (h : nextTok r = some (tok, r')) : Bnd r' := by
  unfold nextTok at h
  cases hd : r.dropWhile isSp with
  | nil => simp [hd] at h
  | cons c t => simp [hd] at h; rw [← h.2]; exact bnd_dropWhile_ns t

theorem getLast?_dropWhile {p : Char → Bool} (t : List Char) (c : Char) (h : (t.dropWhile p).getLast? = some c) :
    t.getLast? = some c := by
  induction t with
  | nil => simp at h
  | cons d t ih =>
    by_cases hd : p d = true
    · simp [List.dropWhile_cons, hd] at h
      have := ih h
      cases t with
      | nil => simp at this
      | cons e t' => simpa [List.getLast?_cons_cons] using this
    · simpa [List.dropWhile_cons, hd] using h

theorem endsNs_dropWhile {p : Char → Bool} {t : List Char} (h : EndsNs t) : EndsNs (t.dropWhile p) :=
  fun c hc => h c (getLast?_dropWhile t c hc)

theorem endsNs_tail {c : Char} {t : List Char} (h : EndsNs (c :: t)) : EndsNs t := by
  intro d hd
  cases t with
  | nil => simp at hd
  | cons e t' => exact h d (by simpa [List.getLast?_cons_cons] using hd)

theorem nextTok_endsNs {r tok r' : List Char} (hE : EndsNs r) (h : nextTok r = some (tok, r')) : EndsNs r' := by
  unfold nextTok at h
  cases hd : r.dropWhile isSp with
  | nil => simp [hd] at h
  | cons c t =>
    simp [hd] at h
    rw [← h.2]
    have h1 : EndsNs (c :: t) := by rw [← hd]; exact endsNs_dropWhile hE
    exact endsNs_dropWhile (endsNs_tail h1)

theorem dropWhile_sp_nil_endsNs {r : List Char} (hE : EndsNs r) (h : r.dropWhile isSp = []) : r = [] := by
  induction r with
  | nil => rfl
  | cons c r ih =>
    by_cases hc : isSp c = true
    · simp [List.dropWhile_cons, hc] at h
      have := ih (endsNs_tail hE) h
      subst this
      have := hE c (by simp)
      simp [hc] at this
    · simp [List.dropWhile_cons, hc] at h

theorem run_plus (a : Cls) (K : List Instr) (x : Ctx) (c : Char) (r : List Char) (hc : a.test c = true)
    (hK : ∀ y c' s, a.test c' = true → run K y (c' :: s) = none) :
    run (.plus a :: K) x (c :: r) = run K ((x.eat c).eatAll (r.takeWhile a.test)) (r.dropWhile a.test) := by
  simp only [run, hc, if_true]
  exact starLoop_greedy a.test (run K) r (x.eat c) (fun pre c' suf _ _ hc' => hK _ c' suf hc')

theorem run_star (a : Cls) (K : List Instr) (x : Ctx) (cs : List Char)
    (hK : ∀ y c' s, a.test c' = true → run K y (c' :: s) = none) :
    run (.star a :: K) x cs = run K (x.eatAll (cs.takeWhile a.test)) (cs.dropWhile a.test) := by
  simp only [run]
  exact starLoop_greedy a.test (run K) cs x (fun pre c' suf _ _ hc' => hK _ c' suf hc')

/-- `K` cannot start on a non-space character (`FailSp`: on a space) -/
def FailNs (K : List Instr) : Prop := ∀ (y : Ctx) (c' : Char) (s : List Char), isSp c' = false → run K y (c' :: s) = none
def FailSp (K : List Instr) : Prop := ∀ (y : Ctx) (c' : Char) (s : List Char), isSp c' = true → run K y (c' :: s) = none

theorem failNs_plus_space (K : List Instr) : FailNs (.plus .space :: K) := by
  intro y c' s h; simp [run, Cls.test, h]

theorem failNs_eos : FailNs [.eos] := by
  intro y c' s h
  have : c' ≠ '\n' := by intro e; subst e; simp [newline_sp] at h
  simp [run, this]

theorem failSp_group_ns (K : List Instr) : FailSp (.gopen :: .plus .nonSpace :: K) := by
  intro y c' s h; simp [run, Cls.test, h]

theorem failSp_group_digit (K : List Instr) : FailSp (.gopen :: .plus .digit :: K) := by
  intro y c' s h
  have : c'.isDigit = false := by
    cases hd : c'.isDigit with
    | false => rfl
    | true => rw [isSp_of_digit hd] at h; exact absurd h (by decide)
  simp [run, Cls.test, this]

theorem failSp_one_ns (K : List Instr) : FailSp (.one .nonSpace :: K) := by
  intro y c' s h; simp [run, Cls.test, h]

theorem run_ws (K : List Instr) (x : Ctx) (hx : x.cur = none) (c : Char) (r : List Char) (hc : isSp c = true)
    (hK : FailSp K) : run (.plus .space :: K) x (c :: r) = run K x (r.dropWhile isSp) := by
  rw [run_plus .space K x c r hc (fun y c' s h => hK y c' s h), test_space, eat_none hx, eatAll_none hx]

theorem run_ws_tok (K : List Instr) (x : Ctx) (hx : x.cur = none) (r : List Char) (hB : Bnd r) (hK : FailSp K)
    (hnil : run K x [] = none) :
    run (.plus .space :: K) x r = match r.dropWhile isSp with
      | [] => none
      | c :: t => run K x (c :: t) := by
  cases r with
  | nil => rfl
  | cons s r1 =>
    have hs : isSp s = true := hB s rfl
    rw [run_ws K x hx s r1 hs hK, List.dropWhile_cons, if_pos hs]
    cases r1.dropWhile isSp with
    | nil => exact hnil
    | cons c t => rfl

theorem run_group (a : Cls) (K : List Instr) (x : Ctx) (c : Char) (r : List Char) (hc : a.test c = true)
    (hK : ∀ y c' s, a.test c' = true → run K y (c' :: s) = none) :
    run (.gopen :: .plus a :: .gclose :: K) x (c :: r)
      = run K ⟨none, x.groups ++ [c :: r.takeWhile a.test]⟩ (r.dropWhile a.test) := by
  have hK' : ∀ y c' s, a.test c' = true → run (.gclose :: K) y (c' :: s) = none := by
    intro y c' s h; simp [run, hK _ c' s h]
  have h1 : run (.gopen :: .plus a :: .gclose :: K) x (c :: r)
      = run (.plus a :: .gclose :: K) { x with cur := some [] } (c :: r) := by simp [run]
  rw [h1, run_plus a _ _ c r hc hK']
  simp [run, eatAll_cur, eatAll_groups, Ctx.eat]

theorem run_group_last (a : Cls) (x : Ctx) (c : Char) (r : List Char) (hc : a.test c = true) :
    run [.gopen, .plus a, .gclose] x (c :: r) = some (x.groups ++ [c :: r.takeWhile a.test]) := by
  simp only [run, hc, if_true]
  apply starLoop_max
  simp [run, eatAll_cur, eatAll_groups, Ctx.eat]

/-! ### digit runs inside tokens -/

/-- the digit run at the head of `t` is all of `t`, ends at a space, or ends inside the first token -/
theorem digit_vs_ns (t : List Char) :
    (t.dropWhile Char.isDigit = [] ∧ t.takeWhile ns = t ∧ t.dropWhile ns = [] ∧ t.takeWhile Char.isDigit = t ∧
        t.all Char.isDigit = true) ∨
    (∃ y s, t.dropWhile Char.isDigit = y :: s ∧ isSp y = true ∧ t.takeWhile ns = t.takeWhile Char.isDigit ∧
        t.dropWhile ns = y :: s ∧ (t.takeWhile Char.isDigit).all Char.isDigit = true) ∨
    (∃ y s, t.dropWhile Char.isDigit = y :: s ∧ isSp y = false ∧ (t.takeWhile ns).all Char.isDigit = false) := by
  induction t with
  | nil => left; simp
  | cons d t ih =>
    by_cases hd : d.isDigit = true
    · have hs : isSp d = false := isSp_of_digit hd
      have e1 : (d :: t).dropWhile Char.isDigit = t.dropWhile Char.isDigit := by simp [List.dropWhile_cons, hd]
      have e2 : (d :: t).takeWhile Char.isDigit = d :: t.takeWhile Char.isDigit := by simp [List.takeWhile_cons, hd]
      have e3 : (d :: t).dropWhile ns = t.dropWhile ns := by simp [List.dropWhile_cons, ns, hs]
      have e4 : (d :: t).takeWhile ns = d :: t.takeWhile ns := by simp [List.takeWhile_cons, ns, hs]
      rw [e1, e2, e3, e4]
      rcases ih with ⟨h1, h2, h3, h4, h5⟩ | ⟨y, s, h1, h2, h3, h4, h5⟩ | ⟨y, s, h1, h2, h3⟩
      · left; rw [h2, h4]; exact ⟨h1, rfl, h3, rfl, by simp [hd, h5]⟩
      · right; left; exact ⟨y, s, h1, h2, by rw [h3], h4, by simp [hd, h5]⟩
      · right; right; exact ⟨y, s, h1, h2, by simp [h3]⟩
    · by_cases hs : isSp d = true
      · right; left; exact ⟨d, t, by simp [List.dropWhile_cons, List.takeWhile_cons, hd, hs, ns]⟩
      · right; right; exact ⟨d, t, by simp [List.dropWhile_cons, List.takeWhile_cons, hd, hs, ns]⟩

/-! ### `^\D*(\d+)$` -/

def patModulus : List Instr := [.bos, .star .nonDigit, .gopen, .plus .digit, .gclose, .eos]

theorem dropWhile_digit_nil_iff (r : List Char) : r.dropWhile Char.isDigit = [] ↔ r.all Char.isDigit = true := by
  induction r with
  | nil => simp
  | cons c r ih =>
    by_cases hc : c.isDigit = true
    · simp [List.dropWhile_cons, hc, ih]
    · simp [List.dropWhile_cons, hc]

theorem takeWhile_digit_all (r : List Char) (h : r.all Char.isDigit = true) : r.takeWhile Char.isDigit = r := by
  induction r with
  | nil => rfl
  | cons c r ih =>
    simp only [List.all_cons, Bool.and_eq_true] at h
    simp [List.takeWhile_cons, h.1, ih h.2]

/-- on a string that holds no newline, `re.search(r"^\D*(\d+)$", s)` is the regex-free recogniser -/
theorem search_modulus (cs : List Char) (hnl : ∀ c ∈ cs, c ≠ '\n') : search patModulus cs = recogModulus cs := by
  have hK1 : ∀ (y : Ctx) (c' : Char) (s : List Char), Cls.nonDigit.test c' = true →
      run [.gopen, .plus .digit, .gclose, .eos] y (c' :: s) = none := by
    intro y c' s h
    have : c'.isDigit = false := by simpa [Cls.test] using h
    simp [run, Cls.test, this]
  have hK2 : ∀ (y : Ctx) (c' : Char) (s : List Char), Cls.digit.test c' = true → run [.eos] y (c' :: s) = none := by
    intro y c' s h
    have : c' ≠ '\n' := digit_ne_newline (by simpa [Cls.test] using h)
    simp [run, this]
  show run [.star .nonDigit, .gopen, .plus .digit, .gclose, .eos] start cs = recogModulus cs
  rw [run_star .nonDigit _ start cs hK1, test_nonDigit]
  unfold recogModulus
  have hmem : ∀ c ∈ cs.dropWhile (fun c => !c.isDigit), c ≠ '\n' := fun c hc => hnl c ((List.dropWhile_sublist _).subset hc)
  cases hsuf : cs.dropWhile (fun c => !c.isDigit) with
  | nil => simp [run]
  | cons d r =>
    rw [hsuf] at hmem
    by_cases hd : d.isDigit = true
    · rw [run_group .digit [.eos] _ d r hd hK2, test_digit]
      simp only [run, start, eatAll_groups, List.nil_append]
      by_cases hall : r.all Char.isDigit = true
      · have h1 : r.dropWhile Char.isDigit = [] := (dropWhile_digit_nil_iff r).2 hall
        simp [h1, takeWhile_digit_all r hall, hd, hall]
      · have h1 : r.dropWhile Char.isDigit ≠ [] := fun h => hall ((dropWhile_digit_nil_iff r).1 h)
        have h2 : r.dropWhile Char.isDigit ≠ ['\n'] := by
          intro h
          have : '\n' ∈ r.dropWhile Char.isDigit := by rw [h]; simp
          exact hmem '\n' (List.mem_cons_of_mem _ ((List.dropWhile_sublist _).subset this)) rfl
        simp [h1, h2, hd, hall]
    · simp [run, Cls.test, hd]

/-! ### `^(\d+)\s+(\d+) … \s+(\d+)$` -/

/-- `(\d+)` then `K` at the beginning of a token: the WHOLE token must be digits -/
theorem run_GD (K : List Instr) (x : Ctx) (c : Char) (t : List Char) (hc : isSp c = false) (hK : FailNs K) :
    run (.gopen :: .plus .digit :: .gclose :: K) x (c :: t)
      = if (c :: t.takeWhile ns).all Char.isDigit = true
        then run K ⟨none, x.groups ++ [c :: t.takeWhile ns]⟩ (t.dropWhile ns) else none := by
  by_cases hd : c.isDigit = true
  · have hKd : ∀ (y : Ctx) (c' : Char) (s : List Char), Cls.digit.test c' = true → run K y (c' :: s) = none :=
      fun y c' s h => hK y c' s (isSp_of_digit (by simpa [Cls.test] using h))
    rw [run_group .digit K x c t hd hKd, test_digit]
    rcases digit_vs_ns t with ⟨h1, h2, h3, h4, h5⟩ | ⟨y, s, h1, h2, h3, h4, h5⟩ | ⟨y, s, h1, h2, h3⟩
    · simp [h1, h2, h3, h4, h5, hd]
    · rw [h3, h4, h1]; simp [hd, h5]
    · rw [h1, hK _ y s h2]; simp [h3]
  · simp [run, Cls.test, hd]

/-- `\s+(\d+)` then `K` -/
theorem run_WD (K : List Instr) (x : Ctx) (hx : x.cur = none) (r : List Char) (hB : Bnd r) (hK : FailNs K) :
    run (.plus .space :: .gopen :: .plus .digit :: .gclose :: K) x r
      = match nextTok r with
        | none => none
        | some (tok, r') => if tok.all Char.isDigit = true then run K ⟨none, x.groups ++ [tok]⟩ r' else none := by
  rw [run_ws_tok _ x hx r hB (failSp_group_digit _) rfl]
  unfold nextTok
  cases hd : r.dropWhile isSp with
  | nil => rfl
  | cons c t => exact run_GD K x c t (head_dropWhile_sp hd) hK

def infoTail : Nat → List Instr
  | 0 => [.eos]
  | n + 1 => .plus .space :: .gopen :: .plus .digit :: .gclose :: infoTail n

theorem failNs_infoTail (n : Nat) : FailNs (infoTail n) := by
  cases n with
  | zero => exact failNs_eos
  | succ n => exact failNs_plus_space _

theorem run_infoTail (n : Nat) (x : Ctx) (hx : x.cur = none) (r : List Char) (hB : Bnd r) (hE : EndsNs r) :
    run (infoTail n) x r
      = if ((splitWs r).length == n && (splitWs r).all (fun t => t.all Char.isDigit)) = true
        then some (x.groups ++ splitWs r) else none := by
  induction n generalizing x r with
  | zero =>
    cases r with
    | nil => simp [infoTail, run, splitWs, splitAux]
    | cons c t =>
      have h1 : c :: t ≠ ['\n'] := by
        intro h
        have := hE '\n' (by rw [h]; rfl)
        simp [newline_sp] at this
      have h2 : splitWs (c :: t) ≠ [] := by
        intro h
        rw [splitWs_next] at h
        cases hn : nextTok (c :: t) with
        | none =>
          unfold nextTok at hn
          cases hd : (c :: t).dropWhile isSp with
          | nil => exact absurd (dropWhile_sp_nil_endsNs hE hd) (by simp)
          | cons a b => simp [hd] at hn
        | some p => simp [hn] at h
      have h3 : (splitWs (c :: t)).length ≠ 0 := by simpa using h2
      simp [infoTail, run, h1, h3]
  | succ n ih =>
    show run (.plus .space :: .gopen :: .plus .digit :: .gclose :: infoTail n) x r = _
    rw [run_WD _ x hx r hB (failNs_infoTail n), splitWs_next r]
    cases hn : nextTok r with
    | none => simp
    | some p =>
      obtain ⟨tok, r'⟩ := p
      simp only []
      by_cases ht : tok.all Char.isDigit = true
      · rw [if_pos ht, ih ⟨none, x.groups ++ [tok]⟩ rfl r' (nextTok_bnd hn) (nextTok_endsNs hE hn)]
        simp [ht]
      · simp [ht]

def patInfo : List Instr := .bos :: .gopen :: .plus .digit :: .gclose :: infoTail 4

/-- on a stripped line, `re.search(REGEX_INFO_START, s)` = "exactly five tokens, all digits" -/
theorem search_info (cs : List Char) (hs : Stripped cs) : search patInfo cs = recogInfo cs := by
  show run (.gopen :: .plus .digit :: .gclose :: infoTail 4) start cs = recogInfo cs
  unfold recogInfo
  cases cs with
  | nil => simp [run, splitWs, splitAux]
  | cons c t =>
    have hc : isSp c = false := hs.1 c rfl
    have hE : EndsNs (c :: t) := hs.2
    rw [run_GD _ start c t hc (failNs_infoTail 4), splitWs_cons_ns c t hc]
    by_cases ht : (c :: t.takeWhile ns).all Char.isDigit = true
    · rw [if_pos ht, run_infoTail 4 _ rfl _ (bnd_dropWhile_ns t) (endsNs_dropWhile (endsNs_tail hE))]
      simp only [List.all_cons, Bool.and_eq_true] at ht
      simp [start, ht.1, ht.2]
    · rw [if_neg ht]
      simp only [List.all_cons, Bool.and_eq_true, not_and] at ht
      simp only [List.all_cons]
      by_cases h1 : c.isDigit = true
      · simp [h1, ht h1]
      · simp [h1]

/-! ### `\S=\s+(\S+)\s+\S=\s+(\S+)\s+\S=\s+(\S+)` -/

/-- `\s+(\S+)` then `K` -/
abbrev WV (K : List Instr) : List Instr := .plus .space :: .gopen :: .plus .nonSpace :: .gclose :: K
/-- `\s+\S=` then `K` -/
abbrev WL (K : List Instr) : List Instr := .plus .space :: .one .nonSpace :: .one (.lit '=') :: K

def pveAfter : List Instr := WV (WL (WV (WL (WV []))))
def patPVE : List Instr := .one .nonSpace :: .one (.lit '=') :: pveAfter

theorem run_WV (K : List Instr) (x : Ctx) (hx : x.cur = none) (r : List Char) (hB : Bnd r) (hK : FailNs K) :
    run (WV K) x r = match nextTok r with
      | none => none
      | some (tok, r') => run K ⟨none, x.groups ++ [tok]⟩ r' := by
  rw [run_ws_tok _ x hx r hB (failSp_group_ns _) rfl]
  unfold nextTok
  cases hd : r.dropWhile isSp with
  | nil => rfl
  | cons c t =>
    have hc : isSp c = false := head_dropWhile_sp hd
    have := run_group .nonSpace K x c t (by simp [Cls.test, hc])
      (fun y c' s h => hK y c' s (by simpa [Cls.test] using h))
    rw [test_nonSpace] at this
    simpa using this

theorem run_WV_last (x : Ctx) (hx : x.cur = none) (r : List Char) (hB : Bnd r) :
    run (WV []) x r = match nextTok r with
      | none => none
      | some (tok, _) => some (x.groups ++ [tok]) := by
  rw [run_ws_tok _ x hx r hB (failSp_group_ns _) rfl]
  unfold nextTok
  cases hd : r.dropWhile isSp with
  | nil => rfl
  | cons c t =>
    have hc : isSp c = false := head_dropWhile_sp hd
    have := run_group_last .nonSpace x c t (by simp [Cls.test, hc])
    rw [test_nonSpace] at this
    simpa using this

theorem isLabel2c_two (c e : Char) : isLabel2c [c, e] = (e == '=') := by
  unfold isLabel2c
  by_cases he : e = '='
  · subst he; rfl
  · split
    · rename_i h; simp at h; exact absurd h.2 he
    · simp [he]

theorem isLabel2c_one (c : Char) : isLabel2c [c] = false := rfl
theorem isLabel2c_three (c e z : Char) (t : List Char) : isLabel2c (c :: e :: z :: t) = false := by
  simp [isLabel2c]

/-- a token longer than `X=` fails because `K` cannot start on its third, non-space character -/
theorem run_WL (K : List Instr) (x : Ctx) (hx : x.cur = none) (r : List Char) (hB : Bnd r) (hK : FailNs K) :
    run (WL K) x r = match nextTok r with
      | none => none
      | some (tok, r') => if isLabel2c tok = true then run K x r' else none := by
  rw [run_ws_tok _ x hx r hB (failSp_one_ns _) rfl]
  unfold nextTok
  cases hd : r.dropWhile isSp with
  | nil => rfl
  | cons c t =>
    have hc : isSp c = false := head_dropWhile_sp hd
    simp only [run, Cls.test, hc, Bool.not_false, if_true, eat_none hx]
    cases t with
    | nil => simp [isLabel2c_one]
    | cons e t' =>
      by_cases he : e = '='
      · subst he
        have h0 : isSp '=' = false := eq_not_sp
        simp only [beq_self_eq_true, if_true, eat_none hx]
        cases t' with
        | nil => simp [ns, h0, isLabel2c_two]
        | cons z t'' =>
          by_cases hz : isSp z = true
          · simp [ns, h0, hz, isLabel2c_two, List.takeWhile_cons, List.dropWhile_cons]
          · have hz' : isSp z = false := by simpa using hz
            simp [ns, h0, hz', List.takeWhile_cons, List.dropWhile_cons, isLabel2c_three, hK _ z t'' hz']
      · have he' : (e == '=') = false := by simpa using he
        simp only [he', Bool.false_eq_true, if_false]
        by_cases hes : isSp e = true
        · simp [ns, hes, List.takeWhile_cons, isLabel2c_one]
        · have hes' : isSp e = false := by simpa using hes
          cases t' with
          | nil => simp [ns, hes', List.takeWhile_cons, isLabel2c_two, he']
          | cons z t'' =>
            by_cases hz : isSp z = true
            · simp [ns, hes', hz, List.takeWhile_cons, isLabel2c_two, he']
            · have hz' : isSp z = false := by simpa using hz
              simp [ns, hes', hz', List.takeWhile_cons, isLabel2c_three]

/-- what must follow the first label, at token level -/
def aft : List (List Char) → Option Groups
  | a :: l2 :: b :: l3 :: c :: _ => if (isLabel2c l2 && isLabel2c l3) = true then some [a, b, c] else none
  | _ => none

theorem aft_not_label2 (a l2 : List Char) (rest : List (List Char)) (h : isLabel2c l2 = false) :
    aft (a :: l2 :: rest) = none := by
  rcases rest with _ | ⟨b, _ | ⟨l3, _ | ⟨c, rest⟩⟩⟩ <;> simp [aft, h]

theorem aft_not_label3 (a l2 b l3 : List Char) (rest : List (List Char)) (h : isLabel2c l3 = false) :
    aft (a :: l2 :: b :: l3 :: rest) = none := by
  rcases rest with _ | ⟨c, rest⟩ <;> simp [aft, h]

theorem run_pveAfter (r : List Char) (hB : Bnd r) : run pveAfter start r = aft (splitWs r) := by
  unfold pveAfter
  rw [run_WV _ start rfl r hB (failNs_plus_space _), splitWs_next r]
  cases h1 : nextTok r with
  | none => rfl
  | some p1 =>
    obtain ⟨a, r1⟩ := p1
    simp only []
    rw [run_WL _ _ rfl r1 (nextTok_bnd h1) (failNs_plus_space _), splitWs_next r1]
    cases h2 : nextTok r1 with
    | none => rfl
    | some p2 =>
      obtain ⟨l2, r2⟩ := p2
      simp only []
      cases hl2 : isLabel2c l2 with
      | false => rw [if_neg (by simp), aft_not_label2 _ _ _ hl2]
      | true =>
        rw [if_pos rfl, run_WV _ _ rfl r2 (nextTok_bnd h2) (failNs_plus_space _), splitWs_next r2]
        cases h3 : nextTok r2 with
        | none => rfl
        | some p3 =>
          obtain ⟨b, r3⟩ := p3
          simp only []
          rw [run_WL _ _ rfl r3 (nextTok_bnd h3) (failNs_plus_space _), splitWs_next r3]
          cases h4 : nextTok r3 with
          | none => rfl
          | some p4 =>
            obtain ⟨l3, r4⟩ := p4
            simp only []
            cases hl3 : isLabel2c l3 with
            | false => rw [if_neg (by simp), aft_not_label3 _ _ _ _ _ hl3]
            | true =>
              rw [if_pos rfl, run_WV_last _ rfl r4 (nextTok_bnd h4), splitWs_next r4]
              cases h5 : nextTok r4 with
              | none => rfl
              | some p5 => simp [aft, hl2, hl3, start]

/-! #### the start position: only the last two characters of a token can start a match -/

theorem isLabel1c_nil : isLabel1c [] = false := rfl
theorem isLabel1c_one (y : Char) : isLabel1c [y] = false := by simp [isLabel1c]
theorem isLabel1c_two (y e : Char) : isLabel1c [y, e] = (e == '=') := by
  unfold isLabel1c
  by_cases he : e = '='
  · subst he; rfl
  · simp only [List.reverse_cons, List.reverse_nil, List.nil_append, List.cons_append]
    split
    · rename_i h; simp at h; exact absurd h.1 he
    · simp [he]

theorem isLabel1c_cons (y e : Char) (t : List Char) (ht : t ≠ []) : isLabel1c (y :: e :: t) = isLabel1c (e :: t) := by
  obtain ⟨a, b, hab⟩ : ∃ a b, t.reverse = a :: b := by
    cases h : t.reverse with
    | nil => exact absurd (List.reverse_eq_nil_iff.1 h) ht
    | cons a b => exact ⟨a, b, rfl⟩
  unfold isLabel1c
  simp only [List.reverse_cons, hab, List.cons_append]
  by_cases ha : a = '='
  · subst ha
    cases b <;> rfl
  · split
    · rename_i h; simp at h; exact absurd h.1 ha
    · split
      · rename_i h; simp at h; exact absurd h.1 ha
      · rfl

theorem matchPVEc_short (tl : List (List Char)) (h : tl.length ≤ 5) : matchPVEc tl = none := by
  match tl, h with
  | [], _ => rfl
  | [_], _ => rfl
  | [_, _], _ => rfl
  | [_, _, _], _ => rfl
  | [_, _, _, _], _ => rfl
  | [_, _, _, _, _], _ => rfl

theorem aft_short (tl : List (List Char)) (h : tl.length ≤ 4) : aft tl = none := by
  match tl, h with
  | [], _ => rfl
  | [_], _ => rfl
  | [_, _], _ => rfl
  | [_, _, _], _ => rfl
  | [_, _, _, _], _ => rfl

theorem matchPVEc_cons (T : List Char) (tl : List (List Char)) :
    matchPVEc (T :: tl) = if isLabel1c T = true then (aft tl).orElse (fun _ => matchPVEc tl) else matchPVEc tl := by
  rcases tl with _ | ⟨a, _ | ⟨l2, _ | ⟨b, _ | ⟨l3, _ | ⟨c, rest⟩⟩⟩⟩⟩
  iterate 5 (cases isLabel1c T <;> rfl)
  simp only [matchPVEc, aft]
  cases isLabel1c T <;> cases isLabel2c l2 <;> cases isLabel2c l3 <;> rfl

/-- a start position inside a token matches only just before a final `=`: the search sees the token as `isLabel1c` does -/
theorem searchFrom_token (t r' : List Char) (ht : ∀ d ∈ t, isSp d = false) (hB : Bnd r')
    (H : searchFrom patPVE r' = matchPVEc (splitWs r')) :
    searchFrom patPVE (t ++ r')
      = if isLabel1c t = true then (aft (splitWs r')).orElse (fun _ => matchPVEc (splitWs r'))
        else matchPVEc (splitWs r') := by
  induction t with
  | nil => simpa [isLabel1c_nil] using H
  | cons y t' ih =>
    have hy : isSp y = false := ht y (by simp)
    have ih' := ih (fun d hd => ht d (by simp [hd]))
    have hstep : searchFrom patPVE (y :: t' ++ r')
        = (run (.one (.lit '=') :: pveAfter) start (t' ++ r')).orElse (fun _ => searchFrom patPVE (t' ++ r')) := by
      simp [searchFrom, patPVE, run, Cls.test, hy, eat_none (x := start) rfl]
    rw [hstep, ih']
    cases t' with
    | nil =>
      simp only [List.nil_append]
      have hrun : run (.one (.lit '=') :: pveAfter) start r' = none := by
        cases r' with
        | nil => simp [run]
        | cons s r1 =>
          have hs : isSp s = true := hB s rfl
          have : (s == '=') = false := by
            cases hq : (s == '=') with
            | false => rfl
            | true =>
              have : s = '=' := by simpa using hq
              subst this; rw [eq_not_sp] at hs; exact absurd hs (by decide)
          simp [run, Cls.test, this]
      simp [hrun, isLabel1c_nil, isLabel1c_one]
    | cons e t'' =>
      by_cases he : e = '='
      · subst he
        have hrun : run (.one (.lit '=') :: pveAfter) start ('=' :: t'' ++ r') = run pveAfter start (t'' ++ r') := by
          simp [run, Cls.test, eat_none (x := start) rfl]
        rw [hrun]
        cases t'' with
        | nil =>
          simp only [List.nil_append]
          rw [run_pveAfter r' hB]
          simp [isLabel1c_one, isLabel1c_two]
        | cons z t3 =>
          have hz : isSp z = false := ht z (by simp)
          have : run pveAfter start (z :: t3 ++ r') = none := failNs_plus_space _ start z (t3 ++ r') hz
          rw [this, isLabel1c_cons y '=' (z :: t3) (by simp)]
          simp
      · have he' : (e == '=') = false := by simpa using he
        have hrun : run (.one (.lit '=') :: pveAfter) start (e :: t'' ++ r') = none := by
          simp [run, Cls.test, he']
        rw [hrun]
        cases t'' with
        | nil => simp [isLabel1c_one, isLabel1c_two, he']
        | cons z t3 => rw [isLabel1c_cons y e (z :: t3) (by simp)]; simp

theorem searchFrom_pve_aux (n : Nat) : ∀ cs : List Char, cs.length ≤ n → searchFrom patPVE cs = matchPVEc (splitWs cs) := by
  induction n with
  | zero =>
    intro cs h
    have : cs = [] := List.length_eq_zero_iff.1 (by omega)
    subst this
    simp [searchFrom, patPVE, run, splitWs, splitAux, matchPVEc]
  | succ n ih =>
    intro cs h
    cases cs with
    | nil => simp [searchFrom, patPVE, run, splitWs, splitAux, matchPVEc]
    | cons c r =>
      have hr : r.length ≤ n := by simp at h; omega
      by_cases hc : isSp c = true
      · have : run patPVE start (c :: r) = none := by simp [patPVE, run, Cls.test, hc]
        rw [searchFrom, this, splitWs_sp r hc]
        simpa using ih r hr
      · have hc' : isSp c = false := by simpa using hc
        have hsplit : c :: r = (c :: r.takeWhile ns) ++ r.dropWhile ns := by
          simp [List.takeWhile_append_dropWhile]
        have hlen : (r.dropWhile ns).length ≤ n :=
          Nat.le_trans (List.dropWhile_sublist ns (l := r)).length_le hr
        rw [hsplit, searchFrom_token (c :: r.takeWhile ns) (r.dropWhile ns)
          (by intro d hd; rcases List.mem_cons.1 hd with rfl | hd
              · exact hc'
              · exact mem_takeWhile_ns hd)
          (bnd_dropWhile_ns r) (ih _ hlen), ← hsplit, splitWs_cons_ns c r hc', matchPVEc_cons]

/-- `re.search(REGEX_PVE, line)` on ANY line = the token-level search of the model -/
theorem search_pve (cs : List Char) : search patPVE cs = recogPVE cs :=
  searchFrom_pve_aux cs.length cs (Nat.le_refl _)

end Cij.Regex
