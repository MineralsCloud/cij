/- Real-analysis helper lemmas about Q1(q) = q/(e^q − 1) and Q2(q) = q² e^q/(e^q − 1)²  (C12). -/
import Mathlib.Analysis.SpecialFunctions.Trigonometric.DerivHyp
import Mathlib.Analysis.SpecialFunctions.Exp
import Mathlib.Tactic.Linarith
import Mathlib.Tactic.Positivity
import Mathlib.Tactic.FieldSimp
import Mathlib.Tactic.Ring
import CijModel.QExpr

namespace Cij
open Real

noncomputable def Q1r (q : ℝ) : ℝ := q / (Real.exp q - 1)
noncomputable def Q2r (q : ℝ) : ℝ := q ^ 2 * Real.exp q / (Real.exp q - 1) ^ 2

theorem exp_sub_one_pos {q : ℝ} (hq : 0 < q) : 0 < Real.exp q - 1 := by
  have := Real.add_one_lt_exp hq.ne'
  linarith

theorem one_sub_exp_neg_pos {q : ℝ} (hq : 0 < q) : 0 < 1 - Real.exp (-q) := by
  have : Real.exp (-q) < 1 := by
    rw [Real.exp_lt_one_iff]; linarith
  linarith

/-- the overflow-safe spelling equals the textbook one -/
theorem q2_forms_eq {q : ℝ} (hq : 0 < q) :
    q ^ 2 * Real.exp (-q) / (1 - Real.exp (-q)) ^ 2 = Q2r q := by
  unfold Q2r
  have h1 := exp_sub_one_pos hq
  have h2 := one_sub_exp_neg_pos hq
  have he : Real.exp (-q) = (Real.exp q)⁻¹ := Real.exp_neg q
  have hp : 0 < Real.exp q := Real.exp_pos q
  rw [he]
  have h3 : (1 - (Real.exp q)⁻¹) ≠ 0 := by rw [← he]; exact h2.ne'
  field_simp

theorem Q1r_pos {q : ℝ} (hq : 0 < q) : 0 < Q1r q := div_pos hq (exp_sub_one_pos hq)

theorem Q1r_lt_one {q : ℝ} (hq : 0 < q) : Q1r q < 1 := by
  unfold Q1r
  rw [div_lt_one (exp_sub_one_pos hq)]
  have := Real.add_one_lt_exp hq.ne'
  linarith

theorem Q2r_pos {q : ℝ} (hq : 0 < q) : 0 < Q2r q := by
  unfold Q2r
  have := exp_sub_one_pos hq
  positivity

/-- Q2 = ((q/2)/sinh(q/2))² ≤ 1 -/
theorem Q2r_le_one {q : ℝ} (hq : 0 < q) : Q2r q ≤ 1 := by
  unfold Q2r
  have h1 := exp_sub_one_pos hq
  rw [div_le_one (by positivity)]
  -- q e^{q/2} ≤ e^q − 1  ⇐  q/2 ≤ sinh (q/2)
  have hs : q / 2 ≤ Real.sinh (q / 2) := Real.self_le_sinh_iff.mpr (by linarith)
  rw [Real.sinh_eq] at hs
  have ha : Real.exp q = Real.exp (q / 2) * Real.exp (q / 2) := by rw [← Real.exp_add]; ring_nf
  have hb : Real.exp (-(q / 2)) = (Real.exp (q / 2))⁻¹ := Real.exp_neg _
  have hp : 0 < Real.exp (q / 2) := Real.exp_pos _
  have key : q * Real.exp (q / 2) ≤ Real.exp q - 1 := by
    rw [hb] at hs
    have : q ≤ Real.exp (q / 2) - (Real.exp (q / 2))⁻¹ := by linarith
    have h2 := mul_le_mul_of_nonneg_right this hp.le
    rw [sub_mul, inv_mul_cancel₀ hp.ne'] at h2
    rw [ha]; exact h2
  have hq0 : 0 ≤ q * Real.exp (q / 2) := by positivity
  calc q ^ 2 * Real.exp q = (q * Real.exp (q / 2)) ^ 2 := by rw [ha]; ring
    _ ≤ (Real.exp q - 1) ^ 2 := by
        apply sq_le_sq'
        · linarith
        · exact key

/-- the denominator of the overflow-safe spelling stays away from 0: 1 − e^{−q} ≥ q/(1+q) -/
theorem one_sub_exp_neg_lower {q : ℝ} (hq : 0 < q) : q / (1 + q) ≤ 1 - Real.exp (-q) := by
  have h1 : 1 + q ≤ Real.exp q := by have := Real.add_one_le_exp q; linarith
  have hp : 0 < Real.exp q := Real.exp_pos q
  have h2 : Real.exp (-q) ≤ 1 / (1 + q) := by
    rw [Real.exp_neg, inv_eq_one_div]
    exact one_div_le_one_div_of_le (by linarith) h1
  have : q / (1 + q) = 1 - 1 / (1 + q) := by field_simp; ring
  rw [this]; linarith

end Cij
