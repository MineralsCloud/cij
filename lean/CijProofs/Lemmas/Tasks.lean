/- Lemmas about `CijModel/Tasks.lean` for C04: ranks and induction along the dependencies, the invariant of the work list and
   termination of `resolve`, the value `spec` of a parameter, and `calculate` over an order that respects the edges. -/
import CijModel.Tasks
import CijProofs.Lemmas.Shear
import Mathlib.Tactic.Linarith

set_option linter.unusedSectionVars false

namespace Cij.Tasks
open Cij Cij.Shear

/-- the 21 canonical keys -/
def allKeys : List Modulus := keys21.map keyOfVoigt

theorem calcType_shear_iff (k : Modulus) : k.calcType = .shear ↔ k.isShear = true := by
  unfold Modulus.calcType Modulus.isOffDiagonal Modulus.isLongitudinal
  cases k.isShear <;> cases (k.i == k.j) <;> simp

theorem mem_shearKeys {k : Modulus} : k ∈ shearKeys ↔ k ∈ allKeys ∧ k.isShear = true := by
  unfold shearKeys allKeys
  simp [List.mem_filter]

theorem orig_keys_canon_rank : ∀ k ∈ shearKeys, ∀ d ∈ (origPairs k).map keyOfPairs, d ∈ allKeys ∧ rank d < rank k := by
  decide +kernel

theorem key4_diag_canon : ∀ a b : Fin 3, key4 a a b b ∈ allKeys ∧ rank (key4 a a b b) = 0 := by decide +kernel

theorem rank_le_two (k : Modulus) : rank k ≤ 2 := by
  unfold rank; split <;> [omega; (split <;> omega)]

theorem rank_pos_of_shear {k : Modulus} (h : k.isShear = true) : 1 ≤ rank k := by
  unfold rank; simp [h]; split <;> omega

theorem rank_zero_of_nonshear {k : Modulus} (h : k.isShear = false) : rank k = 0 := by
  unfold rank; simp [h]

/-- induction along the dependencies: a property of the non-shear keys that passes from the canonical keys of smaller rank to a
shear key holds of all 21 keys -/
theorem rank_induction {P : Modulus → Prop} (hns : ∀ k ∈ allKeys, k.isShear = false → P k)
    (hsh : ∀ k ∈ shearKeys, (∀ d ∈ allKeys, rank d < rank k → P d) → P k) : ∀ k ∈ allKeys, P k := by
  have h : ∀ n, ∀ k ∈ allKeys, rank k ≤ n → P k := by
    intro n
    induction n with
    | zero =>
      intro k hk hr
      cases hs : k.isShear
      · exact hns k hk hs
      · have := rank_pos_of_shear hs; omega
    | succ n ih =>
      intro k hk hr
      cases hs : k.isShear
      · exact hns k hk hs
      · exact hsh k (mem_shearKeys.2 ⟨hk, hs⟩) fun d hd hlt => ih d hd (by omega)
  exact fun k hk => h 2 k hk (rank_le_two k)

section field
variable {R : Type} [Field R]

/-- zero test meeting its contract -/
def ZeroSpec (isZero : R → Bool) : Prop := ∀ x, isZero x = true ↔ x = 0

theorem ZeroSpec.zero {isZero : R → Bool} (hz : ZeroSpec isZero) : isZero (0 : R) = true := (hz 0).2 rfl

theorem depKeys_nonshear (isZero : R → Bool) (eig : Eig R) {k : Modulus} (h : k.isShear = false) :
    depKeys isZero eig k = [] := by
  unfold depKeys
  have : k.calcType ≠ .shear := fun hh => by rw [(calcType_shear_iff k).1 hh] at h; exact absurd h (by decide)
  split
  · contradiction
  · rfl

theorem depKeys_shear (isZero : R → Bool) (eig : Eig R) {k : Modulus} (h : k.isShear = true) :
    depKeys isZero eig k = modulusKeys isZero k ++ modulusKeysRotated isZero (eig k).2 := by
  unfold depKeys
  rw [(calcType_shear_iff k).2 h]

theorem modulusKeys_canon_rank {isZero : R → Bool} (hz : ZeroSpec isZero) {k : Modulus} (hk : k ∈ shearKeys)
    {d : Modulus} (hd : d ∈ modulusKeys isZero k) : d ∈ allKeys ∧ rank d < rank k :=
  orig_keys_canon_rank k hk d (modulusKeys_eq hz k ▸ hd)

theorem modulusKeysRotated_canon_rank {isZero : R → Bool} (hz : ZeroSpec isZero) (lam : Vec3 R) {k : Modulus}
    (hk : k.isShear = true) {d : Modulus} (hd : d ∈ modulusKeysRotated isZero lam) : d ∈ allKeys ∧ rank d < rank k := by
  obtain ⟨a, b, rfl⟩ := mem_modulusKeysRotated isZero hz.zero _ hd
  have := key4_diag_canon a b
  exact ⟨this.1, by rw [this.2]; exact rank_pos_of_shear hk⟩

theorem depKeys_canon_rank {isZero : R → Bool} (hz : ZeroSpec isZero) (eig : Eig R) {k : Modulus} (hk : k ∈ allKeys)
    {d : Modulus} (hd : d ∈ depKeys isZero eig k) : d ∈ allKeys ∧ rank d < rank k := by
  cases hs : k.isShear
  · rw [depKeys_nonshear isZero eig hs] at hd; simp at hd
  · rw [depKeys_shear isZero eig hs, List.mem_append] at hd
    rcases hd with hd | hd
    · exact modulusKeys_canon_rank hz (mem_shearKeys.2 ⟨hk, hs⟩) hd
    · exact modulusKeysRotated_canon_rank hz _ hs hd

theorem weight_mono (isZero : R → Bool) (eig : Eig R) (n : Nat) (k : Modulus) :
    weight isZero eig n k ≤ weight isZero eig (n + 1) k := by
  induction n generalizing k with
  | zero => simp [weight]
  | succ n ih =>
    simp only [weight]
    exact Nat.add_le_add_left (List.sum_le_sum fun d _ => ih d) 1

theorem weight_mono' (isZero : R → Bool) (eig : Eig R) {m n : Nat} (h : m ≤ n) (k : Modulus) :
    weight isZero eig m k ≤ weight isZero eig n k := by
  induction h with
  | refl => exact Nat.le_refl _
  | step _ ih => exact Nat.le_trans ih (weight_mono isZero eig _ k)

theorem weight_pos (isZero : R → Bool) (eig : Eig R) (n : Nat) (k : Modulus) : 1 ≤ weight isZero eig n k := by
  cases n <;> simp [weight]

/-- the measure of one work-list item -/
def mu (isZero : R → Bool) (eig : Eig R) (k : Modulus) : Nat := weight isZero eig (rank k) k

theorem mu_deps {isZero : R → Bool} (hz : ZeroSpec isZero) (eig : Eig R) {k : Modulus} (hk : k ∈ allKeys) :
    ((depKeys isZero eig k).map (mu isZero eig)).sum + 1 ≤ mu isZero eig k := by
  unfold mu
  cases hr : rank k with
  | zero =>
    have : depKeys isZero eig k = [] := by
      cases hs : k.isShear
      · exact depKeys_nonshear isZero eig hs
      · have := rank_pos_of_shear hs; omega
    simp [this, weight]
  | succ n =>
    simp only [weight]
    have hle : ∀ d ∈ depKeys isZero eig k, weight isZero eig (rank d) d ≤ weight isZero eig n d := by
      intro d hd
      have := (depKeys_canon_rank hz eig hk hd).2
      exact weight_mono' isZero eig (by omega) d
    have := List.sum_le_sum hle
    omega

end field

section resolve
variable {R : Type} [Field R]

/-- `some key` for shear parameters, `none` for non-shear ones -/
def Params.kind : Params R → Option Modulus
  | .nonshear _ _ _ => none
  | .shear _ k => some k

/-- what the theorems assume of `PhononContributionTaskParams.__eq__`: an equivalence that never identifies parameters
of different calculation kind / different shear keys (the Python code compares `calc_type` and the key first) -/
structure PeqSpec (peq : Params R → Params R → Bool) : Prop where
  refl : ∀ p, peq p p = true
  symm : ∀ p q, peq p q = true → peq q p = true
  trans : ∀ p q r, peq p q = true → peq q r = true → peq p r = true
  kind : ∀ p q, peq p q = true → p.kind = q.kind

/-- a task as `PhononContributionTask.__init__` builds it, for a canonical key -/
def WF (t : PTask R) : Prop := t.params = create t.strain t.key ∧ t.key ∈ allKeys

theorem create_shear {α : Type} [Add α] [Div α] (s : SField α) {k : Modulus} (h : k.isShear = true) :
    create s k = .shear s k := by
  simp [create, h]

theorem create_nonshear {α : Type} [Add α] [Div α] (s : SField α) {k : Modulus} (h : k.isShear = false) :
    create s k = .nonshear k.calcType (component s (idx k.i.i)) (component s (idx k.j.i)) := by
  simp [create, h]

theorem deps_shear (isZero : R → Bool) (eig : Eig R) {t : PTask R} (h : t.key.isShear = true) :
    deps isZero eig t = (modulusKeys isZero t.key).map (fun k => (t.strain, k)) ++
      (modulusKeysRotated isZero (eig t.key).2).map (fun k => (rotatedField (eig t.key).1 t.strain, k)) := by
  unfold deps; rw [(calcType_shear_iff _).2 h]

theorem kind_create (s : SField R) (k : Modulus) :
    (create s k).kind = if k.isShear then some k else none := by
  cases h : k.isShear
  · rw [create_nonshear s h]; rfl
  · rw [create_shear s h]; rfl

theorem deps_keys (isZero : R → Bool) (eig : Eig R) (t : PTask R) :
    (deps isZero eig t).map (·.2) = depKeys isZero eig t.key := by
  unfold deps depKeys
  split <;> simp [List.map_append, List.map_map, Function.comp_def]

theorem mem_depKeys_of_mem_deps {isZero : R → Bool} {eig : Eig R} {t : PTask R} {sk : SField R × Modulus}
    (h : sk ∈ deps isZero eig t) : sk.2 ∈ depKeys isZero eig t.key :=
  deps_keys isZero eig t ▸ List.mem_map_of_mem h

theorem findTask_append {peq : Params R → Params R → Bool} {tasks : List (PTask R)} {q : Params R} {a : Nat}
    (h : findTask peq tasks q = some a) (extra : List (PTask R)) : findTask peq (tasks ++ extra) q = some a := by
  unfold findTask at h ⊢
  rw [List.findIdx?_append, h]
  rfl

theorem findTask_some {peq : Params R → Params R → Bool} {tasks : List (PTask R)} {q : Params R} {a : Nat}
    (h : findTask peq tasks q = some a) : ∃ t, tasks[a]? = some t ∧ peq t.params q = true := by
  unfold findTask at h
  obtain ⟨hlt, hp, _⟩ := List.findIdx?_eq_some_iff_getElem.mp h
  exact ⟨tasks[a], by simp [hlt], hp⟩

theorem findTask_isSome_of_mem {peq : Params R → Params R → Bool} {tasks : List (PTask R)} {q : Params R}
    {t : PTask R} (ht : t ∈ tasks) (hp : peq t.params q = true) : ∃ a, findTask peq tasks q = some a := by
  unfold findTask
  cases h : tasks.findIdx? fun t => peq t.params q with
  | some a => exact ⟨a, rfl⟩
  | none =>
    have := List.findIdx?_eq_none_iff.mp h t ht
    simp [hp] at this

theorem currOf_spec {peq : Params R → Params R → Bool} (hp : PeqSpec peq) (tasks : List (PTask R)) (it : Item R) :
    ∃ extra t, (currOf peq tasks it).1 = tasks ++ extra ∧
      (extra = [] ∨ extra = [mkTask it.1 it.2.1] ∧ (currOf peq tasks it).2 = tasks.length) ∧
      (currOf peq tasks it).1[(currOf peq tasks it).2]? = some t ∧
      peq t.params (create it.1 it.2.1) = true ∧
      findTask peq (currOf peq tasks it).1 (create it.1 it.2.1) = some (currOf peq tasks it).2 := by
  unfold currOf
  cases h : findTask peq tasks (create it.1 it.2.1) with
  | some i =>
    obtain ⟨t, ht, hpt⟩ := findTask_some h
    exact ⟨[], t, by simp, Or.inl rfl, ht, hpt, h⟩
  | none =>
    refine ⟨[mkTask it.1 it.2.1], mkTask it.1 it.2.1, rfl, Or.inr ⟨rfl, rfl⟩, by simp, hp.refl _, ?_⟩
    unfold findTask at h ⊢
    rw [List.findIdx?_append, h]
    simp [mkTask, hp.refl]

theorem getElem?_append_some {X : Type} {l : List X} {i : Nat} {x : X} (h : l[i]? = some x) (extra : List X) :
    (l ++ extra)[i]? = some x := by
  have hlt : i < l.length := by
    by_contra hh
    rw [List.getElem?_eq_none (by omega)] at h
    cases h
  rw [List.getElem?_append_left hlt]; exact h

/-- invariant of the work list (`stack` = the queue seen from its end) -/
structure Inv (isZero : R → Bool) (peq : Params R → Params R → Bool) (eig : Eig R) (strain : SField R)
    (keys : List Modulus) (stack : List (Item R)) (st : RState R) : Prop where
  wf : ∀ t ∈ st.tasks, WF t
  stackKeys : ∀ it ∈ stack, it.2.1 ∈ allKeys
  stackDep : ∀ it ∈ stack, ∀ b, it.2.2 = some b → ∃ t, st.tasks[b]? = some t ∧ it.2.1 ∈ depKeys isZero eig t.key
  edgesRank : ∀ e ∈ st.edges, ∃ ta tb, st.tasks[e.1]? = some ta ∧ st.tasks[e.2]? = some tb ∧ rank ta.key < rank tb.key
  depsDone : ∀ b t, st.tasks[b]? = some t → ∀ sk ∈ deps isZero eig t,
      (sk.1, sk.2, some b) ∈ stack ∨ ∃ a, findTask peq st.tasks (create sk.1 sk.2) = some a ∧ (a, b) ∈ st.edges
  reqDone : ∀ k ∈ keys, (strain, k, (none : Option Nat)) ∈ stack ∨ ∃ a, findTask peq st.tasks (create strain k) = some a

theorem rank_of_peq {peq : Params R → Params R → Bool} (hp : PeqSpec peq) {t : PTask R} (ht : WF t)
    {s : SField R} {k : Modulus} (h : peq t.params (create s k) = true) :
    rank t.key = rank k ∧ (k.isShear = true → t.key = k) ∧ (k.isShear = false → t.key.isShear = false) := by
  have hk := hp.kind _ _ h
  rw [ht.1, kind_create, kind_create] at hk
  cases h1 : t.key.isShear <;> cases h2 : k.isShear <;> simp [h1, h2] at hk
  · exact ⟨by rw [rank_zero_of_nonshear h1, rank_zero_of_nonshear h2], by simp, by simp⟩
  · exact ⟨by rw [hk], fun _ => hk, by simp⟩

theorem edge_mem_addEdge {edges : List (Nat × Nat)} {curr : Nat} {dep : Option Nat} {e : Nat × Nat}
    (h : e ∈ addEdge edges curr dep) : e ∈ edges ∨ dep = some e.2 ∧ e.1 = curr := by
  unfold addEdge at h
  cases dep with
  | none => exact Or.inl h
  | some d =>
    rcases List.mem_append.mp h with h | h
    · exact Or.inl h
    · simp at h; subst h; exact Or.inr ⟨rfl, rfl⟩

theorem mem_addEdge_of_mem {edges : List (Nat × Nat)} {curr : Nat} {dep : Option Nat} {e : Nat × Nat}
    (h : e ∈ edges) : e ∈ addEdge edges curr dep := by
  unfold addEdge; cases dep <;> simp [h]

theorem mem_addEdge_self (edges : List (Nat × Nat)) (curr d : Nat) : (curr, d) ∈ addEdge edges curr (some d) := by
  simp [addEdge]

theorem Inv.wf_curr {isZero : R → Bool} {peq : Params R → Params R → Bool} (hp : PeqSpec peq)
    {eig : Eig R} {strain : SField R} {keys : List Modulus} {it : Item R} {rest : List (Item R)} {st : RState R}
    (h : Inv isZero peq eig strain keys (it :: rest) st) : ∀ u ∈ (currOf peq st.tasks it).1, WF u := by
  obtain ⟨extra, t, htasks, hextra, _⟩ := currOf_spec hp st.tasks it
  intro u hu
  rw [htasks] at hu
  rcases List.mem_append.mp hu with hu | hu
  · exact h.wf u hu
  · rcases hextra with he | ⟨he, _⟩
    · rw [he] at hu; cases hu
    · rw [he] at hu; simp at hu; subst hu; exact ⟨rfl, h.stackKeys it (List.mem_cons_self)⟩

theorem pushed_eq (isZero : R → Bool) (peq : Params R → Params R → Bool) (eig : Eig R) (it : Item R) (st : RState R)
    {t : PTask R} (hcurr : (currOf peq st.tasks it).1[(currOf peq st.tasks it).2]? = some t) :
    (resolveStep isZero peq eig it st).2 =
      (deps isZero eig t).map fun sk => (sk.1, sk.2, some (currOf peq st.tasks it).2) := by
  simp only [resolveStep, pushedOf, hcurr]

/-- one loop iteration preserves the invariant -/
theorem Inv.step {isZero : R → Bool} (hz : ZeroSpec isZero) {peq : Params R → Params R → Bool} (hp : PeqSpec peq)
    {eig : Eig R} {strain : SField R} {keys : List Modulus} {it : Item R} {rest : List (Item R)} {st : RState R}
    (h : Inv isZero peq eig strain keys (it :: rest) st) :
    Inv isZero peq eig strain keys ((resolveStep isZero peq eig it st).2.reverse ++ rest) (resolveStep isZero peq eig it st).1 := by
  obtain ⟨extra, t, htasks, hextra, hcurr, hpeq, hfind⟩ := currOf_spec hp st.tasks it
  have hitk : it.2.1 ∈ allKeys := h.stackKeys it (List.mem_cons_self)
  have hwf' := h.wf_curr hp
  have htwf : WF t := hwf' t (List.mem_of_getElem? hcurr)
  have hrank := rank_of_peq hp htwf hpeq
  have hold : ∀ {i : Nat} {u : PTask R}, st.tasks[i]? = some u → (currOf peq st.tasks it).1[i]? = some u := by
    intro i u hu; rw [htasks]; exact getElem?_append_some hu extra
  have hfindold : ∀ {q : Params R} {a : Nat}, findTask peq st.tasks q = some a →
      findTask peq (currOf peq st.tasks it).1 q = some a := by
    intro q a ha; rw [htasks]; exact findTask_append ha extra
  have hpushed := pushed_eq isZero peq eig it st hcurr
  constructor
  · exact hwf'
  · -- stackKeys
    intro it' hit'
    rcases List.mem_append.mp hit' with hit' | hit'
    · rw [List.mem_reverse, hpushed] at hit'
      obtain ⟨sk, hsk, rfl⟩ := List.mem_map.mp hit'
      exact (depKeys_canon_rank hz eig htwf.2 (mem_depKeys_of_mem_deps hsk)).1
    · exact h.stackKeys it' (List.mem_cons_of_mem _ hit')
  · -- stackDep
    intro it' hit' b hb
    rcases List.mem_append.mp hit' with hit' | hit'
    · rw [List.mem_reverse, hpushed] at hit'
      obtain ⟨sk, hsk, rfl⟩ := List.mem_map.mp hit'
      simp only [Option.some.injEq] at hb
      subst hb
      exact ⟨t, hcurr, mem_depKeys_of_mem_deps hsk⟩
    · obtain ⟨u, hu, hk⟩ := h.stackDep it' (List.mem_cons_of_mem _ hit') b hb
      exact ⟨u, hold hu, hk⟩
  · -- edgesRank
    intro e he
    rcases edge_mem_addEdge he with he | ⟨hdep, he1⟩
    · obtain ⟨ta, tb, h1, h2, h3⟩ := h.edgesRank e he
      exact ⟨ta, tb, hold h1, hold h2, h3⟩
    · obtain ⟨u, hu, hk⟩ := h.stackDep it (List.mem_cons_self) e.2 hdep
      refine ⟨t, u, by rw [he1]; exact hcurr, hold hu, ?_⟩
      have hu_wf : WF u := h.wf u (List.mem_of_getElem? hu)
      have := (depKeys_canon_rank hz eig hu_wf.2 hk).2
      rw [hrank.1]; exact this
  · -- depsDone
    intro b u hu sk hsk
    change (currOf peq st.tasks it).1[b]? = some u at hu
    by_cases hb : b < st.tasks.length
    · have hu_old : st.tasks[b]? = some u := by
        rw [htasks, List.getElem?_append_left hb] at hu; exact hu
      rcases h.depsDone b u hu_old sk hsk with hin | ⟨a, ha, hab⟩
      · rcases List.mem_cons.mp hin with heq | hin
        · -- it is the popped item: now resolved
          right
          subst heq
          exact ⟨_, hfind, mem_addEdge_self _ _ _⟩
        · left; exact List.mem_append.mpr (Or.inr hin)
      · right; exact ⟨a, hfindold ha, mem_addEdge_of_mem hab⟩
    · -- a task appended in this iteration: it is `curr`, its dependencies were just pushed
      rcases hextra with he | ⟨he, hc⟩
      · rw [htasks, he, List.append_nil, List.getElem?_eq_none (by omega)] at hu; cases hu
      · have hbeq : b = st.tasks.length := by
          have := (List.getElem?_eq_some_iff.1 hu).1
          rw [htasks, he, List.length_append, List.length_singleton] at this
          omega
        rw [hbeq, ← hc, hcurr] at hu
        cases hu
        rw [List.mem_append, List.mem_reverse, hpushed, hbeq, ← hc]
        exact Or.inl (Or.inl (List.mem_map.mpr ⟨sk, hsk, rfl⟩))
  · -- reqDone
    intro k hk
    rcases h.reqDone k hk with hin | ⟨a, ha⟩
    · rcases List.mem_cons.mp hin with heq | hin
      · right; subst heq; exact ⟨_, hfind⟩
      · left; exact List.mem_append.mpr (Or.inr hin)
    · right; exact ⟨a, hfindold ha⟩

end resolve

section loop
variable {R : Type} [Field R]

def stackMu (isZero : R → Bool) (eig : Eig R) (stack : List (Item R)) : Nat :=
  (stack.map fun it => mu isZero eig it.2.1).sum

theorem pushed_measure {isZero : R → Bool} (hz : ZeroSpec isZero) {peq : Params R → Params R → Bool} (hp : PeqSpec peq)
    {eig : Eig R} {strain : SField R} {keys : List Modulus} {it : Item R} {rest : List (Item R)} {st : RState R}
    (h : Inv isZero peq eig strain keys (it :: rest) st) :
    stackMu isZero eig (resolveStep isZero peq eig it st).2 + 1 ≤ mu isZero eig it.2.1 := by
  obtain ⟨extra, t, htasks, hextra, hcurr, hpeq, hfind⟩ := currOf_spec hp st.tasks it
  have hitk : it.2.1 ∈ allKeys := h.stackKeys it (List.mem_cons_self)
  have htwf : WF t := h.wf_curr hp t (List.mem_of_getElem? hcurr)
  have hrank := rank_of_peq hp htwf hpeq
  have hpushed := pushed_eq isZero peq eig it st hcurr
  have hsum : stackMu isZero eig (resolveStep isZero peq eig it st).2 = ((depKeys isZero eig t.key).map (mu isZero eig)).sum := by
    unfold stackMu
    rw [hpushed, ← deps_keys, List.map_map, List.map_map]
    rfl
  rw [hsum]
  cases hs : it.2.1.isShear
  · rw [depKeys_nonshear isZero eig (hrank.2.2 hs)]
    simp [mu]; exact weight_pos _ _ _ _
  · rw [hrank.2.1 hs]; exact mu_deps hz eig hitk

theorem stackMu_append (isZero : R → Bool) (eig : Eig R) (a b : List (Item R)) :
    stackMu isZero eig (a ++ b) = stackMu isZero eig a + stackMu isZero eig b := by
  simp [stackMu, List.map_append, List.sum_append]

theorem stackMu_reverse (isZero : R → Bool) (eig : Eig R) (a : List (Item R)) :
    stackMu isZero eig a.reverse = stackMu isZero eig a := by
  simp [stackMu, List.map_reverse, List.sum_reverse]

/-- the loop terminates within the fuel given by the measure and the invariant holds at the end -/
theorem resolveLoop_inv {isZero : R → Bool} (hz : ZeroSpec isZero) {peq : Params R → Params R → Bool} (hp : PeqSpec peq)
    {eig : Eig R} {strain : SField R} {keys : List Modulus} :
    ∀ (fuel : Nat) (stack : List (Item R)) (st : RState R), Inv isZero peq eig strain keys stack st →
      stackMu isZero eig stack ≤ fuel →
      ∃ st', resolveLoop isZero peq eig fuel stack st = some st' ∧ Inv isZero peq eig strain keys [] st' := by
  intro fuel
  induction fuel with
  | zero =>
    intro stack st h hf
    cases stack with
    | nil => exact ⟨st, by simp [resolveLoop], h⟩
    | cons it rest =>
      exfalso
      have : 1 ≤ mu isZero eig it.2.1 := weight_pos _ _ _ _
      simp [stackMu] at hf
      omega
  | succ n ih =>
    intro stack st h hf
    cases stack with
    | nil => exact ⟨st, by simp [resolveLoop], h⟩
    | cons it rest =>
      have hstep := h.step hz hp
      have hm := pushed_measure hz hp h
      have hf' : stackMu isZero eig ((resolveStep isZero peq eig it st).2.reverse ++ rest) ≤ n := by
        rw [stackMu_append, stackMu_reverse]
        have : stackMu isZero eig (it :: rest) = mu isZero eig it.2.1 + stackMu isZero eig rest := by
          simp [stackMu]
        omega
      obtain ⟨st', hst', hinv'⟩ := ih _ _ hstep hf'
      exact ⟨st', by simpa [resolveLoop] using hst', hinv'⟩

theorem initial_inv (isZero : R → Bool) (peq : Params R → Params R → Bool) (eig : Eig R) (strain : SField R)
    (keys : List Modulus) (hkeys : ∀ k ∈ keys, k ∈ allKeys) :
    Inv isZero peq eig strain keys (initialStack strain keys) ⟨[], []⟩ := by
  constructor
  · intro t ht; cases ht
  · intro it hit
    simp only [initialStack, List.mem_reverse, List.mem_map] at hit
    obtain ⟨k, hk, rfl⟩ := hit
    exact hkeys k hk
  · intro it hit b hb
    simp only [initialStack, List.mem_reverse, List.mem_map] at hit
    obtain ⟨k, hk, rfl⟩ := hit
    cases hb
  · intro e he; cases he
  · intro b t ht; simp at ht
  · intro k hk
    left
    simp only [initialStack, List.mem_reverse, List.mem_map]
    exact ⟨k, hk, rfl⟩

theorem initial_fuel (isZero : R → Bool) (eig : Eig R) (strain : SField R) (keys : List Modulus) :
    stackMu isZero eig (initialStack strain keys) ≤ fuelFor isZero eig keys := by
  unfold initialStack fuelFor
  rw [stackMu_reverse]
  unfold stackMu
  rw [List.map_map]
  exact List.sum_le_sum fun k _ => weight_mono' isZero eig (rank_le_two k) k

theorem resolve_inv {isZero : R → Bool} (hz : ZeroSpec isZero) {peq : Params R → Params R → Bool} (hp : PeqSpec peq)
    (eig : Eig R) (strain : SField R) (keys : List Modulus) (hkeys : ∀ k ∈ keys, k ∈ allKeys) :
    ∃ st, resolve isZero peq eig strain keys = some st ∧ Inv isZero peq eig strain keys [] st :=
  resolveLoop_inv hz hp _ _ _ (initial_inv isZero peq eig strain keys hkeys) (initial_fuel isZero eig strain keys)

end loop

section specs
variable {R : Type} [Field R]

/-- `≈` is compatible with everything the tasks compute from their parameters -/
structure PeqCongr (peq : Params R → Params R → Bool) (baseIso baseAdi : Params R → R) : Prop where
  iso : ∀ p q, peq p q = true → baseIso p = baseIso q
  adi : ∀ p q, peq p q = true → baseAdi p = baseAdi q
  create : ∀ s s' k, peq (.shear s k) (.shear s' k) = true → ∀ k', peq (create s k') (create s' k') = true
  rot : ∀ s s' k, peq (.shear s k) (.shear s' k) = true →
      ∀ T k', peq (Tasks.create (rotatedField T s) k') (Tasks.create (rotatedField T s') k') = true

theorem spec_nonshear (isZero : R → Bool) (eig : Eig R) (base : Params R → R) (n : Nat) (c : Modulus.CalcType)
    (a b : CField R) : spec isZero eig base n (.nonshear c a b) = base (.nonshear c a b) := by
  cases n <;> rfl

theorem PeqSpec.cases {peq : Params R → Params R → Bool} (hp : PeqSpec peq) {p q : Params R} (h : peq p q = true) :
    (∃ c a b c' a' b', p = .nonshear c a b ∧ q = .nonshear c' a' b') ∨ ∃ s s' k, p = .shear s k ∧ q = .shear s' k := by
  have hk := hp.kind _ _ h
  cases p <;> cases q <;> simp only [Params.kind, reduceCtorEq, Option.some.injEq] at hk
  · exact Or.inl ⟨_, _, _, _, _, _, rfl, rfl⟩
  · subst hk; exact Or.inr ⟨_, _, _, rfl, rfl⟩

theorem spec_congr {isZero : R → Bool} {peq : Params R → Params R → Bool} (hp : PeqSpec peq) {eig : Eig R}
    {baseIso baseAdi : Params R → R} (hc : PeqCongr peq baseIso baseAdi) :
    ∀ (n : Nat) (p q : Params R), peq p q = true → spec isZero eig baseIso n p = spec isZero eig baseIso n q := by
  intro n
  induction n with
  | zero =>
    intro p q h
    rcases hp.cases h with ⟨c, a, b, c', a', b', rfl, rfl⟩ | ⟨s, s', k, rfl, rfl⟩
    · rw [spec_nonshear, spec_nonshear]; exact hc.iso _ _ h
    · rfl
  | succ n ih =>
    intro p q h
    rcases hp.cases h with ⟨c, a, b, c', a', b', rfl, rfl⟩ | ⟨s, s', k, rfl, rfl⟩
    · rw [spec_nonshear, spec_nonshear]; exact hc.iso _ _ h
    · -- both frames ask for `≈` parameters
      have h1 : (fun k' => spec isZero eig baseIso n (Tasks.create s k')) =
          fun k' => spec isZero eig baseIso n (Tasks.create s' k') := by
        funext k'; exact ih _ _ (hc.create s s' k h k')
      have h2 : (fun k' => spec isZero eig baseIso n (Tasks.create (rotatedField (eig k).1 s) k')) =
          fun k' => spec isZero eig baseIso n (Tasks.create (rotatedField (eig k).1 s') k') := by
        funext k'; exact ih _ _ (hc.rot s s' k h _ k')
      simp only [spec]
      rw [h1, h2]

def prank : Params R → Nat
  | .nonshear _ _ _ => 0
  | .shear _ k => rank k

def Canon : Params R → Prop
  | .nonshear _ _ _ => True
  | .shear _ k => k ∈ shearKeys

theorem canon_create (s : SField R) {k : Modulus} (hk : k ∈ allKeys) : Canon (create s k) := by
  cases hs : k.isShear
  · rw [create_nonshear s hs]; trivial
  · rw [create_shear s hs]; exact mem_shearKeys.2 ⟨hk, hs⟩

theorem prank_create (s : SField R) (k : Modulus) : prank (create s k) = rank k := by
  cases hs : k.isShear
  · rw [create_nonshear s hs, rank_zero_of_nonshear hs]; rfl
  · rw [create_shear s hs]; rfl

/-- unrolling deeper than the rank changes nothing -/
theorem spec_stable {isZero : R → Bool} (hz : ZeroSpec isZero) (eig : Eig R) (base : Params R → R) :
    ∀ (n : Nat) (p : Params R), Canon p → prank p ≤ n → spec isZero eig base n p = spec isZero eig base (n + 1) p := by
  intro n
  induction n with
  | zero =>
    intro p hc hr
    cases p with
    | nonshear c a b => rw [spec_nonshear, spec_nonshear]
    | shear s k =>
      exfalso
      have := rank_pos_of_shear (mem_shearKeys.1 hc).2
      simp [prank] at hr; omega
  | succ n ih =>
    intro p hc hr
    cases p with
    | nonshear c a b => rw [spec_nonshear, spec_nonshear]
    | shear s k =>
      have hk := mem_shearKeys.1 hc
      show shearValue isZero k (eig k).2 _ _ = shearValue isZero k (eig k).2 _ _
      apply shearValue_congr
      · intro k' hk'
        have := modulusKeys_canon_rank hz hc hk'
        exact ih _ (canon_create s this.1) (by rw [prank_create]; simp [prank] at hr; omega)
      · intro k' hk'
        have := modulusKeysRotated_canon_rank hz _ hk.2 hk'
        exact ih _ (canon_create _ this.1) (by rw [prank_create]; simp [prank] at hr; omega)

/-- the defining equation of the value of a shear key: the shear solver applied to the values of what it asks for -/
theorem spec_fix {isZero : R → Bool} (hz : ZeroSpec isZero) (eig : Eig R) (base : Params R → R)
    (s : SField R) {k : Modulus} (hk : k ∈ shearKeys) :
    spec isZero eig base 2 (.shear s k) =
      shearValue isZero k (eig k).2 (fun k' => spec isZero eig base 2 (create s k'))
        (fun k' => spec isZero eig base 2 (create (rotatedField (eig k).1 s) k')) := by
  have hk' := mem_shearKeys.1 hk
  show shearValue isZero k (eig k).2 _ _ = _
  apply shearValue_congr
  · intro k' hd
    have := modulusKeys_canon_rank hz hk hd
    exact spec_stable hz eig base 1 _ (canon_create s this.1) (by rw [prank_create]; have := rank_le_two k; omega)
  · intro k' hd
    have := modulusKeysRotated_canon_rank hz _ hk'.2 hd
    exact spec_stable hz eig base 1 _ (canon_create _ this.1) (by rw [prank_create]; have := rank_le_two k; omega)

end specs

section calcsec
variable {R : Type} [Field R]

/-- adiabatic value of a parameter: the adiabatic base value for non-shear, the ISOTHERMAL shear value for shear -/
def specAdi (isZero : R → Bool) (eig : Eig R) (baseIso baseAdi : Params R → R) : Params R → R
  | .nonshear c a b => baseAdi (.nonshear c a b)
  | .shear s k => spec isZero eig baseIso 2 (.shear s k)

/-- the store after the tasks `done` (indices into `tasks`) were evaluated, if every task got the value `f params` -/
def entries (tasks : List (PTask R)) (f : Params R → R) (done : List Nat) : Store R :=
  done.filterMap fun i => (tasks[i]?).map fun t => (t.params, f t.params)

theorem entries_append (tasks : List (PTask R)) (f : Params R → R) (a b : List Nat) :
    entries tasks f (a ++ b) = entries tasks f a ++ entries tasks f b := by
  simp [entries, List.filterMap_append]

theorem entries_single (tasks : List (PTask R)) (f : Params R → R) {i : Nat} {t : PTask R} (h : tasks[i]? = some t) :
    entries tasks f [i] = [(t.params, f t.params)] := by
  simp [entries, h]

theorem entries_get {peq : Params R → Params R → Bool} (tasks : List (PTask R)) (f : Params R → R)
    (hf : ∀ p q, peq p q = true → f p = f q) (done : List Nat) {q : Params R} {a : Nat} (ha : a ∈ done)
    (hfind : findTask peq tasks q = some a) : (entries tasks f done).get peq q = some (f q) := by
  obtain ⟨ta, hta, hpq⟩ := findTask_some hfind
  unfold Store.get
  cases hfind : (entries tasks f done).find? fun e => peq e.1 q with
  | none =>
    have := List.find?_eq_none.mp hfind (ta.params, f ta.params)
      (by unfold entries; exact List.mem_filterMap.mpr ⟨a, ha, by simp [hta]⟩)
    simp [hpq] at this
  | some e =>
    have hpe := List.find?_some hfind
    obtain ⟨i, _, hi⟩ := List.mem_filterMap.mp (List.mem_of_find?_eq_some hfind)
    cases hti : tasks[i]? with
    | none => simp [hti] at hi
    | some ti =>
      simp [hti] at hi
      subst hi
      rw [Option.map_some, hf _ _ hpe]

theorem mapM_some {X Y : Type} (f : X → Option Y) (g : X → Y) (l : List X) (h : ∀ x ∈ l, f x = some (g x)) :
    l.mapM f = some (l.map g) := by
  induction l with
  | nil => rfl
  | cons x xs ih =>
    rw [List.mapM_cons, h x (List.mem_cons_self), ih fun y hy => h y (List.mem_cons_of_mem _ hy)]
    rfl

theorem results_of_get {peq : Params R → Params R → Bool} {s : Store R} {strain : SField R} {keys : List Modulus}
    {f : Modulus → R} (h : ∀ k ∈ keys, s.get peq (create strain k) = some (f k)) :
    s.results peq strain keys = some (keys.map fun k => (k, f k)) :=
  mapM_some _ _ keys fun k hk => by rw [h k hk]; rfl

/-- what `resolve` guarantees about its final state (the part `calculate` needs) -/
structure Closed (isZero : R → Bool) (peq : Params R → Params R → Bool) (eig : Eig R) (st : RState R) : Prop where
  wf : ∀ t ∈ st.tasks, WF t
  deps : ∀ b t, st.tasks[b]? = some t → ∀ sk ∈ deps isZero eig t,
      ∃ a, findTask peq st.tasks (create sk.1 sk.2) = some a ∧ (a, b) ∈ st.edges

/-- `order` evaluates the source of every edge before its target (whatever occurrence of the target) -/
def RespectsEdges (edges : List (Nat × Nat)) (order : List Nat) : Prop :=
  ∀ e ∈ edges, ∀ pre post, order = pre ++ e.2 :: post → e.1 ∈ pre

/-- the value one task computes when everything evaluated so far got its `spec` value -/
theorem taskValue_spec {isZero : R → Bool} (hz : ZeroSpec isZero) {peq : Params R → Params R → Bool} (hp : PeqSpec peq)
    {eig : Eig R} {baseIso baseAdi : Params R → R} (hc : PeqCongr peq baseIso baseAdi) {st : RState R}
    (hcl : Closed isZero peq eig st) {b : Nat} {t : PTask R} (ht : st.tasks[b]? = some t) (done : List Nat)
    (hdone : ∀ a, (a, b) ∈ st.edges → a ∈ done) :
    taskValue isZero peq eig baseIso baseAdi (entries st.tasks (spec isZero eig baseIso 2) done) t =
      some (spec isZero eig baseIso 2 t.params, specAdi isZero eig baseIso baseAdi t.params) := by
  have hwf := hcl.wf t (List.mem_of_getElem? ht)
  set S := entries st.tasks (spec isZero eig baseIso 2) done
  -- every dependency is found in the store, with the right value
  have hlook : ∀ sk ∈ deps isZero eig t, S.get peq (create sk.1 sk.2) = some (spec isZero eig baseIso 2 (create sk.1 sk.2)) := by
    intro sk hsk
    obtain ⟨a, ha, hab⟩ := hcl.deps b t ht sk hsk
    exact entries_get st.tasks _ (fun p q h => spec_congr hp hc 2 p q h) done (hdone a hab) ha
  unfold taskValue
  cases hs : t.key.isShear
  · have hct : t.key.calcType ≠ .shear := fun hh => by rw [(calcType_shear_iff _).1 hh] at hs; cases hs
    split
    · contradiction
    · rw [hwf.1, create_nonshear _ hs, spec_nonshear]; rfl
  · have horig : ∀ k ∈ modulusKeys isZero t.key, S.get peq (create t.strain k) = some (spec isZero eig baseIso 2 (create t.strain k)) :=
      fun k hk => hlook (t.strain, k)
        (by rw [deps_shear isZero eig hs]; exact List.mem_append.mpr (Or.inl (List.mem_map.mpr ⟨k, hk, rfl⟩)))
    have hrot : ∀ k ∈ modulusKeysRotated isZero (eig t.key).2,
        S.get peq (create (rotatedField (eig t.key).1 t.strain) k) =
          some (spec isZero eig baseIso 2 (create (rotatedField (eig t.key).1 t.strain) k)) :=
      fun k hk => hlook (rotatedField (eig t.key).1 t.strain, k)
        (by rw [deps_shear isZero eig hs]; exact List.mem_append.mpr (Or.inr (List.mem_map.mpr ⟨k, hk, rfl⟩)))
    rw [(calcType_shear_iff _).2 hs]
    simp only [results_of_get horig, results_of_get hrot]
    -- the two dictionaries hold the values the defining equation of `spec` reads
    have hval : shearValue isZero t.key (eig t.key).2
        (fun k => (S.get peq (create t.strain k)).getD ((0 : Nat) : R))
        (fun k => (S.get peq (create (rotatedField (eig t.key).1 t.strain) k)).getD ((0 : Nat) : R)) =
        spec isZero eig baseIso 2 (.shear t.strain t.key) := by
      rw [spec_fix hz eig baseIso t.strain (mem_shearKeys.2 ⟨hwf.2, hs⟩)]
      apply shearValue_congr
      · intro k hk; rw [horig k hk]; rfl
      · intro k hk; rw [hrot k hk]; rfl
    rw [hval, hwf.1, create_shear _ hs]
    rfl

end calcsec

section calcmain
variable {R : Type} [Field R]

theorem respectsFrom_spec (edges : List (Nat × Nat)) :
    ∀ (rest pre : List Nat), respectsFrom edges pre rest = true →
      ∀ e ∈ edges, ∀ p post, rest = p ++ e.2 :: post → e.1 ∈ pre ++ p := by
  intro rest
  induction rest with
  | nil => intro pre _ e _ p post h; simp at h
  | cons i rest ih =>
    intro pre h e he p post hsplit
    simp only [respectsFrom, Bool.and_eq_true, List.all_eq_true] at h
    cases p with
    | nil =>
      simp only [List.nil_append, List.cons.injEq] at hsplit
      have := h.1 e he
      simp only [Bool.or_eq_true, bne_iff_ne, ne_eq, List.contains_eq_mem, decide_eq_true_eq] at this
      rcases this with hne | hmem
      · exact absurd hsplit.1.symm hne
      · simpa using hmem
    | cons x p' =>
      simp only [List.cons_append, List.cons.injEq] at hsplit
      have := ih (pre ++ [i]) h.2 e he p' post hsplit.2
      rw [← hsplit.1]
      simpa [List.append_assoc] using this

theorem validOrder_spec {n : Nat} {edges : List (Nat × Nat)} {order : List Nat} (h : validOrder n edges order = true) :
    (∀ i ∈ order, i < n) ∧ (∀ i, i < n → i ∈ order) ∧ RespectsEdges edges order := by
  simp only [validOrder, Bool.and_eq_true, List.all_eq_true, decide_eq_true_eq, List.contains_eq_mem,
    List.mem_range] at h
  refine ⟨h.1.1.2, h.1.2, ?_⟩
  intro e he pre post hsplit
  simpa using respectsFrom_spec edges order [] h.2 e he pre post hsplit

/-- `calculate` over an order respecting the edges stores `spec` for every task, in evaluation order -/
theorem calculate_entries {isZero : R → Bool} (hz : ZeroSpec isZero) {peq : Params R → Params R → Bool} (hp : PeqSpec peq)
    {eig : Eig R} {baseIso baseAdi : Params R → R} (hc : PeqCongr peq baseIso baseAdi) {st : RState R}
    (hcl : Closed isZero peq eig st) (order : List Nat) (hres : RespectsEdges st.edges order)
    (hidx : ∀ i ∈ order, i < st.tasks.length) :
    ∀ (rest done : List Nat), order = done ++ rest →
      calculate isZero peq eig baseIso baseAdi st.tasks rest
        (entries st.tasks (spec isZero eig baseIso 2) done, entries st.tasks (specAdi isZero eig baseIso baseAdi) done) =
      some (entries st.tasks (spec isZero eig baseIso 2) (done ++ rest),
            entries st.tasks (specAdi isZero eig baseIso baseAdi) (done ++ rest)) := by
  intro rest
  induction rest with
  | nil => intro done _; simp [calculate]
  | cons i rest ih =>
    intro done hsplit
    have hi : i < st.tasks.length := hidx i (by rw [hsplit]; simp)
    have ht : st.tasks[i]? = some st.tasks[i] := by simp [hi]
    have hv := taskValue_spec hz hp hc hcl ht done (fun a hab => hres (a, i) hab done rest hsplit)
    unfold calculate
    simp only [ht, hv]
    have := ih (done ++ [i]) (by rw [hsplit]; simp)
    rw [entries_append, entries_append, entries_single _ _ ht, entries_single _ _ ht] at this
    rw [this]
    simp [List.append_assoc]

theorem specAdi_congr {isZero : R → Bool} {peq : Params R → Params R → Bool} (hp : PeqSpec peq) {eig : Eig R}
    {baseIso baseAdi : Params R → R} (hc : PeqCongr peq baseIso baseAdi) (p q : Params R) (h : peq p q = true) :
    specAdi isZero eig baseIso baseAdi p = specAdi isZero eig baseIso baseAdi q := by
  rcases hp.cases h with ⟨c, a, b, c', a', b', rfl, rfl⟩ | ⟨s, s', k, rfl, rfl⟩
  · exact hc.adi _ _ h
  · exact spec_congr hp hc 2 _ _ h

theorem findTask_lt {peq : Params R → Params R → Bool} {tasks : List (PTask R)} {q : Params R} {a : Nat}
    (h : findTask peq tasks q = some a) : a < tasks.length :=
  (List.findIdx?_eq_some_iff_getElem.mp h).1

theorem results_of_entries {peq : Params R → Params R → Bool} (tasks : List (PTask R)) (f : Params R → R)
    (hf : ∀ p q, peq p q = true → f p = f q) (order : List Nat) (hcov : ∀ i, i < tasks.length → i ∈ order)
    (strain : SField R) (keys : List Modulus)
    (hreq : ∀ k ∈ keys, ∃ a, findTask peq tasks (create strain k) = some a) :
    Store.results peq (entries tasks f order) strain keys = some (keys.map fun k => (k, f (create strain k))) :=
  results_of_get fun k hk => by
    obtain ⟨a, ha⟩ := hreq k hk
    exact entries_get tasks f hf order (hcov a (findTask_lt ha)) ha

end calcmain

end Cij.Tasks
