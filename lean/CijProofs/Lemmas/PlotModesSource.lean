/-
  `ModePlotter.plot_modes` (cij/plot/modes.py) as translated on this run (Generated/PlotModesSpec.lean) and the list
  `Calculator.mode_gamma = [V∂γ/∂V, γ, γ²]` as translated from `_interpolate_modes` (Generated/CalcGlueSpec.lean): the model's
  `plotSelect` IS the interpretation of the two.
-/
import CijModel.Interp
import CijModel.CalcGlue
import Generated.PlotModesSpec
import Generated.CalcGlueSpec
namespace Cij.PlotModesSource
open Cij.Interp

/-- the member of the triple `(ω, γ, V∂γ/∂V)` returned by `interpolate_modes` (index, power) that an entry of `mode_gamma` holds -/
def tagOf (e : Nat × Int) : Option Quantity :=
  if e = (1, 1) then some .gamma else if e = (2, 1) then some .vdrDv else if e = (1, 2) then some .gammaSq else none

/-- what `self.calculator.<attr>[<idx>]` is, given how `_interpolate_modes` fills the calculator -/
def arrayOf (gamma : List (Nat × Int)) (freqAttr gammaAttr attr : String) (idx : Option Nat) : Option Quantity :=
  if attr = freqAttr then (if idx = none then some .omega else none)
  else if attr = gammaAttr then idx.bind fun i => (gamma[i]?).bind tagOf
  else none

/-- interpretation of the translated selection chain (first matching `n == k`; no match leaves `w_arrays` unbound) -/
def selectBy (sel : List (Int × String × Option Nat)) (gamma : List (Nat × Int)) (freqAttr gammaAttr : String) (n : Int) :
    Option Quantity :=
  match sel.find? (fun r => r.1 == n) with
  | none => none
  | some (_, attr, idx) => arrayOf gamma freqAttr gammaAttr attr idx

/-- the list the model calls `modeGammaTags` is the one `_interpolate_modes` builds -/
theorem modeGammaTags_is_source :
    Generated.CalcGlue.interpolateModes.gamma.map tagOf = modeGammaTags.map some := by decide

/-- **plot_select_is_source**: for EVERY integer n the model's selection is the interpretation of the translated chain on the
calculator as `_interpolate_modes` fills it -/
theorem plotSelect_is_source (n : Int) :
    plotSelect n = selectBy Generated.PlotModes.selection Generated.CalcGlue.interpolateModes.gamma
      Generated.CalcGlue.interpolateModes.freqAttr Generated.CalcGlue.interpolateModes.gammaAttr n := by
  by_cases h0 : n = 0
  · subst h0; decide
  by_cases h1 : n = 1
  · subst h1; decide
  by_cases h2 : n = 2
  · subst h2; decide
  simp [plotSelect, selectBy, Generated.PlotModes.selection, h0, h1, h2, Ne.symm h0, Ne.symm h1, Ne.symm h2]

/-- the Γ-acoustic skip and the loops of `plot_modes` are the ones the model mirrors -/
theorem plot_loops_are_source : Generated.PlotModes.gammaSkip = 3 ∧ Generated.PlotModes.loopsCanonical = true ∧
    Generated.PlotModes.defaults = [0, 0] := by decide

/-- the command `cij modes` hands its `-n` option to the parameter `n` and its `-q` (`--iq`) option to `iq` of `plot_modes`, positionally in the
order the method declares them (after the axes object), as written in cij/cli/modes.py -/
theorem cli_modes_wiring_is_source :
    Generated.PlotModes.plotParams = ["ax", "n", "iq"] ∧
    Generated.PlotModes.cliCallArgs.drop 1 = Generated.PlotModes.plotParams.drop 1 ∧
    (Generated.PlotModes.cliOptions.map (·.1)).filter (fun x => x = "n" ∨ x = "iq") = ["iq", "n"] ∧
    Generated.PlotModes.cliOptions.lookup "n" = some ("-n", "click.IntRange(0, 3)", "0") ∧
    Generated.PlotModes.cliOptions.lookup "iq" = some ("-q,--iq", "click.INT", "0") := by decide

end Cij.PlotModesSource
