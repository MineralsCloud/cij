/- Kernel check (part B) of the literal action tables: see LaueCertDefs.lean. -/
import CijProofs.Lemmas.LaueTablesA
namespace Cij.Laue
open Cij.Certs

theorem defect_partB : ∀ g ∈ [Gen.fourZ, .threeZ, .sixZ, .three111], ∀ a b : Fin 21,
    defectFast g a b = look (defectLit g) a.val b.val := by decide +kernel

end Cij.Laue
