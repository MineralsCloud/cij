/-
  The writer model (`CijModel/Writer.lean`) IS the source of the output path as it reads now.  `tools/gens/writer_src.py`
  translates the code of `results_writer.py`, `qha_output.py`, `write_table` / `write_variables` of both interface classes and
  `Calculator.write_output` into data (`Generated/WriterSpec.lean`).  This file gives that data a meaning — small evaluators
  (a dict is a partial function on keys; `none` = any Python exception) — and proves, for the canonical values of the data,
  that each evaluator is the model function.  `Properties/C15.lean` instantiates these at the `Generated` values by `rfl`.
-/
import CijModel.Writer
import Generated.WriterSpec
import CijProofs.Lemmas.Writer

namespace Cij.Writer.Source

open Generated (WriterRule WriteMethodSpec TableWiring WriteVariablesSpec)

/-! ### Python values and dicts on this path -/

/-- the values the dicts of this path hold: `str` or `list[str]` -/
inductive PyVal where
  | str (s : String)
  | strs (l : List String)
  deriving DecidableEq, Repr

def PyVal.asStr : PyVal → Option String
  | .str s => some s
  | .strs _ => none

/-- one entry of the YAML list as a Python dict (`Generated.WriterRule` is built by `gen_writer_rules` from exactly these keys) -/
def yamlGet (r : WriterRule) (k : String) : Option PyVal :=
  if k = "keywords" then some (.strs r.keywords)
  else if k = "fname_pattern" then some (.str r.fnamePattern)
  else if k = "prop" then some (.str r.prop)
  else if k = "unit" then some (.str r.unit)
  else if k = "unit_internal" then some (.str r.unitInternal)
  else if k = "var_type" then some (.str r.varType)
  else none

/-- the user's output entry as a dict, as far as `Config` keeps it (`keyword`, `fname`, `unit`, `unit_internal`) -/
def userGet (c : Config) (k : String) : Option PyVal :=
  if k = "keyword" then some (.str c.keyword)
  else if k = "fname" then c.fname.map .str
  else if k = "unit" then c.unit.map .str
  else if k = "unit_internal" then c.unitInternal.map .str
  else none

/-- the translated facts that are not specific to one method -/
structure Src where
  fields : List String                 -- NamedTuple fields = keys of `_asdict()`
  createKeys : List (String × String)  -- `create`: field ← rule[key]
  convParams : List String             -- positional parameters of `convert_unit`
  convFrom : String                    -- `Quantity(x, <this>)`
  convTo : String                      -- `.to(<this>)`
  ijFormat : String                    -- `_format_ij`: "<this>" % key.<ijAttr>
  ijAttr : String
  deriving DecidableEq, Repr

def Src.generated : Src :=
  { fields := Generated.writerRuleFields, createKeys := Generated.writerCreateKeys,
    convParams := Generated.convertUnitParams, convFrom := Generated.convertUnitFrom, convTo := Generated.convertUnitTo,
    ijFormat := Generated.formatIjFormat, ijAttr := Generated.formatIjAttr }

/-- the values of the data for which the interpreters are the model functions -/
def Src.canonical : Src :=
  { fields := ["keywords", "fname_pattern", "prop", "unit", "unit_internal", "var_type"],
    createKeys := [("keywords", "keywords"), ("fname_pattern", "fname_pattern"), ("prop", "prop"), ("unit", "unit"),
                   ("unit_internal", "unit_internal"), ("var_type", "var_type")],
    convParams := ["unit_from", "unit_to", "value"], convFrom := "unit_from", convTo := "unit_to",
    ijFormat := "%d%d", ijAttr := "v" }

/-- attribute `<field>` of the NamedTuple built by `create`: `cls(<field>=rule["<key>"], …)` -/
def tupleGet (P : Src) (r : WriterRule) (field : String) : Option PyVal :=
  (dictGet P.createKeys field).bind (yamlGet r)

/-- `self._asdict()`: the declared fields, nothing else -/
def asdictGet (P : Src) (r : WriterRule) (k : String) : Option PyVal :=
  if P.fields.contains k then tupleGet P r k else none

/-- `<dict>[key]` for the three dicts of `write_variable`: "rule" = `self._asdict()`, "user" = `config` (subscripting `None` raises),
"merged" = `_config`, i.e. the layers applied in order, the last layer holding the key wins -/
def lookup (layers : List String) (rule : String → Option PyVal) (user : Option (String → Option PyVal))
    (src key : String) : Option PyVal :=
  let layerGet := fun (l : String) =>
    if l = "rule" then rule key else if l = "user" then user.bind (fun u => u key) else none
  if src = "rule" then rule key
  else if src = "user" then user.bind (fun u => u key)
  else if src = "merged" then layers.reverse.findSome? layerGet
  else none

/-! ### `"%d%d" % key.v` -/

/-- printf with `%d` and `%%` only (anything else is outside the grammar); too few / too many arguments = TypeError -/
def printfGo : List Char → Bool → List Int → Option (List Char)
  | [], false, [] => some []
  | [], _, _ => none
  | c :: cs, false, args =>
      if c = '%' then printfGo cs true args else (printfGo cs false args).map (c :: ·)
  | c :: cs, true, args =>
      if c = 'd' then
        match args with
        | a :: rest => (printfGo cs false rest).map ((toString a).toList ++ ·)
        | [] => none
      else if c = '%' then (printfGo cs false args).map ('%' :: ·)
      else none

def printf (fmt : String) (args : List Int) : Option String :=
  (printfGo fmt.toList false args).map String.ofList

/-- `key.<attr>`: `.v` = the Voigt pair (KeyError = none), `.s` = the standard four indices -/
def keyAttr (attr : String) (key : Modulus) : Option (List Int) :=
  if attr = "v" then key.voigt.map fun p => [p.1, p.2]
  else if attr = "s" then some [key.standard.1, key.standard.2.1, key.standard.2.2.1, key.standard.2.2.2]
  else none

def evalFormatIj (P : Src) (key : Modulus) : Option String :=
  (keyAttr P.ijAttr key).bind (printf P.ijFormat)

/-! ### `write_variable` / `write_ij_variable` -/

variable {α : Type} [Mul α]

/-- `convert_unit(a₀, a₁)(x)`: positional binding to the parameters; the magnitude is given in `<convFrom>` and converted to
`<convTo>` -/
def convertCall (P : Src) (U : Units α) (args : List String) : Option α := do
  let env := P.convParams.zip args
  let a ← dictGet env P.convFrom
  let b ← dictGet env P.convTo
  U.conv a b

/-- interpreter of the statements the translator extracts from `write_variable` / `write_ij_variable` -/
def evalWrite (P : Src) (S : WriteMethodSpec) (U : Units α) (r : WriterRule) (b : Base α) (cfg : Option Config) :
    Option (List (Table α)) :=
  let user := cfg.map userGet
  let look := fun (p : String × String) => lookup S.layers (asdictGet P r) user p.1 p.2
  -- convert = convert_unit(<convertFrom>, <convertTo>)      (a lambda: pint is consulted when it is applied)
  match (look S.convertFrom).bind PyVal.asStr, (look S.convertTo).bind PyVal.asStr with
  | some u₀, some u₁ =>
    -- variable = getattr(base, self.<propField>)
    match ((tupleGet P r S.propField).bind PyVal.asStr).bind (dictGet b.props) with
    | none => none
    | some pv =>
      let fnameOf := fun (key : Option Modulus) =>
        if (look S.fnameTest).isSome then (look S.fnameRead).bind PyVal.asStr
        else
          match (tupleGet P r S.patternField).bind PyVal.asStr,
                optAll (S.formatKwargs.map fun kw =>
                  if kw.2 = "base._base_name" then some (kw.1, b.baseName)
                  else if kw.2 = "self._format_ij(key)" then (key.bind (evalFormatIj P)).map fun s => (kw.1, s)
                  else none) with
          | some pat, some env => format pat env
          | _, _ => none
      -- base.write_table(fname, convert(value))
      let call := fun (fname : String) (m : Matrix α) =>
        if S.tableArgs = ["fname", "convert(value)"] then
          (convertCall P U [u₀, u₁]).bind fun k => writeTable U b fname (scale k m)
        else none
      if S.perItem then
        match pv with
        | .items l => optAll (l.map fun kv => (fnameOf (some kv.1)).bind fun f => call f kv.2)
        | .value _ => none
      else
        match pv with
        | .value m => ((fnameOf none).bind fun f => call f m).map fun t => [t]
        | .items _ => none
  | _, _ => none

def canonValueSpec : WriteMethodSpec :=
  { layers := ["rule", "user"], convertFrom := ("merged", "unit_internal"), convertTo := ("merged", "unit"), propField := "prop",
    fnameTest := ("merged", "fname"), fnameRead := ("user", "fname"), patternField := "fname_pattern",
    formatKwargs := [("base", "base._base_name")], perItem := false, tableArgs := ["fname", "convert(value)"] }

def canonIjSpec : WriteMethodSpec :=
  { layers := ["rule", "user"], convertFrom := ("merged", "unit_internal"), convertTo := ("merged", "unit"), propField := "prop",
    fnameTest := ("merged", "fname"), fnameRead := ("user", "fname"), patternField := "fname_pattern",
    formatKwargs := [("base", "base._base_name"), ("ij", "self._format_ij(key)")], perItem := true,
    tableArgs := ["fname", "convert(value)"] }

theorem printf_dd (a b : Int) : printf "%d%d" [a, b] = some (toString a ++ toString b) := by
  have h : "%d%d".toList = ['%', 'd', '%', 'd'] := by decide
  simp [printf, h, printfGo, String.ofList_append]

theorem formatIj_canonical (key : Modulus) : evalFormatIj Src.canonical key = formatIj key := by
  unfold evalFormatIj formatIj keyAttr
  cases h : key.voigt with
  | none => simp [Src.canonical]
  | some p => simp [Src.canonical, printf_dd]

/- In the lemmas below every dict key is a literal, so both sides compute as soon as the user's optional field is
`none` or `some _`. -/

theorem tupleGet_prop (r : WriterRule) : tupleGet Src.canonical r "prop" = some (.str r.prop) := rfl

theorem tupleGet_fname_pattern (r : WriterRule) :
    tupleGet Src.canonical r "fname_pattern" = some (.str r.fnamePattern) := rfl

theorem tupleGet_keywords (r : WriterRule) : tupleGet Src.canonical r "keywords" = some (.strs r.keywords) := rfl

/-- the merged `_config`: the user's entry over the rule's own field -/
theorem lookup_unit (r : WriterRule) (cfg : Option Config) :
    (lookup ["rule", "user"] (asdictGet Src.canonical r) (cfg.map userGet) "merged" "unit").bind PyVal.asStr =
      some ((cfg.bind (·.unit)).getD r.unit) := by
  rcases cfg with _ | ⟨kw, fn, _ | u, ui⟩ <;> rfl

theorem lookup_unit_internal (r : WriterRule) (cfg : Option Config) :
    (lookup ["rule", "user"] (asdictGet Src.canonical r) (cfg.map userGet) "merged" "unit_internal").bind PyVal.asStr =
      some ((cfg.bind (·.unitInternal)).getD r.unitInternal) := by
  rcases cfg with _ | ⟨kw, fn, u, _ | ui⟩ <;> rfl

/-- `"fname" in _config` ⇔ the user's entry has it (no rule field is called `fname`) -/
theorem lookup_fname_test (r : WriterRule) (cfg : Option Config) :
    (lookup ["rule", "user"] (asdictGet Src.canonical r) (cfg.map userGet) "merged" "fname").isSome =
      (cfg.bind (·.fname)).isSome := by
  rcases cfg with _ | ⟨kw, _ | fn, u, ui⟩ <;> rfl

theorem lookup_fname_read (r : WriterRule) (cfg : Option Config) :
    (lookup ["rule", "user"] (asdictGet Src.canonical r) (cfg.map userGet) "user" "fname").bind PyVal.asStr =
      cfg.bind (·.fname) := by
  rcases cfg with _ | ⟨kw, _ | fn, u, ui⟩ <;> rfl

omit [Mul α] in
theorem convertCall_canonical (U : Units α) (u₀ u₁ : String) :
    convertCall Src.canonical U [u₀, u₁] = U.conv u₀ u₁ := by
  simp [convertCall, Src.canonical, dictGet]

/-- `write_variable`: the interpreter of the canonical statements is the model function -/
theorem evalWrite_value_canonical (U : Units α) (r : WriterRule) (b : Base α) (cfg : Option Config) :
    evalWrite Src.canonical canonValueSpec U r b cfg = writeVariable U r b cfg := by
  -- the model asks pint for the factor first, the interpreter (like the code) last: the two agree because every
  -- exception is the one outcome `none`
  unfold evalWrite writeVariable factorOf
  simp only [canonValueSpec, lookup_unit, lookup_unit_internal, lookup_fname_test, lookup_fname_read,
    tupleGet_prop, tupleGet_fname_pattern, convertCall_canonical, PyVal.asStr, Option.bind_some]
  cases hp : dictGet b.props r.prop with
  | none => cases U.conv ((cfg.bind (·.unitInternal)).getD r.unitInternal) ((cfg.bind (·.unit)).getD r.unit) <;> simp
  | some pv =>
    cases hk : U.conv ((cfg.bind (·.unitInternal)).getD r.unitInternal) ((cfg.bind (·.unit)).getD r.unit) with
    | none =>
      cases pv <;> cases cfg.bind (·.fname) <;> simp [valueFname, optAll]
    | some k =>
      cases pv with
      | items l => simp
      | value m =>
        cases hf : cfg.bind (·.fname) with
        | some f => simp; cases writeTable U b f (scale k m) <;> simp
        | none =>
          simp [valueFname, optAll]
          cases hfm : format r.fnamePattern [("base", b.baseName)] with
          | none => simp
          | some f => simp; cases writeTable U b f (scale k m) <;> simp

/-- `write_ij_variable`: the interpreter of the canonical statements is the model function -/
theorem evalWrite_ij_canonical (U : Units α) (r : WriterRule) (b : Base α) (cfg : Option Config) :
    evalWrite Src.canonical canonIjSpec U r b cfg = writeIjVariable U r b cfg := by
  unfold evalWrite writeIjVariable factorOf
  simp only [canonIjSpec, lookup_unit, lookup_unit_internal, lookup_fname_test, lookup_fname_read,
    tupleGet_prop, tupleGet_fname_pattern, convertCall_canonical, PyVal.asStr, Option.bind_some]
  cases hp : dictGet b.props r.prop with
  | none => simp
  | some pv =>
    cases pv with
    | value m => simp
    | items l =>
      simp only [if_true, Option.bind_eq_bind, Option.bind_some]
      congr 1
      apply List.map_congr_left
      intro kv _
      cases hf : cfg.bind (·.fname) with
      | some f => simp
      | none =>
        simp only [Option.isSome_none, Bool.false_eq_true, if_false, ijFname, formatIj_canonical, Option.bind_eq_bind]
        cases hij : formatIj kv.1 with
        | none => simp [optAll]
        | some ij =>
          simp [optAll]

/-! ### `ResultsWriterRule.write`: the dispatch table -/

/-- `self.<method>(base, config)` for the two methods the model mirrors; any other name is outside the model -/
def runMethod (name : String) (U : Units α) (r : WriterRule) (b : Base α) (cfg : Option Config) : Option (List (Table α)) :=
  if name = "write_variable" then writeVariable U r b cfg
  else if name = "write_ij_variable" then writeIjVariable U r b cfg
  else none

/-- the if/elif chain: the first entry whose type equals `self.var_type`; no entry = `raise NotImplementedError` -/
def evalDispatch (table : List (String × String)) (U : Units α) (r : WriterRule) (b : Base α) (cfg : Option Config) :
    Option (List (Table α)) :=
  match table.find? (fun e => e.1 == r.varType) with
  | some e => runMethod e.2 U r b cfg
  | none => none

def canonDispatch : List (String × String) := [("value", "write_variable"), ("ij_value", "write_ij_variable")]

theorem evalDispatch_canonical (U : Units α) (r : WriterRule) (b : Base α) (cfg : Option Config) :
    evalDispatch canonDispatch U r b cfg = writeRule U r b cfg := by
  unfold evalDispatch writeRule canonDispatch
  by_cases h1 : r.varType = "value"
  · simp [h1, runMethod]
  · by_cases h2 : r.varType = "ij_value"
    · simp [h2, runMethod]
    · have e1 : ¬ "value" = r.varType := fun e => h1 (Eq.symm e)
      have e2 : ¬ "ij_value" = r.varType := fun e => h2 (Eq.symm e)
      simp [h1, h2, e1, e2]

/-! ### `ResultsWriter._init_rules` and `ResultsWriter.write` -/

/-- `for keyword in rule.<field>`: a list of str is iterated; a str is iterated character by character; no such attribute raises -/
def keysOf (P : Src) (field : String) (r : WriterRule) : Option (List String) :=
  match tupleGet P r field with
  | some (.strs l) => some l
  | some (.str s) => some (s.toList.map fun c => String.singleton c)
  | none => none

/-- one registry entry per key of every rule, in file order; assignment to an existing key replaces the value -/
def evalRegistry (P : Src) (field : String) (rules : List WriterRule) : Option (List (String × WriterRule)) :=
  (optAll (rules.map fun r => (keysOf P field r).map fun ks => (r, ks))).map fun l =>
    l.foldl (fun reg e => e.2.foldl (fun reg k => dictSet reg k e.1) reg) []

theorem evalRegistry_canonical (rules : List WriterRule) :
    evalRegistry Src.canonical "keywords" rules = some (initRules rules) := by
  unfold evalRegistry initRules
  have h : (rules.map fun r => (keysOf Src.canonical "keywords" r).map fun ks => (r, ks)) =
      (rules.map fun r => (r, r.keywords)).map some := by
    simp [keysOf, tupleGet_keywords]
  rw [h, optAll_map_some]
  simp [List.foldl_map]

/-- an entry of the output list as Python sees it -/
inductive Request where
  | bare (s : String)
  | entry (c : Config)

/-- the `Config` the model works with (what `Ops/C15.lean` decodes) -/
def Request.config : Request → Config
  | .bare s => { keyword := s }
  | .entry c => c

/-- `if isinstance(config, str): config = {"<bareKey>": config}` -/
def requestGet (bareKey : String) (q : Request) (k : String) : Option PyVal :=
  match q with
  | .bare s => if k = bareKey then some (.str s) else none
  | .entry c => userGet c k

/-- `self.registry[config["<dispatchKey>"]].write(self.base, config)` -/
def evalWriterWrite (bareKey dispatchKey : String) (rules : List WriterRule) (U : Units α) (b : Base α) (q : Request) :
    Option (List (Table α)) :=
  match (requestGet bareKey q dispatchKey).bind PyVal.asStr with
  | none => none
  | some kw => (resolveIn rules kw).bind fun r => writeRule U r b (some q.config)

theorem evalWriterWrite_canonical (rules : List WriterRule) (U : Units α) (b : Base α) (q : Request) :
    evalWriterWrite "keyword" "keyword" rules U b q = writeKeywordIn rules U b q.config := by
  cases q <;> simp [evalWriterWrite, requestGet, userGet, PyVal.asStr, writeKeywordIn, Request.config]

/-- the wrapped dict of a bare string has none of the keys `write_variable` reads from the user's entry -/
theorem requestGet_bare (s k : String) (hk : k ≠ "keyword") :
    requestGet "keyword" (.bare s) k = none ∧ userGet { keyword := s } k = none := by
  simp [requestGet, userGet, hk]

/-! ### `write_table` of the two interface classes -/

def applyConv (U : Units α) (name : String) : Option (List α → List α) :=
  if name = "" then some id
  else if name = "_to_gpa" then some (List.map fun x => x * U.toGPa)
  else if name = "_to_ang3" then some (List.map fun x => x * U.toAng3)
  else none

/-- `self.<array>` of the base the method is bound to (`p_array` exists on the pressure base, `v_array` on the volume base) -/
def arraySrc (b : Base α) (e : String) : Option (List α) :=
  if e = "self.t_array" then some b.tArray
  else if e = "self.p_array" then (if b.pressureBase then some b.axis else none)
  else if e = "self.v_array" then (if b.pressureBase then none else some b.axis)
  else none

def evalArg (U : Units α) (b : Base α) (a : String × String) : Option (List α) :=
  match applyConv U a.1, arraySrc b a.2 with
  | some f, some x => some (f x)
  | _, _ => none

/-- qha.basic_io.out (external, contract): `save_x_tv(x, t, volume_grid, t_sample, outfile_name)` and
`save_x_tp(df, t, desired_pressures_gpa, p_sample_gpa, outfile_name)` build `DataFrame(x, index=t, columns=grid).iloc[:-4, :]`;
`save_x_tv` then keeps the rows whose label is in `t_sample[:-4]`, `save_x_tp` the columns whose label is in `p_sample_gpa`.
The filter is interpreted only where it keeps everything: the sample argument is the very expression of the filtered labels. -/
def evalWriteTable (W : TableWiring) (U : Units α) (b : Base α) (fname : String) (value : Matrix α) : Option (Table α) :=
  match W.args with
  | [x, t, grid, sample, out] =>
    if x = ("", "value") ∧ out = ("", "fname") then
      match (if W.saver = "save_x_tv" then some ("T(K)\\V(A^3)", t)
             else if W.saver = "save_x_tp" then some ("T(K)\\P(GPa)", grid) else none) with
      | none => none
      | some cf =>
        if sample = cf.2 then
          match evalArg U b t, evalArg U b grid with
          | some rows, some cols =>
            if value.length == rows.length && value.all (fun row => row.length == cols.length) then
              some { fname := fname, corner := cf.1, rows := dropLast4 rows, cols := cols, vals := dropLast4 value }
            else none
          | _, _ => none
        else none
    else none
  | _ => none

def canonVolumeTable : TableWiring :=
  { saver := "save_x_tv",
    args := [("", "value"), ("", "self.t_array"), ("_to_ang3", "self.v_array"), ("", "self.t_array"), ("", "fname")] }

def canonPressureTable : TableWiring :=
  { saver := "save_x_tp",
    args := [("", "value"), ("", "self.t_array"), ("_to_gpa", "self.p_array"), ("_to_gpa", "self.p_array"), ("", "fname")] }

theorem evalWriteTable_canonical (U : Units α) (b : Base α) (fname : String) (value : Matrix α) :
    evalWriteTable (if b.pressureBase then canonPressureTable else canonVolumeTable) U b fname value =
      writeTable U b fname value := by
  unfold evalWriteTable writeTable
  cases hb : b.pressureBase <;>
    simp [canonPressureTable, canonVolumeTable, evalArg, applyConv, arraySrc, hb]

/-! ### `write_variables` and `Calculator.write_output` -/

/-- `writer = ResultsWriter(<ctorArgs>)` bound positionally to `(base, rules=None)`: the writer serves the base the method was
called on, with the packaged rules, and is built anew on every call; then one `writer.write(c)` per entry, in order -/
def evalWriteVariables (S : WriteVariablesSpec) (ctorParams : List String) (U : Units α) (b : Base α) (cfgs : List Config) :
    Option (List (Table α)) :=
  let env := ctorParams.zip S.ctorArgs
  if dictGet env "base" = some "self" ∧ dictGet env "rules" = none ∧ S.loopOver = "variables" then
    (optAll (cfgs.map (writeKeywordIn Generated.writerRules U b))).map List.flatten
  else none

def canonWriteVariables : WriteVariablesSpec := { ctorArgs := ["self"], loopOver := "variables" }

theorem evalWriteVariables_canonical (U : Units α) (b : Base α) (cfgs : List Config) :
    evalWriteVariables canonWriteVariables ["base", "rules"] U b cfgs = writeVariables U b cfgs := by
  simp [evalWriteVariables, canonWriteVariables, dictGet, writeVariables]
  rfl

/-- `if "<key>" in output_config.keys(): self.<view>.write_variables(output_config["<listKey>"])`, step by step -/
def evalWriteOutput (steps : List (String × String × String)) (views : List (String × String)) (U : Units α)
    (pb vb : Base α) (lists : String → Option (List Config)) : Option (List (Table α)) :=
  (optAll (steps.map fun st =>
    match lists st.1 with
    | none => some []
    | some _ =>
      match dictGet views st.2.1, lists st.2.2 with
      | some cls, some l =>
        if cls = "CijPressureBaseInterface" then writeVariables U pb l
        else if cls = "CijVolumeBaseInterface" then writeVariables U vb l
        else none
      | _, _ => none)).map List.flatten

def canonSteps : List (String × String × String) :=
  [("pressure_base", "pressure_base", "pressure_base"), ("volume_base", "volume_base", "volume_base")]

def canonViews : List (String × String) :=
  [("volume_base", "CijVolumeBaseInterface"), ("pressure_base", "CijPressureBaseInterface")]

/-- the `output` section as far as `write_output` reads it -/
def outputLists (pcfg vcfg : Option (List Config)) (k : String) : Option (List Config) :=
  if k = "pressure_base" then pcfg else if k = "volume_base" then vcfg else none

theorem evalWriteOutput_canonical (U : Units α) (pb vb : Base α) (pcfg vcfg : Option (List Config)) :
    evalWriteOutput canonSteps canonViews U pb vb (outputLists pcfg vcfg) = writeOutput U pb vb pcfg vcfg := by
  unfold writeOutput
  rcases pcfg with _ | p <;> rcases vcfg with _ | v
  · rfl
  · change (optAll [some [], writeVariables U vb v]).map List.flatten = _
    cases h : writeVariables U vb v <;> simp [optAll, h]
  · change (optAll [writeVariables U pb p, some []]).map List.flatten = _
    cases h : writeVariables U pb p <;> simp [optAll, h]
  · change (optAll [writeVariables U pb p, writeVariables U vb v]).map List.flatten = _
    cases hp : writeVariables U pb p <;> cases hv : writeVariables U vb v <;> simp [optAll, hp, hv]

end Cij.Writer.Source
