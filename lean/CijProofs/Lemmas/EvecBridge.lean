/-
  Bridge for C20: the model's complex numbers (pairs `Cx ℝ`) and vectors (lists of
  pairs) as Mathlib's `ℂ` and `EuclideanSpace ℂ (Fin n)`;  `overlap b t` — one entry of `numpy.conj(base) @ target.T`
  — IS Mathlib's `inner ℂ b t` (conjugate-linear in the FIRST argument, as in the Python), `Cx.abs` is the norm; the
  magnitude matrix inside `Evec.evecSort` entry by entry; `evecSort` on a matrix with a planted permutation.
-/
import CijProofs.Lemmas.Evec
import Mathlib.Analysis.InnerProductSpace.PiL2

set_option linter.unusedSectionVars false

namespace Cij.Evec
open ComplexConjugate

/-! ### pairs ↦ ℂ -/

/-- the complex number a model pair stands for -/
def Cx.toC (z : Cx ℝ) : ℂ := ⟨z.re, z.im⟩

@[simp] theorem toC_zero : Cx.toC Cx.zero = 0 := by
  apply Complex.ext <;> simp [Cx.toC, Cx.zero]

theorem toC_add (x y : Cx ℝ) : Cx.toC (Cx.add x y) = Cx.toC x + Cx.toC y := by
  apply Complex.ext <;> simp [Cx.toC, Cx.add]

theorem toC_mul (x y : Cx ℝ) : Cx.toC (Cx.mul x y) = Cx.toC x * Cx.toC y := by
  apply Complex.ext <;> simp [Cx.toC, Cx.mul]

theorem toC_conj (x : Cx ℝ) : Cx.toC (Cx.conj x) = conj (Cx.toC x) := by
  apply Complex.ext <;> simp [Cx.toC, Cx.conj]

theorem toC_injective : Function.Injective Cx.toC := by
  intro x y h
  have h1 := congrArg Complex.re h
  have h2 := congrArg Complex.im h
  exact cx_ext h1 h2

/-- `numpy.abs` on a pair is the complex norm -/
theorem abs_eq_norm (z : Cx ℝ) : Cx.abs z = ‖Cx.toC z‖ := by
  rw [Complex.norm_def, Complex.normSq_apply]; rfl

theorem normSq_eq_norm_sq (z : Cx ℝ) : Cx.normSq z = ‖Cx.toC z‖ ^ 2 := by
  rw [Complex.sq_norm, Complex.normSq_apply]; rfl

/-! ### lists of pairs ↦ ℂⁿ -/

/-- a model vector (list of pairs; a missing entry is 0) as a vector of the Euclidean space `ℂⁿ` -/
noncomputable def toVec (n : ℕ) (v : List (Cx ℝ)) : EuclideanSpace ℂ (Fin n) :=
  WithLp.toLp 2 fun k => Cx.toC (v.getD k Cx.zero)

@[simp] theorem toVec_apply (n : ℕ) (v : List (Cx ℝ)) (k : Fin n) : (toVec n v).ofLp k = Cx.toC (v.getD k Cx.zero) := rfl

theorem toC_foldl (l : List (Cx ℝ × Cx ℝ)) (acc : Cx ℝ) :
    Cx.toC (l.foldl (fun acc p => Cx.add acc (Cx.mul (Cx.conj p.1) p.2)) acc)
      = Cx.toC acc + (l.map fun p => conj (Cx.toC p.1) * Cx.toC p.2).sum := by
  induction l generalizing acc with
  | nil => simp
  | cons p l ih =>
    simp only [List.foldl_cons, ih, List.map_cons, List.sum_cons, toC_add, toC_mul, toC_conj]
    ring

/-- `overlap b t = Σ_k conj(b_k) · t_k` in ℂ -/
theorem toC_overlap (b t : List (Cx ℝ)) :
    Cx.toC (overlap b t) = ((b.zip t).map fun p => conj (Cx.toC p.1) * Cx.toC p.2).sum := by
  unfold overlap
  rw [toC_foldl]; simp

theorem zip_sum_eq_finsum : ∀ (n : ℕ) (b t : List (Cx ℝ)), b.length = n → t.length = n →
    ((b.zip t).map fun p => conj (Cx.toC p.1) * Cx.toC p.2).sum
      = ∑ k : Fin n, conj (Cx.toC (b.getD k Cx.zero)) * Cx.toC (t.getD k Cx.zero) := by
  intro n
  induction n with
  | zero =>
    intro b t hb ht
    have : b = [] := List.length_eq_zero_iff.mp hb
    subst this; simp
  | succ n ih =>
    intro b t hb ht
    cases b with
    | nil => simp at hb
    | cons x b =>
      cases t with
      | nil => simp at ht
      | cons y t =>
        rw [Fin.sum_univ_succ]
        simp only [List.zip_cons_cons, List.map_cons, List.sum_cons, Fin.val_zero, Fin.val_succ,
          List.getD_cons_zero, List.getD_cons_succ]
        rw [ih b t (by simpa using hb) (by simpa using ht)]

/-- **the bridge**: the model's overlap of two `n`-vectors is Mathlib's inner product of the corresponding vectors of
    `EuclideanSpace ℂ (Fin n)` — the FIRST argument (the base vector) is the conjugated one, as in
    `numpy.conj(base) @ target.T` -/
theorem toC_overlap_eq_inner (n : ℕ) (b t : List (Cx ℝ)) (hb : b.length = n) (ht : t.length = n) :
    Cx.toC (overlap b t) = inner ℂ (toVec n b) (toVec n t) := by
  rw [toC_overlap, zip_sum_eq_finsum n b t hb ht, PiLp.inner_apply]
  apply Finset.sum_congr rfl
  intro k _
  rw [RCLike.inner_apply, toVec_apply, toVec_apply, mul_comm]

/-- … hence the entry of the magnitude matrix is the norm of the inner product -/
theorem abs_overlap_eq_norm_inner (n : ℕ) (b t : List (Cx ℝ)) (hb : b.length = n) (ht : t.length = n) :
    Cx.abs (overlap b t) = ‖inner ℂ (toVec n b) (toVec n t)‖ := by
  rw [abs_eq_norm, toC_overlap_eq_inner n b t hb ht]

/-- `‖v‖² = Σ |v_k|²` -/
theorem norm_toVec_sq (n : ℕ) (v : List (Cx ℝ)) (hv : v.length = n) : ‖toVec n v‖ ^ 2 = sumNormSq v := by
  have h := toC_overlap_eq_inner n v v hv hv
  rw [overlap_self] at h
  rw [norm_sq_eq_re_inner (𝕜 := ℂ) (toVec n v), ← h]
  simp [Cx.toC]

theorem getD_zipWith {β γ δ : Type} (f : β → γ → δ) (l1 : List β) (l2 : List γ) (k : ℕ) (d1 : β) (d2 : γ) (d : δ)
    (h1 : k < l1.length) (h2 : k < l2.length) :
    (List.zipWith f l1 l2).getD k d = f (l1.getD k d1) (l2.getD k d2) := by
  simp [List.getD_eq_getElem?_getD, List.getElem?_zipWith, List.getElem?_eq_getElem h1, List.getElem?_eq_getElem h2]

/-- `c • b + δ`, component by component on pairs, is `c • b + δ` in `ℂⁿ` -/
theorem toVec_combination (n : ℕ) (c : Cx ℝ) (b d : List (Cx ℝ)) (hb : b.length = n) (hd : d.length = n) :
    toVec n (List.zipWith (fun bk dk => Cx.add (Cx.mul c bk) dk) b d) = Cx.toC c • toVec n b + toVec n d := by
  apply PiLp.ext
  intro k
  have hk1 : (k : ℕ) < b.length := hb ▸ k.isLt
  have hk2 : (k : ℕ) < d.length := hd ▸ k.isLt
  simp only [PiLp.add_apply, PiLp.smul_apply, toVec_apply, smul_eq_mul]
  rw [getD_zipWith _ b d k Cx.zero Cx.zero Cx.zero hk1 hk2, toC_add, toC_mul]

/-! ### the matrix inside `evecSort` -/

section run
variable {ι : Type}

/-- the magnitude matrix `numpy.abs(numpy.conj(base) @ target.T)` as `evecSort` builds it (0 outside the arrays) -/
noncomputable def magMat (T B : List (List (Cx ℝ))) : ℕ → ℕ → ℝ := fun i j =>
  (((B.toArray.map fun b => T.toArray.map fun t => Cx.abs (overlap b t))[i]?).bind (·[j]?)).getD 0

theorem evecSort_eq (items : List ι) (T B : List (List (Cx ℝ))) (hd : dimsOk items.length T B = true) :
    evecSort items T B =
      some ((evecSortRun items.length (magMat T B) (fun j => items[j]?)).map fun o => o.bind id) := by
  unfold evecSort magMat
  simp [hd]

theorem magMat_apply (T B : List (List (Cx ℝ))) (i j : ℕ) (hi : i < B.length) (hj : j < T.length) :
    magMat T B i j = Cx.abs (overlap B[i] T[j]) := by
  unfold magMat
  simp [hi, hj]

/-- `Planted` only looks at the entries with both indices below `n` -/
theorem Planted.congr {α : Type} [LinearOrder α] [Zero α] {n : ℕ} {a a' : ℕ → ℕ → α} {π : ℕ → ℕ}
    (h : Planted n a' π) (heq : ∀ i < n, ∀ j < n, a i j = a' i j) : Planted n a π := by
  refine ⟨h.range, h.inj, ?_, ?_⟩
  · intro i hi; rw [heq i hi _ (h.range i hi)]; exact h.pos i hi
  · intro i hi j hj hne
    rw [heq i hi j hj, heq i hi _ (h.range i hi)]; exact h.row i hi j hj hne

/-- a map of `{0,…,n-1}` into itself that is injective there lists a permutation of `range n` -/
theorem map_perm_range (n : ℕ) (π : ℕ → ℕ) (hrange : ∀ i < n, π i < n)
    (hinj : ∀ i < n, ∀ j < n, π i = π j → i = j) : ((List.range n).map π).Perm (List.range n) := by
  have hnd : ((List.range n).map π).Nodup := by
    rw [List.nodup_map_iff_inj_on List.nodup_range]
    intro i hi j hj h
    exact hinj i (List.mem_range.mp hi) j (List.mem_range.mp hj) h
  have hsub : (List.range n).map π ⊆ List.range n := by
    intro y hy
    obtain ⟨i, hi, rfl⟩ := List.mem_map.mp hy
    exact List.mem_range.mpr (hrange i (List.mem_range.mp hi))
  exact (List.subperm_of_subset hnd hsub).perm_of_length_le (by simp)

/-- `evecSort` itself on vectors whose magnitude matrix has the planted permutation `π`: position `i` gets
    `items[π i]`, and the result is a permutation of the items -/
theorem evecSort_planted (items : List ι) (T B : List (List (Cx ℝ))) (π : ℕ → ℕ)
    (hd : dimsOk items.length T B = true) (hP : Planted items.length (magMat T B) π) :
    evecSort items T B = some ((List.range items.length).map fun i => items[π i]?) ∧
    ((List.range items.length).map fun i => items[π i]?).Perm (items.map some) := by
  constructor
  · rw [evecSort_eq items T B hd, evecSortRun_eq, List.map_map]
    congr 1
    apply List.map_congr_left
    intro i hi
    have h := evecSortMag_planted items.length (magMat T B) π hP (fun j => items[j]?) i (List.mem_range.mp hi)
    simp only [Function.comp, h, Option.bind_some, id]
  · have h1 : ((List.range items.length).map fun i => items[π i]?) =
        ((List.range items.length).map π).map fun j => items[j]? := by rw [List.map_map]; rfl
    have h2 : items.map some = (List.range items.length).map fun j => items[j]? := by
      apply List.ext_getElem (by simp)
      intro k hk1 hk2
      simp at hk1
      simp [hk1]
    rw [h1, h2]
    exact (map_perm_range items.length π hP.range hP.inj).map _

theorem dimsOk_iff {β : Type} (n : ℕ) (T B : List (List β)) :
    dimsOk n T B = true ↔ T.length = n ∧ B.length = n ∧ ∀ v ∈ T ++ B, v.length = n := by
  unfold dimsOk
  simp only [List.all_cons, List.all_map, Bool.and_eq_true, beq_iff_eq, List.all_eq_true, Function.comp]

end run

end Cij.Evec
