/- Exact polynomial least squares (`CijModel/LeastSq.lean`) for C05, C13 and C18: list sums as `List.sum`, `polyval` as a polynomial
function of degree below the list's length, and the normal equations as orthogonality of the residual, which makes their solution
the minimiser. -/
import CijModel.LeastSq
import CijProofs.Lemmas.V2P
import Mathlib.Algebra.Order.BigOperators.Group.List
import Mathlib.Algebra.BigOperators.Group.Finset.Basic
import Mathlib.Algebra.BigOperators.Ring.List
import Mathlib.Algebra.BigOperators.Ring.Finset
import Mathlib.Algebra.Order.Field.Basic
import Mathlib.Tactic.Ring
import Mathlib.Tactic.Linarith
import Mathlib.Tactic.Positivity

namespace Cij.LeastSq

open Finset

section Basic
variable {α : Type} [Field α]

theorem sumL_eq_sum (l : List α) : sumL l = l.sum := by
  induction l with
  | nil => rfl
  | cons a t ih => simp [sumL, ih]

theorem powN_eq (x : α) (n : Nat) : powN x n = x ^ n := by
  induction n with
  | zero => simp [powN]
  | succ n ih => simp [powN, ih, pow_succ']

theorem zipWith_eq_map_zip {β γ δ : Type} (f : β → γ → δ) (xs : List β) (ys : List γ) :
    List.zipWith f xs ys = (xs.zip ys).map fun p => f p.1 p.2 :=
  (List.map_zip_eq_zipWith (f := fun p => f p.1 p.2)).symm

theorem polyval_nil (x : α) : polyval ([] : List α) x = 0 := rfl

theorem polyval_append (p : List α) (c x : α) : polyval (p ++ [c]) x = polyval p x * x + c := by
  simp [polyval, List.foldl_append]

/-- functions that are polynomials of degree < n -/
def IsPolyLT (n : Nat) (g : α → α) : Prop := ∃ a : ℕ → α, ∀ x, g x = ∑ j ∈ range n, a j * x ^ j

theorem isPolyLT_polyval (p : List α) : IsPolyLT p.length (polyval p) := by
  induction p using List.reverseRecOn with
  | nil => exact ⟨fun _ => 0, fun x => by simp [polyval_nil]⟩
  | append_singleton p c ih =>
    obtain ⟨a, ha⟩ := ih
    refine ⟨fun j => if j = 0 then c else a (j - 1), fun x => ?_⟩
    rw [polyval_append, ha x, List.length_append, List.length_singleton, sum_range_succ', Finset.sum_mul]
    simp only [Nat.add_eq_zero_iff, one_ne_zero, and_false, if_false, Nat.add_sub_cancel, if_true, pow_zero, mul_one]
    congr 1
    apply sum_congr rfl
    intro j _
    ring

theorem IsPolyLT.mono {n m : Nat} {g : α → α} (h : IsPolyLT n g) (hnm : n ≤ m) : IsPolyLT m g := by
  obtain ⟨a, ha⟩ := h
  refine ⟨fun j => if j < n then a j else 0, fun x => ?_⟩
  rw [ha x]
  obtain ⟨k, rfl⟩ := Nat.exists_eq_add_of_le hnm
  clear hnm
  induction k with
  | zero =>
    apply sum_congr rfl
    intro j hj
    simp [mem_range.mp hj]
  | succ k ih =>
    rw [← Nat.add_assoc, sum_range_succ, ← ih]
    simp

theorem IsPolyLT.sub {n : Nat} {g h : α → α} (hg : IsPolyLT n g) (hh : IsPolyLT n h) :
    IsPolyLT n (fun x => g x - h x) := by
  obtain ⟨a, ha⟩ := hg
  obtain ⟨b, hb⟩ := hh
  refine ⟨fun j => a j - b j, fun x => ?_⟩
  show g x - h x = _
  rw [ha x, hb x, ← sum_sub_distrib]
  apply sum_congr rfl
  intro j _
  ring

theorem polyval_cubic (a b c d x : α) : polyval [d, c, b, a] x = a + b * x + c * x ^ 2 + d * x ^ 3 := by
  simp [polyval]; ring

theorem IsPolyLT.eq_zero_of_four_roots {g : α → α} (hg : IsPolyLT 4 g) (x0 x1 x2 x3 : α)
    (h01 : x0 ≠ x1) (h02 : x0 ≠ x2) (h03 : x0 ≠ x3) (h12 : x1 ≠ x2) (h13 : x1 ≠ x3) (h23 : x2 ≠ x3)
    (r0 : g x0 = 0) (r1 : g x1 = 0) (r2 : g x2 = 0) (r3 : g x3 = 0) (x : α) : g x = 0 := by
  obtain ⟨a, ha⟩ := hg
  have hform : ∀ y, g y = a 0 + a 1 * y + a 2 * y ^ 2 + a 3 * y ^ 3 := by
    intro y; rw [ha y]; simp [sum_range_succ]
  have h := Cij.V2P.lagrange4_cubic (a 0) (a 1) (a 2) (a 3) x x0 x1 x2 x3 h01 h02 h03 h12 h13 h23
  rw [← hform x0, ← hform x1, ← hform x2, ← hform x3, ← hform x, r0, r1, r2, r3] at h
  rw [← h]
  simp [Cij.V2P.lagrange4]

end Basic

section Orth
variable {α : Type} [Field α]

/-- orthogonality to the monomials lifts to every polynomial of degree < n -/
theorem sum_poly_mul_eq_zero {ι : Type} (pts : List ι) (X r : ι → α) (a : ℕ → α) (n : Nat)
    (h : ∀ j < n, (pts.map fun p => X p ^ j * r p).sum = 0) :
    (pts.map fun p => (∑ j ∈ range n, a j * X p ^ j) * r p).sum = 0 := by
  induction n with
  | zero => simp
  | succ n ih =>
    have e : (fun p => (∑ j ∈ range (n + 1), a j * X p ^ j) * r p)
        = fun p => (∑ j ∈ range n, a j * X p ^ j) * r p + a n * (X p ^ n * r p) := by
      funext p; rw [sum_range_succ]; ring
    rw [e, List.sum_map_add, ih (fun j hj => h j (Nat.lt_succ_of_lt hj)), List.sum_map_mul_left,
      h n (Nat.lt_succ_self n)]
    simp

end Orth

section Ordered
variable {α : Type} [Field α] [LinearOrder α] [IsStrictOrderedRing α]

/-- the core of least squares: if the residual `r` of `f` is orthogonal to `e = g - f`, then `f` is at least as good as `g`
    (whose residual is `s = r + e`) -/
theorem sum_sq_le_of_orthogonal {ι : Type} (pts : List ι) (r s e : ι → α) (hs : ∀ p, s p = r p + e p)
    (h : (pts.map fun p => e p * r p).sum = 0) :
    (pts.map fun p => r p * r p).sum ≤ (pts.map fun p => s p * s p).sum := by
  have e1 : (fun p => s p * s p) = fun p => (r p * r p + e p * e p) + 2 * (e p * r p) := by
    funext p; rw [hs]; ring
  rw [e1, List.sum_map_add, List.sum_map_add, List.sum_map_mul_left, h]
  have : 0 ≤ (pts.map fun p => e p * e p).sum := by
    apply List.sum_nonneg
    intro x hx
    obtain ⟨p, _, rfl⟩ := List.mem_map.mp hx
    exact mul_self_nonneg _
  linarith

theorem sum_sq_eq_zero {ι : Type} (pts : List ι) (r : ι → α)
    (h : (pts.map fun p => r p * r p).sum = 0) : ∀ p ∈ pts, r p = 0 := fun p hp =>
  mul_self_eq_zero.mp <| List.all_zero_of_le_zero_le_of_sum_eq_zero
    (fun x hx => by
      obtain ⟨q, _, rfl⟩ := List.mem_map.mp hx
      exact mul_self_nonneg _)
    h (List.mem_map_of_mem (f := fun p => r p * r p) hp)

theorem sqResidual_nonneg (xs ys p : List α) : 0 ≤ sqResidual xs ys p := by
  unfold sqResidual
  rw [sumL_eq_sum]
  apply List.sum_nonneg
  intro x hx
  rw [zipWith_eq_map_zip] at hx
  obtain ⟨q, _, rfl⟩ := List.mem_map.mp hx
  exact mul_self_nonneg _

omit [IsStrictOrderedRing α] in
theorem normalEqHolds_spec (xs ys : List α) (deg : Nat) (p : List α) (h : normalEqHolds xs ys deg p = true) :
    p.length = deg + 1 ∧ ∀ j < deg + 1, normalResidual xs ys p j = 0 := by
  unfold normalEqHolds at h
  simp only [Bool.and_eq_true, beq_iff_eq, List.all_eq_true, List.mem_range] at h
  exact h

omit [IsStrictOrderedRing α] in
theorem polyfit_spec (xs ys : List α) (deg : Nat) (p : List α) (h : polyfit xs ys deg = some p) :
    xs.length = ys.length ∧ p.length = deg + 1 ∧ ∀ j < deg + 1, normalResidual xs ys p j = 0 := by
  unfold polyfit at h
  split_ifs at h with h1
  simp only at h
  split_ifs at h with h2
  simp only [Option.some.injEq] at h
  subst h
  refine ⟨?_, normalEqHolds_spec xs ys deg _ h2⟩
  simpa using h1

/-- normal equations ⇒ minimal sum of squared residuals among all polynomials of degree ≤ deg -/
theorem normalEq_minimises (xs ys : List α) (deg : Nat) (p : List α) (hlen : p.length ≤ deg + 1)
    (hn : ∀ j < deg + 1, normalResidual xs ys p j = 0)
    (p' : List α) (hlen' : p'.length ≤ deg + 1) :
    sqResidual xs ys p ≤ sqResidual xs ys p' := by
  unfold sqResidual
  rw [sumL_eq_sum, sumL_eq_sum, zipWith_eq_map_zip, zipWith_eq_map_zip]
  obtain ⟨a, ha⟩ : IsPolyLT (deg + 1) (fun x => polyval p' x - polyval p x) :=
    ((isPolyLT_polyval p').mono hlen').sub ((isPolyLT_polyval p).mono hlen)
  have horth : ((xs.zip ys).map fun q => (polyval p' q.1 - polyval p q.1) * (polyval p q.1 - q.2)).sum = 0 := by
    simp only [ha]
    apply sum_poly_mul_eq_zero
    intro j hj
    have := hn j hj
    unfold normalResidual at this
    rw [sumL_eq_sum, zipWith_eq_map_zip] at this
    simpa [powN_eq] using this
  exact sum_sq_le_of_orthogonal (xs.zip ys) (fun q => polyval p q.1 - q.2) (fun q => polyval p' q.1 - q.2)
    (fun q => polyval p' q.1 - polyval p q.1) (fun q => by ring) horth

end Ordered

end Cij.LeastSq
