/-
  The eigenvector-tool model (`CijModel/Evec.lean`) IS what `cij/misc/evec_sort.py`, `evec_disp2eig.py`, `evec_load.py` say:
  `tools/gens/evec_src.py` extracts set construction, tests, matrix expressions, loop statements, regex literals, column slices,
  converters and step lists as DATA (`Generated/EvecSpec.lean`); `CijModel/EvecSrc.lean` gives that data its Python/numpy meaning
  (interpreters `runSort`, `runDisp`, `Rx.run`, `evecLoadS`); here: on the generated data the interpreters are the hand-written model
  functions, for all inputs.
-/
import CijModel.EvecSrc
import Generated.EvecSpec
import CijProofs.Lemmas.Evec

set_option linter.unusedSectionVars false
set_option linter.unusedVariables false
set_option linter.unusedSimpArgs false

namespace Cij.EvecSrc
open Cij.Evec

/-! ### the dimension test of `evec_sort` -/

theorem mem_distinct (l : List Nat) (x : Nat) : x ∈ distinct l ↔ x ∈ l := by
  induction l with
  | nil => simp [distinct]
  | cons y r ih =>
    simp only [distinct, List.mem_cons, List.mem_filter, ih, bne_iff_ne, ne_eq]
    by_cases h : x = y <;> simp [h]

/-- the set of lengths has exactly one member and that member is `n`  ⇔  the list is non-empty and constant `n` -/
theorem distinct_length_eq_one (l : List Nat) (n : Nat) :
    ((distinct l).length = 1 ∧ n ∈ l) ↔ (l ≠ [] ∧ ∀ x ∈ l, x = n) := by
  cases l with
  | nil => simp [distinct]
  | cons y r =>
    have hlen : (distinct (y :: r)).length = 1 ↔ ∀ x ∈ r, x = y := by
      simp only [distinct, List.length_cons, Nat.add_eq_right, List.length_eq_zero_iff, List.filter_eq_nil_iff,
        bne_iff_ne, ne_eq, Decidable.not_not]
      constructor
      · intro h x hx; exact h x ((mem_distinct r x).2 hx)
      · intro h x hx; exact h x ((mem_distinct r x).1 hx)
    rw [hlen]
    constructor
    · rintro ⟨h1, h2⟩
      refine ⟨by simp, ?_⟩
      have hn : n = y := by
        rcases List.mem_cons.mp h2 with h | h
        · exact h
        · exact h1 n h
      intro x hx
      rcases List.mem_cons.mp hx with h | h
      · rw [h, hn]
      · rw [h1 x h, hn]
    · rintro ⟨_, h⟩
      have hy : y = n := h y (by simp)
      refine ⟨fun x hx => by rw [h x (by simp [hx]), hy], by simp [hy]⟩

/-- `len(s) != 1 or n not in s` on a non-empty display  =  "not every length is n" -/
theorem reject_iff_not_all (l : List Nat) (n : Nat) (hl : l ≠ []) :
    ((distinct l).length != 1 || !l.contains n) = !(l.all (· == n)) := by
  have h := distinct_length_eq_one l n
  by_cases hall : ∀ x ∈ l, x = n
  · obtain ⟨h1, h2⟩ := h.2 ⟨hl, hall⟩
    have : l.all (· == n) = true := by simpa using hall
    simp [h1, h2, this]
  · have hnot : ¬ ((distinct l).length = 1 ∧ n ∈ l) := fun hc => hall (h.1 hc).2
    have : l.all (· == n) = false := by
      rw [Bool.eq_false_iff]; intro hc; exact hall (by simpa using hc)
    rw [this]
    by_cases h1 : (distinct l).length = 1
    · have h2 : n ∉ l := fun hc => hnot ⟨h1, hc⟩
      simp [h1, h2]
    · simp [h1]

/-- The extracted set display and rejection test, with their Python meaning, reject exactly when the model's
`dimsOk` is false — for all vector lists (all length vectors) and every `ndim`. -/
theorem sort_dim_test_is_model {β : Type} (ndim : Nat) (T B : List (List β)) :
    Generated.sortSpec.dimReject.eval ndim (Generated.sortSpec.dimSet.flatMap (SetElem.eval T B)) = !dimsOk ndim T B := by
  have h := reject_iff_not_all (T.length :: B.length :: (T ++ B).map List.length) ndim (by simp)
  simp only [Generated.sortSpec, List.flatMap_cons, List.flatMap_nil, SetElem.eval, SeqE.eval, BoolE.eval, IntE.eval,
    List.append_nil, List.cons_append, List.nil_append, dimsOk]
  simpa using h

/-! ### matrix expressions -/

section mat
variable {ρ : Type} [Add ρ] [Sub ρ] [Mul ρ] [Div ρ] [Neg ρ] [OfNat ρ 0] [HasSqrt ρ]

theorem foldl_range_zip {γ : Type} (g : γ → Cx ρ → Cx ρ → γ) :
    ∀ (n : Nat) (b t : List (Cx ρ)) (z : γ), b.length = n → t.length = n →
      (List.range n).foldl (fun acc k => g acc (b[k]?.getD Cx.zero) (t[k]?.getD Cx.zero)) z
        = (b.zip t).foldl (fun acc p => g acc p.1 p.2) z := by
  intro n
  induction n with
  | zero =>
    intro b t z hb ht
    rw [List.length_eq_zero_iff.mp hb]; simp
  | succ n ih =>
    intro b t z hb ht
    obtain ⟨x, b', rfl⟩ := List.exists_cons_of_length_eq_add_one hb
    obtain ⟨y, t', rfl⟩ := List.exists_cons_of_length_eq_add_one ht
    rw [List.range_succ_eq_map, List.foldl_cons, List.foldl_map]
    simp only [List.getElem?_cons_zero, Option.getD_some, List.getElem?_cons_succ, List.zip_cons_cons, List.foldl_cons]
    exact ih b' t' _ (by simpa using hb) (by simpa using ht)

theorem matOf_row (rows : List (List (Cx ρ))) (i k : Nat) (hi : i < rows.length) :
    matOf rows i k = (rows[i])[k]?.getD Cx.zero := by
  simp [matOf, hi]

/-- `(conj(X) @ Y.T)[i, j]` over the contracted dimension `n` is `overlap X[i] Y[j]` (the conjugated operand is the LEFT one,
rows of the result are indexed by the left array, columns by the transposed right array) -/
theorem conj_matmul_tr_eval (env : String → Nat → Nat → Cx ρ) (x y : String) (X Y : List (List (Cx ρ)))
    (hx : env x = matOf X) (hy : env y = matOf Y) (n i j : Nat) (hi : i < X.length) (hj : j < Y.length)
    (hXi : (X[i]).length = n) (hYj : (Y[j]).length = n) :
    (MatE.matmul (.conj (.arr x)) (.tr (.arr y))).eval env n i j = overlap X[i] Y[j] := by
  simp only [MatE.eval, hx, hy, matOf_row X i _ hi, matOf_row Y j _ hj]
  exact foldl_range_zip (fun acc a b => Cx.add acc (Cx.mul (Cx.conj a) b)) n X[i] Y[j] Cx.zero hXi hYj

end mat

/-! ### the loop of `evec_sort` -/

section loop
variable {α : Type} [LT α] [DecidableRel (fun a b : α => a < b)] [OfNat α 0] {ι : Type}

/-- the pick only reads the entries with both indices below `n` -/
theorem foldl_argmax_congr (n : Nat) (a a' : Nat → Nat → α) (h : ∀ i < n, ∀ j < n, a i j = a' i j) :
    ∀ (L : List (Nat × Nat)) (b0 : Nat × Nat), (∀ p ∈ L, p.1 < n ∧ p.2 < n) → (b0.1 < n ∧ b0.2 < n) →
      L.foldl (fun best p => if a best.1 best.2 < a p.1 p.2 then p else best) b0
        = L.foldl (fun best p => if a' best.1 best.2 < a' p.1 p.2 then p else best) b0 := by
  intro L
  induction L with
  | nil => intro b0 _ _; rfl
  | cons q L ih =>
    intro b0 hL hb
    have hq := hL q (by simp)
    simp only [List.foldl_cons]
    rw [h b0.1 hb.1 b0.2 hb.2, h q.1 hq.1 q.2 hq.2]
    apply ih _ (fun p hp => hL p (by simp [hp]))
    split
    · exact hq
    · exact hb

theorem argmax2_congr (n : Nat) (a a' : Nat → Nat → α) (h : ∀ i < n, ∀ j < n, a i j = a' i j) :
    argmax2 n a = argmax2 n a' := by
  unfold argmax2
  cases n with
  | zero => simp [pairs]
  | succ n =>
    exact foldl_argmax_congr (n + 1) a a' h _ _ (fun p hp => (mem_pairs _ p).1 hp) ⟨Nat.succ_pos n, Nat.succ_pos n⟩

theorem greedyLoop_congr (n : Nat) (target : Nat → ι) :
    ∀ (k : Nat) (a a' : Nat → Nat → α) (s : Nat → Option ι), (∀ i < n, ∀ j < n, a i j = a' i j) →
      greedyLoop n target k a s = greedyLoop n target k a' s := by
  intro k
  induction k with
  | zero => intro a a' s _; rfl
  | succ k ih =>
    intro a a' s h
    simp only [greedyLoop]
    rw [argmax2_congr n a a' h]
    apply ih
    intro i hi j hj
    simp only [zeroRC]
    rw [h i hi j hj]

end loop

section sortsrc
variable {ρ : Type} [Add ρ] [Sub ρ] [Mul ρ] [Div ρ] [Neg ρ] [OfNat ρ 0] [HasSqrt ρ]
  [LT ρ] [DecidableRel (fun a b : ρ => a < b)] [BEq ρ] {ι : Type}

/-- With no threshold, `k` rounds of the extracted loop (pick on `|m|`, the extracted statements in order) never raise and leave
in `sorted_arr` exactly what `k` rounds of the model's `greedyLoop` on the magnitude matrix leave — row `idx[0]` and column `idx[1]` are
the ones zeroed, `sorted_arr[idx[0]] = target_arr[idx[1]]`.  (`|0| = 0` is the only fact about the scalar that is used.) -/
theorem sortLoop_is_greedy (habs0 : Cx.abs (Cx.zero : Cx ρ) = 0) (n : Nat) (target : Nat → ι) :
    ∀ (k : Nat) (st : SortState ρ ι),
      (sortLoop Generated.sortSpec n none target k st).map (·.sorted)
        = some (greedyLoop n target k (fun i j => Cx.abs (st.m i j)) st.sorted) := by
  intro k
  induction k with
  | zero => intro st; rfl
  | succ k ih =>
    intro st
    simp only [sortLoop, Generated.sortSpec, ThrE.eval, List.foldl_cons, List.foldl_nil, LoopStmt.exec, comp,
      greedyLoop]
    have := ih ⟨fun i j => if j = (argmax2 n fun i j => Cx.abs (st.m i j)).2 then Cx.zero
        else if i = (argmax2 n fun i j => Cx.abs (st.m i j)).1 then Cx.zero else st.m i j,
      setAt st.sorted (argmax2 n fun i j => Cx.abs (st.m i j)).1 (target (argmax2 n fun i j => Cx.abs (st.m i j)).2)⟩
    simp only [Generated.sortSpec] at this
    simp only [Nat.one_ne_zero, if_false, if_true] at this ⊢
    rw [this]
    congr 2
    funext i j
    simp only [zeroRC]
    by_cases hj : j = (argmax2 n fun i j => Cx.abs (st.m i j)).2
    · simp [hj, habs0]
    · by_cases hi : i = (argmax2 n fun i j => Cx.abs (st.m i j)).1
      · simp [hi, hj, habs0]
      · simp [hi, hj]

theorem modelMag_apply (T B : List (List (Cx ρ))) (i j : Nat) (hi : i < B.length) (hj : j < T.length) :
    ((((B.toArray.map fun b => T.toArray.map fun t => Cx.abs (overlap b t))[i]?).bind (·[j]?)).getD (0 : ρ))
      = Cx.abs (overlap B[i] T[j]) := by
  simp [hi, hj]

/-- `evec_sort` as the source says it (extracted set display, rejection test, overlap expression
`conj(array(base)) @ array(target).T`, `range(ndim)`, argmax of `abs`, threshold test, zeroing and placement statements), run with the
defaults `filter=None`, `threshold=None`, is the model's `evecSort` — for all items and all vector lists. -/
theorem runSort_is_evecSort (habs0 : Cx.abs (Cx.zero : Cx ρ) = 0) (items : List ι) (T B : List (List (Cx ρ))) :
    runSort Generated.sortSpec none none items T B = evecSort items T B := by
  unfold runSort evecSort
  dsimp only
  rw [sort_dim_test_is_model]
  by_cases hd : dimsOk items.length T B = true
  · have hd' := hd
    simp only [dimsOk, List.all_cons, List.all_map, Bool.and_eq_true, beq_iff_eq, List.all_eq_true, Function.comp] at hd'
    obtain ⟨hT, hB, hv⟩ := hd'
    simp only [hd, Bool.not_true, Bool.false_eq_true, if_false, if_true]
    have hred : (Generated.sortSpec.reducer != "argmax" || Generated.sortSpec.modulus != "abs") = false := by decide
    simp only [hred, Bool.false_eq_true, if_false]
    have hit : Generated.sortSpec.iterations.eval items.length
        (Generated.sortSpec.dimSet.flatMap (SetElem.eval T B)) = items.length := rfl
    rw [hit]
    have hloop := sortLoop_is_greedy habs0 items.length (fun j => items.toArray[j]?) items.length
      ⟨Generated.sortSpec.overlap.eval (fun name =>
          if name == "base_evecs" then matOf B else if name == "target_evecs" then matOf T else fun _ _ => Cx.zero) items.length,
        fun _ => none⟩
    cases hs : sortLoop Generated.sortSpec items.length none (fun j => items.toArray[j]?) items.length
        ⟨Generated.sortSpec.overlap.eval (fun name =>
          if name == "base_evecs" then matOf B else if name == "target_evecs" then matOf T else fun _ _ => Cx.zero) items.length,
        fun _ => none⟩ with
    | none => rw [hs] at hloop; simp at hloop
    | some st =>
      rw [hs] at hloop
      simp only [Option.map_some, Option.some.injEq] at hloop
      simp only [Option.some.injEq]
      rw [evecSortRun_eq, List.map_map]
      apply List.map_congr_left
      intro i hi
      simp only [Function.comp, evecSortMag, hloop]
      congr 1
      refine congrFun (greedyLoop_congr items.length _ items.length _ _ _ ?_) i
      intro r hr c hc
      rw [modelMag_apply T B r c (hB ▸ hr) (hT ▸ hc)]
      congr 1
      exact conj_matmul_tr_eval _ "base_evecs" "target_evecs" B T (by simp) (by simp) items.length r c (hB ▸ hr) (hT ▸ hc)
        (hv _ (by simp)) (hv _ (by simp))
  · simp only [Bool.not_eq_true] at hd
    simp [hd]

end sortsrc

theorem abs_zero_real : Cx.abs (Cx.zero : Cx ℝ) = 0 := by
  simp [Cx.abs, Cx.normSq, Cx.zero, sqrt_real]

/-! ### evec_disp2eig -/

section dispsrc

theorem repeatEach_three (v : List ℝ) : repeatEach 3 v = repeat3 v := by
  unfold repeatEach repeat3
  congr 1

/-- The extracted test `a.shape[1] == 3*N` with its meaning on an `M × K` array and `N` masses: true exactly when
`K = 3·N`, whatever `M` is — in particular `3N ∣ M·K` does not help. -/
theorem disp_shape_test_iff (M K N : Nat) : Generated.dispSpec.shapeTest.eval M K N = true ↔ K = 3 * N := by
  simp [Generated.dispSpec, ShapeB.eval, ShapeI.eval]

/-- the function contains no call or attribute that changes the shape of `a` -/
theorem disp_no_reshape :
    ∀ f ∈ ["reshape", "ravel", "flatten", "resize", "squeeze", "atleast_2d", "transpose", "swapaxes", "flat"],
      f ∉ Generated.dispSpec.attributes ∧ ("numpy." ++ f) ∉ Generated.dispSpec.calls := by
  decide

/-- the accepted branch: scale every column by √m, `norm = diag(conj(a) @ a.T)`, divide every row by √norm — on a `· × K` array with
`K = len(repeat(mass, 3))` this is the model's `disp2eigRow` on every row -/
theorem disp_body_is_model (a : List (List (Cx ℝ))) (mass : List ℝ) (K : Nat) (hK : ∀ r ∈ a, r.length = K)
    (hm : (repeat3 mass).length = K) :
    (Generated.dispSpec.body.foldlM (fun (st : DispState ℝ) (s : DispStmt) => s.exec K st)
      (⟨a, [("m", repeatEach Generated.dispSpec.times mass)]⟩ : DispState ℝ)).map (·.a) = some (a.map (disp2eigRow (repeat3 mass))) := by
  have ht : Generated.dispSpec.times = 3 := rfl
  rw [ht, repeatEach_three]
  have e1 : ("m" == "m") = true := by decide
  have e2 : ("norm" == "norm") = true := by decide
  have hall : a.all (fun row => row.length == (repeat3 mass).length) = true := by
    simp only [List.all_eq_true, beq_iff_eq]; intro r hr; rw [hK r hr, hm]
  simp only [Generated.dispSpec, List.foldlM_cons, List.foldlM_nil, DispStmt.exec, lookupVec, List.lookup_cons, List.lookup_nil,
    e1, e2, Option.getD_some, hall, if_true, Option.bind_eq_bind, Option.bind_some, List.length_map, List.length_range, beq_self_eq_true,
    Option.pure_def, Option.map_some, Option.some.injEq]
  apply List.ext_getElem
  · simp
  · intro i h1 h2
    have hi : i < a.length := by simpa using h2
    simp only [List.getElem_zipWith, List.getElem_map, List.getElem_range]
    rw [disp2eigRow_eq]
    unfold scaledRow
    have hlen : (List.zipWith (fun z f => scaleCell ScaleOp.mul f z) a[i] (repeat3 mass)).length = K := by
      rw [List.length_zipWith, hK _ (List.getElem_mem hi), hm, Nat.min_self]
    have hov := conj_matmul_tr_eval
      (fun n => if n == "a" then matOf (a.map fun row => List.zipWith (fun z f => scaleCell ScaleOp.mul f z) row (repeat3 mass))
        else fun _ _ => Cx.zero) "a" "a"
      (a.map fun row => List.zipWith (fun z f => scaleCell ScaleOp.mul f z) row (repeat3 mass))
      (a.map fun row => List.zipWith (fun z f => scaleCell ScaleOp.mul f z) row (repeat3 mass))
      (by simp) (by simp) K i i (by simpa using hi) (by simpa using hi)
      (by simpa using hlen) (by simpa using hlen)
    rw [hov, overlap_self]
    simp only [List.getElem_map, scaleCell, sqrt_real]
    rfl

/-- the model's row-by-row test is "rectangular, and the first row's length passes the extracted shape test" -/
theorem all_rows_iff (r0 : List (Cx ℝ)) (a' : List (List (Cx ℝ))) (mass : List ℝ) :
    (r0 :: a').all (fun r => r.length == 3 * mass.length)
      = ((r0 :: a').all (fun r => r.length == r0.length) &&
          Generated.dispSpec.shapeTest.eval (a'.length + 1) r0.length mass.length) := by
  rw [Bool.eq_iff_iff]
  simp only [Bool.and_eq_true, List.all_eq_true, beq_iff_eq, disp_shape_test_iff]
  constructor
  · intro h
    exact ⟨fun r hr => (h r hr).trans (h r0 (by simp)).symm, h r0 (by simp)⟩
  · rintro ⟨h1, h2⟩ r hr
    exact (h1 r hr).trans h2

/-- `evec_disp2eig` as the source says it (`numpy.repeat(mass, 3)`, the shape test and which branch raises, the
three statements of the accepted branch in order) is the model's `disp2eig`, for every list of rows and every mass list. -/
theorem runDisp_is_disp2eig (a : List (List (Cx ℝ))) (mass : List ℝ) :
    runDisp Generated.dispSpec a mass = disp2eig a mass := by
  unfold runDisp disp2eig
  dsimp only
  cases a with
  | nil => simp
  | cons r0 a' =>
    have hraise : Generated.dispSpec.raiseWhen = false := rfl
    have hrep : (Generated.dispSpec.repeated == "mass") = true := by decide
    simp only [List.isEmpty_cons, Bool.false_or, Bool.not_false, Bool.true_and, List.head?_cons, Option.map_some, Option.getD_some,
      List.length_cons, hraise, hrep, if_true, all_rows_iff]
    cases hrect : (r0 :: a').all (fun r => r.length == r0.length) with
    | false => simp
    | true =>
      cases htest : Generated.dispSpec.shapeTest.eval (a'.length + 1) r0.length mass.length with
      | false => simp
      | true =>
        have hK : r0.length = 3 * mass.length := (disp_shape_test_iff _ _ _).1 htest
        simp only [Bool.not_true, Bool.false_eq_true, if_false, beq_iff_eq, Bool.true_eq_false, Bool.and_self, if_true]
        exact disp_body_is_model (r0 :: a') mass r0.length (by simpa using hrect) (by rw [length_repeat3, hK])

/-- Rejection for every shape: a non-empty rectangular `M × K` array is rejected exactly when `K ≠ 3·len(mass)` -/
theorem runDisp_rejects_iff (a : List (List (Cx ℝ))) (mass : List ℝ) (K : Nat) (hne : a ≠ []) (hK : ∀ r ∈ a, r.length = K) :
    runDisp Generated.dispSpec a mass = none ↔ K ≠ 3 * mass.length := by
  rw [runDisp_is_disp2eig]
  by_cases h : K = 3 * mass.length
  · simp [disp2eig_some a mass hne (fun r hr => (hK r hr).trans h), h]
  · obtain ⟨r0, a', rfl⟩ := List.exists_cons_of_ne_nil hne
    have : (r0 :: a').all (fun r => r.length == 3 * mass.length) = false := by
      rw [Bool.eq_false_iff]; intro hc
      simp only [List.all_eq_true, beq_iff_eq] at hc
      exact h ((hK r0 (by simp)).symm.trans (hc r0 (by simp)))
    simp [disp2eig, this, h]

/-- the diagonal of `conj(a) @ a.T` is real over ℝ: entry (i, i) is `⟨Σ_k |a_ik|², 0⟩` — why the interpreter may keep the real part -/
theorem disp_norm_is_real (a : List (List (Cx ℝ))) (K i : Nat) (hi : i < a.length) (hK : (a[i]).length = K) :
    ∀ name e, DispStmt.normDiag name e ∈ Generated.dispSpec.body →
      e.eval (fun n => if n == "a" then matOf a else fun _ _ => Cx.zero) K i i = ⟨sumNormSq a[i], 0⟩ := by
  intro name e he
  simp only [Generated.dispSpec, List.mem_cons, List.mem_nil_iff, or_false, reduceCtorEq, false_or, DispStmt.normDiag.injEq] at he
  obtain ⟨_, rfl⟩ := he
  rw [conj_matmul_tr_eval _ "a" "a" a a (by simp) (by simp) K i i hi hi hK hK, overlap_self]

end dispsrc

/-! ### the two regexes of `evec_load.py`: the backtracking matcher on the extracted patterns IS the model's deterministic scanner -/

namespace Rx

def orE {β : Type} (a b : Option β) : Option β :=
  match a with
  | some r => some r
  | none => b

@[simp] theorem orE_none_right {β : Type} (a : Option β) : orE a none = a := by cases a <;> rfl
@[simp] theorem orE_none_left {β : Type} (b : Option β) : orE none b = b := rfl
@[simp] theorem orE_some {β : Type} (r : β) (b : Option β) : orE (some r) b = some r := rfl
theorem orE_self {β : Type} (a : Option β) : orE a a = a := by cases a <;> rfl
theorem orE_orE_same {β : Type} (a b : Option β) : orE (orE a b) b = orE a b := by cases a <;> cases b <;> rfl

theorem starK_cons {β : Type} (p : Char → Bool) (k : List Char → Option β) (c : Char) (t : List Char) :
    starK p k (c :: t) = if p c then orE (starK p k t) (k (c :: t)) else k (c :: t) := by
  simp only [starK, orE]
  split <;> rfl

theorem dropWhile_dropWhile (p : Char → Bool) (l : List Char) : (l.dropWhile p).dropWhile p = l.dropWhile p := by
  induction l with
  | nil => rfl
  | cons c t ih =>
    by_cases h : p c
    · simp [List.dropWhile_cons, h, ih]
    · simp [List.dropWhile_cons, h]

/-- greedy star whose continuation cannot start with a character of the class: no backtracking, all of the run is consumed -/
theorem starK_reject {β : Type} (p : Char → Bool) (k : List Char → Option β)
    (hk : ∀ c t, p c = true → k (c :: t) = none) (cs : List Char) : starK p k cs = k (cs.dropWhile p) := by
  induction cs with
  | nil => rfl
  | cons c t ih =>
    rw [starK_cons]
    by_cases h : p c = true
    · simp [h, ih, hk c t h, List.dropWhile_cons]
    · simp [h, List.dropWhile_cons]

/-- greedy star whose continuation always succeeds: the first alternative tried (all of the run) is the answer -/
theorem starK_total {β : Type} (p : Char → Bool) (k : List Char → Option β)
    (hk : ∀ cs, (k cs).isSome = true) (cs : List Char) : starK p k cs = k (cs.dropWhile p) := by
  induction cs with
  | nil => rfl
  | cons c t ih =>
    rw [starK_cons]
    by_cases h : p c = true
    · obtain ⟨r, hr⟩ := Option.isSome_iff_exists.mp (hk (t.dropWhile p))
      simp [h, ih, hr, List.dropWhile_cons]
    · simp [h, List.dropWhile_cons]

/-- greedy star whose continuation, started inside the run, depends only on where the run ends -/
theorem starK_tail {β : Type} (p : Char → Bool) (k w : List Char → Option β)
    (hk : ∀ c t, p c = true → k (c :: t) = w (t.dropWhile p)) (cs : List Char) :
    starK p k cs = orE (k (cs.dropWhile p)) (if cs.head?.any p then w (cs.dropWhile p) else none) := by
  induction cs with
  | nil => simp [starK]
  | cons c t ih =>
    rw [starK_cons]
    by_cases h : p c = true
    · simp only [h, if_true, ih, hk c t h, List.dropWhile_cons, List.head?_cons, Option.any_some]
      by_cases h2 : t.head?.any p = true
      · simp [h2, orE_orE_same]
      · simp [h2]
    · simp [h, List.dropWhile_cons]

/-- the items cannot match an input whose first character satisfies `P` -/
def Rejects (items : List Item) (P : Char → Prop) : Prop := ∀ st c t, P c → run items st (c :: t) = none

theorem rejects_one (a : Atom) (r : List Item) (P : Char → Prop) (h : ∀ c, P c → a.test c = false) :
    Rejects (.tok a .one :: r) P := by
  intro st c t hc; simp [run, tokK, h c hc]

theorem rejects_plus (a : Atom) (r : List Item) (P : Char → Prop) (h : ∀ c, P c → a.test c = false) :
    Rejects (.tok a .plus :: r) P := by
  intro st c t hc; simp [run, tokK, h c hc]

theorem rejects_star (a : Atom) (r : List Item) (P : Char → Prop) (h : ∀ c, P c → a.test c = false) (hr : Rejects r P) :
    Rejects (.tok a .star :: r) P := by
  intro st c t hc; simp [run, tokK, starK_cons, h c hc, hr st c t hc]

theorem rejects_opt (a : Atom) (r : List Item) (P : Char → Prop) (h : ∀ c, P c → a.test c = false) (hr : Rejects r P) :
    Rejects (.tok a .opt :: r) P := by
  intro st c t hc; simp [run, tokK, h c hc, hr st c t hc]

theorem rejects_opn (r : List Item) (P : Char → Prop) (hr : Rejects r P) : Rejects (.opn :: r) P := by
  intro st c t hc; simp [run, hr _ c t hc]

theorem rejects_cls (r : List Item) (P : Char → Prop) (hr : Rejects r P) : Rejects (.cls :: r) P := by
  intro st c t hc; simp [run, hr _ c t hc]

/-! #### single items against the model's scanner primitives -/

theorem run_lit (x : Char) (r : List Item) (st : St) (cs : List Char) :
    run (.tok (.chr x) .one :: r) st cs = (lit [x] cs).bind (run r st) := by
  cases cs with
  | nil => simp [run, tokK, lit]
  | cons c t =>
    by_cases h : c = x
    · subst h; simp [run, tokK, lit, Atom.test]
    · have h' : ¬ x = c := fun e => h e.symm
      simp [run, tokK, lit, Atom.test, h, h']

theorem run_space_star (r : List Item) (st : St) (cs : List Char) (hr : Rejects r (fun c => isSpace c = true)) :
    run (.tok .space .star :: r) st cs = run r st (skipWs cs) := by
  simp only [run, tokK, Atom.test, skipWs]
  exact starK_reject _ _ (fun c t hc => hr st c t hc) cs

theorem run_space_plus (r : List Item) (st : St) (cs : List Char) (hr : Rejects r (fun c => isSpace c = true)) :
    run (.tok .space .plus :: r) st cs = (ws1 cs).bind (run r st) := by
  cases cs with
  | nil => simp [run, tokK, ws1]
  | cons c t =>
    by_cases h : isSpace c = true
    · simp only [run, tokK, Atom.test, h, if_true, ws1, skipWs, Option.bind_some]
      exact starK_reject _ _ (fun c t hc => hr st c t hc) t
    · simp [run, tokK, Atom.test, ws1, h]

/-! #### the groups -/

theorem take_of_split (txt rest : List Char) : (txt ++ rest).take ((txt ++ rest).length - rest.length) = txt := by
  simp

theorem test_digit : Atom.test .digit = Char.isDigit := by funext x; rfl
theorem test_space : Atom.test .space = isSpace := by funext x; rfl
theorem test_chr (c : Char) : Atom.test (.chr c) = fun x => x == c := by funext x; rfl

theorem run_opn (r : List Item) (caps : List (List Char)) (mk cs : List Char) :
    run (.opn :: r) ⟨caps, mk⟩ cs = run r ⟨caps, cs⟩ cs := rfl
theorem run_tok (a : Atom) (q : Quant) (r : List Item) (st : St) : run (.tok a q :: r) st = tokK a q (run r st) := by
  funext cs; rfl
theorem run_cls (r : List Item) (st : St) (cs : List Char) :
    run (.cls :: r) st cs = run r ⟨(st.mark.take (st.mark.length - cs.length)) :: st.caps, []⟩ cs := rfl


theorem natTok_split (cs txt rest : List Char) (h : natTok cs = some (txt, rest)) : cs = txt ++ rest := by
  simp only [natTok] at h
  split at h
  · cases h
  · simp only [Option.some.injEq, Prod.mk.injEq] at h
    rw [← h.1, ← h.2, List.takeWhile_append_dropWhile]

/-- `(\d+)` followed by something that cannot start with a digit: the model's `natTok` -/
theorem run_nat_group (r : List Item) (caps' : List (List Char)) (mk cs : List Char)
    (hr : Rejects r (fun c => c.isDigit = true)) :
    run (.opn :: .tok .digit .plus :: .cls :: r) ⟨caps', mk⟩ cs
      = (natTok cs).bind fun p => run r ⟨p.1 :: caps', []⟩ p.2 := by
  have hk : ∀ c t, c.isDigit = true → run (.cls :: r) ⟨caps', cs⟩ (c :: t) = none :=
    fun c t hc => rejects_cls r _ hr _ c t hc
  rw [run_opn, run_tok]
  cases cs with
  | nil => simp [tokK, natTok]
  | cons c t =>
    by_cases h : c.isDigit = true
    · have hnt : natTok (c :: t) = some ((c :: t).takeWhile Char.isDigit, (c :: t).dropWhile Char.isDigit) := by
        simp [natTok, List.takeWhile_cons, h]
      have hs := natTok_split _ _ _ hnt
      simp only [tokK, Atom.test, h, if_true]
      rw [test_digit, starK_reject _ _ hk t, run_cls, hnt]
      simp only [Option.bind_some]
      have hd : (c :: t).dropWhile Char.isDigit = t.dropWhile Char.isDigit := by simp [List.dropWhile_cons, h]
      rw [← hd]
      congr 3
      have := take_of_split ((c :: t).takeWhile Char.isDigit) ((c :: t).dropWhile Char.isDigit)
      rw [← hs] at this
      exact this
    · simp [tokK, Atom.test, natTok, List.takeWhile_cons, h]


/-- `numTok` without the sign: digits, optionally a dot and more digits; (consumed text after `sign`, rest) -/
def numBody (sign r : List Char) : Option (List Char × List Char) :=
  if (r.takeWhile Char.isDigit).isEmpty then none else
  match r.dropWhile Char.isDigit with
  | '.' :: r' => some (sign ++ r.takeWhile Char.isDigit ++ ['.'] ++ r'.takeWhile Char.isDigit, r'.dropWhile Char.isDigit)
  | u => some (sign ++ r.takeWhile Char.isDigit, u)

theorem numTok_minus (t : List Char) : numTok ('-' :: t) = numBody ['-'] t := by
  simp only [numTok, numBody]
  split
  · rfl
  · split <;> simp_all

theorem numTok_other (cs : List Char) (h : ∀ t, cs ≠ '-' :: t) : numTok cs = numBody [] cs := by
  cases cs with
  | nil => rfl
  | cons c t =>
    have hc : c ≠ '-' := fun e => h t (by rw [e])
    simp only [numTok, numBody]
    split
    · rename_i heq; simp_all
    · rename_i heq
      split
      · simp_all
      · split <;> simp_all

theorem numBody_split (sign r txt rest : List Char) (h : numBody sign r = some (txt, rest)) : sign ++ r = txt ++ rest := by
  unfold numBody at h
  split at h
  · cases h
  · split at h
    · rename_i r' hr'
      simp only [Option.some.injEq, Prod.mk.injEq] at h
      rw [← h.1, ← h.2]
      have h1 := List.takeWhile_append_dropWhile (p := Char.isDigit) (l := r)
      have h2 := List.takeWhile_append_dropWhile (p := Char.isDigit) (l := r')
      rw [hr'] at h1
      calc sign ++ r = sign ++ (List.takeWhile Char.isDigit r ++ '.' :: (List.takeWhile Char.isDigit r' ++ List.dropWhile Char.isDigit r')) := by
            rw [h2, h1]
        _ = _ := by simp
    · simp only [Option.some.injEq, Prod.mk.injEq] at h
      rw [← h.1, ← h.2, List.append_assoc, List.takeWhile_append_dropWhile]

theorem numTok_split (cs txt rest : List Char) (h : numTok cs = some (txt, rest)) : cs = txt ++ rest := by
  by_cases hm : ∃ t, cs = '-' :: t
  · obtain ⟨t, rfl⟩ := hm
    rw [numTok_minus] at h
    exact numBody_split _ _ _ _ h
  · have hm' : ∀ t, cs ≠ '-' :: t := fun t e => hm ⟨t, e⟩
    rw [numTok_other _ hm'] at h
    exact numBody_split [] _ _ _ h

theorem opt_minus_digits {β : Type} (k2 : List Char → Option β) (t : List Char) :
    tokK (.chr '-') .opt (tokK .digit .plus k2) ('-' :: t) = tokK .digit .plus k2 t := by
  have hminus : Char.isDigit '-' = false := by decide
  have e : tokK (.chr '-') .opt (tokK .digit .plus k2) ('-' :: t)
      = orE (tokK .digit .plus k2 t) (tokK .digit .plus k2 ('-' :: t)) := rfl
  rw [e]
  have : tokK .digit .plus k2 ('-' :: t) = none := by simp [tokK, Atom.test, hminus]
  rw [this, orE_none_right]

theorem opt_minus_other {β : Type} (k2 : List Char → Option β) (x : List Char) (h : ∀ t, x ≠ '-' :: t) :
    tokK (.chr '-') .opt (tokK .digit .plus k2) x = tokK .digit .plus k2 x := by
  cases x with
  | nil => simp [tokK]
  | cons c t =>
    have hc : c ≠ '-' := fun e => h t (by rw [e])
    simp [tokK, Atom.test, hc]

theorem numBody_rest (sign r : List Char) : (numBody sign r).map Prod.snd = (numBody [] r).map Prod.snd := by
  unfold numBody
  split
  · rfl
  · split <;> rfl

theorem dropWhile_head_not (p : Char → Bool) (l : List Char) (c : Char) (t : List Char) (e : l.dropWhile p = c :: t) :
    p c = false := by
  induction l with
  | nil => simp at e
  | cons d l ih =>
    by_cases h : p d = true
    · rw [List.dropWhile_cons, if_pos h] at e; exact ih e
    · rw [List.dropWhile_cons, if_neg h] at e
      simp only [List.cons.injEq] at e
      rw [← e.1]; simpa using h

/-- `\d+\.?\d*` followed by a continuation that EITHER cannot start with a digit or a dot OR always succeeds: Python's backtracking
order (all digits, the dot if there is one, all digits; then shorter alternatives) finds exactly what the deterministic scanner finds. -/
theorem num_core {β : Type} (K' : List Char → Option β)
    (H : (∀ c t, (c.isDigit = true ∨ c = '.') → K' (c :: t) = none) ∨ (∀ cs, (K' cs).isSome = true)) (x : List Char) :
    tokK .digit .plus (tokK (.chr '.') .opt (tokK .digit .star K')) x = (numBody [] x).bind fun p => K' p.2 := by
  have hdot : Char.isDigit '.' = false := by decide
  -- \d* K'
  have h3 : ∀ y, tokK .digit .star K' y = K' (y.dropWhile Char.isDigit) := by
    intro y
    simp only [tokK, test_digit]
    rcases H with H | H
    · exact starK_reject _ _ (fun c t hc => H c t (Or.inl hc)) y
    · exact starK_total _ _ H y
  -- \.? \d* K'
  have h2dot : ∀ t, tokK (.chr '.') .opt (tokK .digit .star K') ('.' :: t) = tokK .digit .star K' t := by
    intro t
    have e : tokK (.chr '.') .opt (tokK .digit .star K') ('.' :: t)
        = orE (tokK .digit .star K' t) (tokK .digit .star K' ('.' :: t)) := by
      rfl
    rw [e]
    rcases H with H | H
    · rw [h3 ('.' :: t)]
      simp [List.dropWhile_cons, hdot, H '.' t (Or.inr rfl)]
    · rw [h3 t]
      obtain ⟨r, hr⟩ := Option.isSome_iff_exists.mp (H (t.dropWhile Char.isDigit))
      simp [hr]
  have h2other : ∀ c t, c ≠ '.' → tokK (.chr '.') .opt (tokK .digit .star K') (c :: t) = tokK .digit .star K' (c :: t) := by
    intro c t hc
    simp [tokK, Atom.test, hc]
  have h2nil : tokK (.chr '.') .opt (tokK .digit .star K') [] = tokK .digit .star K' [] := by simp [tokK]
  -- value of \.?\d*K' at a position where no digit follows
  have h2u : ∀ u, (∀ c t, u = c :: t → c.isDigit = false) →
      tokK (.chr '.') .opt (tokK .digit .star K') u =
        match u with
        | '.' :: r' => K' (r'.dropWhile Char.isDigit)
        | u => K' u := by
    intro u hu
    split
    · rw [h2dot, h3]
    · rename_i hnd
      cases u with
      | nil => rw [h2nil, h3]; rfl
      | cons c t =>
        have hc : c ≠ '.' := fun e => hnd t (by rw [e])
        rw [h2other c t hc, h3]
        simp [List.dropWhile_cons, hu c t rfl]
  -- \d+ …
  have hstar : ∀ t, starK Char.isDigit (tokK (.chr '.') .opt (tokK .digit .star K')) t
      = tokK (.chr '.') .opt (tokK .digit .star K') (t.dropWhile Char.isDigit) := by
    intro t
    rcases H with H | H
    · have hk : ∀ c t', c.isDigit = true →
          tokK (.chr '.') .opt (tokK .digit .star K') (c :: t') = K' (t'.dropWhile Char.isDigit) := by
        intro c t' hc
        have hne : c ≠ '.' := fun e => by rw [e, hdot] at hc; cases hc
        rw [h2other c t' hne, h3]
        simp [List.dropWhile_cons, hc]
      rw [starK_tail _ _ K' hk t]
      have hu : ∀ c t', t.dropWhile Char.isDigit = c :: t' → c.isDigit = false := by
        intro c t' e
        exact dropWhile_head_not _ _ _ _ e
      rw [h2u _ hu]
      generalize List.dropWhile Char.isDigit t = u at hu
      by_cases hd : ∃ r', u = '.' :: r'
      · obtain ⟨r', rfl⟩ := hd
        simp [H '.' r' (Or.inr rfl)]
      · split
        · rename_i r' ; exact absurd ⟨r', rfl⟩ hd
        · split <;> simp [orE_self]
    · apply starK_total
      intro cs
      cases cs with
      | nil => rw [h2nil, h3]; exact H _
      | cons c t =>
        by_cases hc : c = '.'
        · subst hc; rw [h2dot, h3]; exact H _
        · rw [h2other c t hc, h3]; exact H _
  cases x with
  | nil => simp [tokK, numBody]
  | cons c t =>
    by_cases hc : c.isDigit = true
    · have hu : ∀ c' t', t.dropWhile Char.isDigit = c' :: t' → c'.isDigit = false := by
        intro c' t' e
        exact dropWhile_head_not _ _ _ _ e
      have e1 : tokK .digit .plus (tokK (.chr '.') .opt (tokK .digit .star K')) (c :: t)
          = starK Char.isDigit (tokK (.chr '.') .opt (tokK .digit .star K')) t := by
        simp [tokK, Atom.test, hc, test_digit]
      rw [e1, hstar, h2u _ hu]
      simp only [numBody, List.takeWhile_cons, hc, if_true, List.isEmpty_cons, Bool.false_eq_true, if_false, List.dropWhile_cons]
      split <;> rfl
    · simp [tokK, Atom.test, numBody, List.takeWhile_cons, hc]

/-- `(-?\d+\.?\d*)` followed by items that cannot start with a digit or a dot, or by the end of the pattern: the model's `numTok` -/
theorem run_num_group (r : List Item) (caps' : List (List Char)) (mk cs : List Char)
    (hr : Rejects r (fun c => c.isDigit = true ∨ c = '.') ∨ r = []) :
    run (.opn :: .tok (.chr '-') .opt :: .tok .digit .plus :: .tok (.chr '.') .opt :: .tok .digit .star :: .cls :: r) ⟨caps', mk⟩ cs
      = (numTok cs).bind fun p => run r ⟨p.1 :: caps', []⟩ p.2 := by
  have H : (∀ c t, (c.isDigit = true ∨ c = '.') → run (.cls :: r) ⟨caps', cs⟩ (c :: t) = none) ∨
      (∀ x, (run (.cls :: r) ⟨caps', cs⟩ x).isSome = true) := by
    rcases hr with hr | hr
    · exact Or.inl fun c t hc => rejects_cls r _ hr _ c t hc
    · right; intro x; subst hr; simp [run]
  rw [run_opn, run_tok, run_tok, run_tok, run_tok]
  have hcore := num_core (run (.cls :: r) ⟨caps', cs⟩) H
  have fin : ∀ sign x, sign ++ x = cs →
      ((numBody [] x).bind fun p => run (.cls :: r) ⟨caps', cs⟩ p.2) = (numBody sign x).bind fun p => run r ⟨p.1 :: caps', []⟩ p.2 := by
    intro sign x hsx
    have hrest := numBody_rest sign x
    cases h1 : numBody sign x with
    | none =>
      rw [h1] at hrest
      cases h2 : numBody [] x with
      | none => rfl
      | some q => rw [h2] at hrest; simp at hrest
    | some p =>
      rw [h1] at hrest
      cases h2 : numBody [] x with
      | none => rw [h2] at hrest; simp at hrest
      | some q =>
        rw [h2] at hrest
        simp only [Option.map_some, Option.some.injEq] at hrest
        simp only [Option.bind_some, run_cls]
        have hsp := numBody_split sign x p.1 p.2 h1
        rw [hsx] at hsp
        rw [← hrest]
        congr 3
        rw [hsp]; exact take_of_split _ _
  by_cases hm : ∃ t, cs = '-' :: t
  · obtain ⟨t, rfl⟩ := hm
    rw [opt_minus_digits, numTok_minus, hcore t]
    exact fin ['-'] t rfl
  · have hm' : ∀ t, cs ≠ '-' :: t := fun t e => hm ⟨t, e⟩
    rw [opt_minus_other _ _ hm', numTok_other _ hm', hcore cs]
    exact fin [] cs rfl


/-! #### character facts -/

theorem space_not_digit (c : Char) (h : isSpace c = true) : c.isDigit = false := by
  simp only [isSpace, Bool.or_eq_true, beq_iff_eq] at h
  rcases h with ((((rfl | rfl) | rfl) | rfl) | rfl) | rfl <;> decide

theorem space_ne (x : Char) (hx : isSpace x = false) (c : Char) (h : isSpace c = true) : (c == x) = false := by
  rw [beq_eq_false_iff_ne]; intro e; rw [e, hx] at h; cases h

theorem digit_not_space (c : Char) (h : c.isDigit = true) : isSpace c = false := by
  cases hs : isSpace c with
  | false => rfl
  | true => rw [space_not_digit c hs] at h; cases h

theorem digit_ne (x : Char) (hx : x.isDigit = false) (c : Char) (h : c.isDigit = true) : (c == x) = false := by
  rw [beq_eq_false_iff_ne]; intro e; rw [e, hx] at h; cases h

theorem digdot_not_space (c : Char) (h : c.isDigit = true ∨ c = '.') : isSpace c = false := by
  rcases h with h | rfl
  · exact digit_not_space c h
  · decide

theorem digdot_ne (x : Char) (hx : x.isDigit = false) (hx' : x ≠ '.') (c : Char) (h : c.isDigit = true ∨ c = '.') :
    (c == x) = false := by
  rcases h with h | rfl
  · exact digit_ne x hx c h
  · rw [beq_eq_false_iff_ne]; exact fun e => hx' e.symm

theorem rejects_num_space (r : List Item) :
    Rejects (.opn :: .tok (.chr '-') .opt :: .tok .digit .plus :: r) (fun c => isSpace c = true) :=
  rejects_opn _ _ (rejects_opt _ _ _ (fun c hc => space_ne '-' (by decide) c hc)
    (rejects_plus _ _ _ (fun c hc => space_not_digit c hc)))

theorem rejects_star_lit_digdot (x : Char) (hx : x.isDigit = false) (hx' : x ≠ '.') (r : List Item) :
    Rejects (.tok .space .star :: .tok (.chr x) .one :: r) (fun c => c.isDigit = true ∨ c = '.') :=
  rejects_star _ _ _ (fun c hc => digdot_not_space c hc) (rejects_one _ _ _ (fun c hc => digdot_ne x hx hx' c hc))

theorem run_space_star_lit (x : Char) (hx : isSpace x = false) (r : List Item) (st : St) (y : List Char) :
    run (.tok .space .star :: .tok (.chr x) .one :: r) st y = (lit [x] (skipWs y)).bind (run r st) := by
  rw [run_space_star _ _ _ (rejects_one (.chr x) _ _ (fun c hc => space_ne x hx c hc)), run_lit]

/-- Q_COORDS_REGEX.  The backtracking matcher on the extracted pattern, anchored at the head of any string, finds the groups the model's
scanner `matchQAt` finds (and fails exactly when it fails). -/
theorem run_qCoords (cs : List Char) :
    run Generated.qCoordsRegex ⟨[], []⟩ cs = (matchQAt cs).map fun p => [p.1, p.2.1, p.2.2] := by
  -- the scanner as a chain of `Option.bind` with the final `map` inside the last step; then item by item
  simp only [matchQAt, Option.bind_eq_bind, Option.map_bind, Function.comp_def, Option.pure_def, Option.map_some,
    Generated.qCoordsRegex]
  rw [run_lit]
  refine Option.bind_congr fun r1 _ => ?_
  rw [run_space_star_lit '=' (by decide)]
  refine Option.bind_congr fun r2 _ => ?_
  rw [run_space_star _ _ _ (rejects_num_space _),
    run_num_group _ _ _ _ (Or.inl (rejects_plus .space _ _ (fun c hc => digdot_not_space c hc)))]
  refine Option.bind_congr fun p1 _ => ?_
  obtain ⟨a, r3⟩ := p1
  rw [run_space_plus _ _ _ (rejects_num_space _)]
  refine Option.bind_congr fun r4 _ => ?_
  rw [run_num_group _ _ _ _ (Or.inl (rejects_plus .space _ _ (fun c hc => digdot_not_space c hc)))]
  refine Option.bind_congr fun p2 _ => ?_
  obtain ⟨b, r5⟩ := p2
  rw [run_space_plus _ _ _ (rejects_num_space _)]
  refine Option.bind_congr fun r6 _ => ?_
  rw [run_num_group _ _ _ _ (Or.inr rfl)]
  refine Option.bind_congr fun p3 _ => ?_
  obtain ⟨c, r7⟩ := p3
  rfl

theorem lit_cons (c : Char) (p cs : List Char) : lit (c :: p) cs = (lit [c] cs).bind (lit p) := by
  cases cs with
  | nil => simp [lit]
  | cons d t =>
    by_cases h : c = d
    · subst h; simp [lit, List.isPrefixOf]
    · simp [lit, List.isPrefixOf, h]

theorem run_lits (p : List Char) (r : List Item) (st : St) (cs : List Char) :
    run (p.foldr (fun c acc => Item.tok (.chr c) .one :: acc) r) st cs = (lit p cs).bind (run r st) := by
  induction p generalizing cs with
  | nil => simp [lit]
  | cons c p ih =>
    simp only [List.foldr_cons]
    rw [run_lit, lit_cons c p cs, Option.bind_assoc]
    congr 1
    funext x
    exact ih x

/-- MODE_INDEX_REGEX.  The backtracking matcher on the extracted pattern finds the groups the model's scanner `matchFreqAt` finds. -/
theorem run_modeIndex (cs : List Char) :
    run Generated.modeIndexRegex ⟨[], []⟩ cs = (matchFreqAt cs).map fun p => [p.1, p.2.1, p.2.2] := by
  have hfreq : "freq".toList = ['f', 'r', 'e', 'q'] := String.toList_ofList
  have hthz : "[THz]".toList = ['[', 'T', 'H', 'z', ']'] := String.toList_ofList
  have hcm : "[cm-1]".toList = ['[', 'c', 'm', '-', '1', ']'] := String.toList_ofList
  -- the scanner as a chain of `Option.bind` with the final `map` inside the last step; then item by item
  simp only [matchFreqAt, hfreq, hthz, hcm, Option.bind_eq_bind, Option.map_bind, Function.comp_def, Option.pure_def, Option.map_some,
    Generated.modeIndexRegex]
  refine (run_lits ['f', 'r', 'e', 'q'] _ _ _).trans (Option.bind_congr fun r1 _ => ?_)
  rw [run_space_star_lit '(' (by decide)]
  refine Option.bind_congr fun r2 _ => ?_
  rw [run_space_star _ _ _ (rejects_opn _ _ (rejects_plus .digit _ _ (fun c hc => space_not_digit c hc))),
    run_nat_group _ _ _ _ (rejects_one (.chr ')') _ _ (fun c hc => digit_ne ')' (by decide) c hc))]
  refine Option.bind_congr fun p0 _ => ?_
  obtain ⟨i, r3⟩ := p0
  rw [run_lit]
  refine Option.bind_congr fun r4 _ => ?_
  rw [run_space_star_lit '=' (by decide)]
  refine Option.bind_congr fun r5 _ => ?_
  rw [run_space_star _ _ _ (rejects_num_space _),
    run_num_group _ _ _ _ (Or.inl (rejects_star_lit_digdot '[' (by decide) (by decide) _))]
  refine Option.bind_congr fun p1 _ => ?_
  obtain ⟨a, r6⟩ := p1
  rw [run_space_star _ _ _ (rejects_one (.chr '[') _ _ (fun c hc => space_ne '[' (by decide) c hc))]
  refine (run_lits ['[', 'T', 'H', 'z', ']'] _ _ _).trans (Option.bind_congr fun r7 _ => ?_)
  rw [run_space_star_lit '=' (by decide)]
  refine Option.bind_congr fun r8 _ => ?_
  rw [run_space_star _ _ _ (rejects_num_space _),
    run_num_group _ _ _ _ (Or.inl (rejects_star_lit_digdot '[' (by decide) (by decide) _))]
  refine Option.bind_congr fun p2 _ => ?_
  obtain ⟨b, r9⟩ := p2
  rw [run_space_star _ _ _ (rejects_one (.chr '[') _ _ (fun c hc => space_ne '[' (by decide) c hc))]
  refine (run_lits ['[', 'c', 'm', '-', '1', ']'] _ _ _).trans (Option.bind_congr fun r10 _ => ?_)
  rfl

/-- `re.search`: at the leftmost start position, for any anchored matcher that agrees with a scanner -/
theorem search_of_run {β : Type} (items : List Item) (f : List Char → Option β) (g : β → List (List Char))
    (h : ∀ cs, run items ⟨[], []⟩ cs = (f cs).map g) (l : List Char) :
    search items l = (Evec.search f l).map g := by
  unfold search
  induction l with
  | nil => simp only [Evec.search]; exact h []
  | cons c t ih =>
    simp only [Evec.search]
    rw [h (c :: t)]
    cases f (c :: t) with
    | none => simpa using ih
    | some p => rfl

theorem search_qCoords (l : List Char) :
    search Generated.qCoordsRegex l = (Evec.search matchQAt l).map fun p => [p.1, p.2.1, p.2.2] :=
  search_of_run _ _ _ run_qCoords l

theorem search_modeIndex (l : List Char) :
    search Generated.modeIndexRegex l = (Evec.search matchFreqAt l).map fun p => [p.1, p.2.1, p.2.2] :=
  search_of_run _ _ _ run_modeIndex l

end Rx

/-! ### evec_load -/

section loadsrc
variable {Num : Type}

/-- the three line readers built from the extracted regexes, converters and column slices are the model's `concrete` readers -/
theorem specReaders_is_concrete (pf : List Char → Option Num) : specReaders Generated.loadSpec pf = concrete pf := by
  unfold specReaders concrete
  congr 1
  · funext l
    simp only [Generated.loadSpec, Rx.search_qCoords]
    cases Evec.search matchQAt l <;> rfl
  · funext l
    simp only [Generated.loadSpec, Rx.search_modeIndex]
    cases Evec.search matchFreqAt l <;> rfl
  · funext raw
    -- the six slices are read in the same order on both sides: associativity of `bind`
    simp only [Generated.loadSpec, readVecLine, if_true, List.mapM_cons, List.mapM_nil, bind_assoc, pure_bind]

theorem readModesS_is_model (S : LoadSpec) (hs : S.modeStripped = true) (hd : S.vecLinesDiv = 3)
    (R : LineReaders Num) (np : Nat) :
    ∀ (k : Nat) (ls : List (List Char)), readModesS S R np k ls = readModes R np k ls := by
  intro k
  induction k with
  | zero => intro ls; rfl
  | succ k ih =>
    intro ls
    cases ls with
    | nil => rfl
    | cons l ls => simp only [readModesS, readModes, hs, hd, if_true, ih]

section steps
variable (S : LoadSpec) (R : LineReaders Num) (np : Nat) (r : List QStep) (acc : QAcc Num)

theorem runQSteps_skip_zero (ls : List (List Char)) :
    runQSteps S R np (.skip 0 :: r) acc ls = runQSteps S R np r acc ls := by
  simp [runQSteps]

theorem runQSteps_skip_succ (k : Nat) (l : List Char) (ls : List (List Char)) :
    runQSteps S R np (.skip (k + 1) :: r) acc (l :: ls) = runQSteps S R np (.skip k :: r) acc ls := by
  simp [runQSteps]

theorem runQSteps_skip_nil (k : Nat) : runQSteps S R np (.skip (k + 1) :: r) acc [] = none := by
  simp [runQSteps]

end steps

/-- `nq` rounds of the extracted step list (two lines skipped, the q line, one skipped, `np` modes, one skipped) are the model's
`readQPoints`, for any line readers and any list of lines -/
theorem readQPointsS_is_model (R : LineReaders Num) (np : Nat) :
    ∀ (k : Nat) (ls : List (List Char)), readQPointsS Generated.loadSpec R np k ls = readQPoints R np k ls := by
  intro k
  induction k with
  | zero => intro ls; rfl
  | succ k ih =>
    intro ls
    have hm := readModesS_is_model Generated.loadSpec rfl rfl R np np
    have hq : Generated.loadSpec.qSteps = [.skip 2, .qLine, .skip 1, .modes, .skip 1] := rfl
    rw [readQPointsS, hq]
    rcases ls with _ | ⟨l1, _ | ⟨l2, _ | ⟨ql, ls⟩⟩⟩
    · rw [runQSteps_skip_nil]; rfl
    · rw [runQSteps_skip_succ, runQSteps_skip_nil]; rfl
    · rw [runQSteps_skip_succ, runQSteps_skip_succ, runQSteps_skip_zero]; rfl
    · rw [runQSteps_skip_succ, runQSteps_skip_succ, runQSteps_skip_zero, runQSteps]
      have hs : (if Generated.loadSpec.qStripped = true then strip ql else ql) = strip ql := rfl
      rw [hs]
      cases ls with
      | nil => cases R.readQ (strip ql) <;> rfl
      | cons l4 rest =>
        rw [readQPoints]
        cases R.readQ (strip ql) with
        | none => rfl
        | some q =>
          simp only [Option.bind_eq_bind, Option.bind_some]
          rw [runQSteps_skip_succ, runQSteps_skip_zero, runQSteps, hm]
          cases readModes R np np rest with
          | none => rfl
          | some p =>
            obtain ⟨ms, r⟩ := p
            cases r with
            | nil => rfl
            | cons x r' =>
              simp only [Option.bind_eq_bind, Option.bind_some]
              rw [runQSteps_skip_succ, runQSteps_skip_zero]
              simp only [runQSteps, Option.bind_some, ih r']

/-- `evec_load` as the source says it (both regex literals run by a backtracking matcher, the six column slices
paired real/imaginary as written, `np // 3` lines per mode, `(int, float, float)` on the groups, the step list of `_read_q_points`,
every line stripped before it is used) is the model's `evecLoad` — for every `float`, every `nq`, `np` and every list of lines. -/
theorem evecLoadS_is_evecLoad (pf : List Char → Option Num) (nq np : Nat) (file : List (List Char)) :
    evecLoadS Generated.loadSpec pf nq np file = evecLoad pf nq np file := by
  unfold evecLoadS evecLoad
  have h3 : (Generated.loadSpec.vecLinesDiv == 0) = false := by decide
  rw [h3, specReaders_is_concrete]
  exact readQPointsS_is_model _ np nq file

end loadsrc

end Cij.EvecSrc
