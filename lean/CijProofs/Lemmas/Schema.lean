/-
  Validation against a JSON schema (`CijModel/Schema.lean`): what validity gives at a path (`valid_applic`), that replacing
  one value by an acceptable one keeps validity (`valid_setPath`), and decidable checks on a translated schema (`enforced`,
  `leafImplied`, `requiredAt`, `closedAt`, `scalarTyped`) that turn a documented constraint into a theorem about every
  configuration.
-/
import CijProofs.Lemmas.Config
import CijModel.Schema

namespace Cij.Schema
open Cij Cij.Config

section kw
variable (rec : J → J → Bool) (root : J) (whole : KV) (a x : J)

theorem kwOk_type : kwOk rec root whole "type" a x = typeKw a x := by simp [kwOk]
theorem kwOk_required : kwOk rec root whole "required" a x = requiredKw a x := by simp [kwOk]
theorem kwOk_enum : kwOk rec root whole "enum" a x = enumKw a x := by simp [kwOk]
theorem kwOk_minimum : kwOk rec root whole "minimum" a x = minimumKw a x := by simp [kwOk]
theorem kwOk_ref : kwOk rec root whole "$ref" a x = refKw rec root a x := by simp [kwOk]
theorem kwOk_properties : kwOk rec root whole "properties" a x = propsKw rec a x := by simp [kwOk]
theorem kwOk_additional : kwOk rec root whole "additionalProperties" a x = apKw rec whole a x := by simp [kwOk]

theorem kwOk_cases (kw : String) :
    kw = "type" ∨ kw = "required" ∨ kw = "enum" ∨ kw = "minimum" ∨ kw = "$ref" ∨ kw = "properties" ∨
    kw = "additionalProperties" ∨ (∀ y, kwOk rec root whole kw a y = true) := by
  refine Classical.byContradiction fun hne => ?_
  simp only [not_or, Classical.not_forall] at hne
  obtain ⟨h1, h2, h3, h4, h5, h6, h7, y, hy⟩ := hne
  exact hy (by simp [kwOk, h1, h2, h3, h4, h5, h6, h7])
end kw

theorem valid_zero (root S x : J) : valid root 0 S x = false := by
  cases S <;> rfl

theorem valid_succ_obj (root : J) (n : Nat) (kws : KV) (x : J) :
    valid root (n + 1) (.obj kws) x = kws.all (fun e => kwOk (valid root n) root kws e.1 e.2 x) := rfl

theorem valid_succ_bool (root : J) (n : Nat) (b : Bool) (x : J) : valid root (n + 1) (.bool b) x = b := rfl

theorem valid_false_schema (root : J) (n : Nat) (x : J) : valid root n (.bool false) x = false := by
  cases n <;> rfl

/-- a valid instance: every keyword entry of the schema object holds -/
theorem valid_entry {root : J} {n : Nat} {kws : KV} {x : J} (h : valid root (n + 1) (.obj kws) x = true)
    {e : String × J} (he : e ∈ kws) : kwOk (valid root n) root kws e.1 e.2 x = true := by
  rw [valid_succ_obj, List.all_eq_true] at h
  exact h e he

/-- a schema that accepts something with fuel `m` is a schema object or `true`, and `m > 0` -/
theorem valid_true_cases {root : J} {m : Nat} {T x : J} (h : valid root m T x = true) :
    ∃ n, m = n + 1 ∧ (T = .bool true ∨ ∃ kws, T = .obj kws) := by
  cases m with
  | zero => rw [valid_zero] at h; cases h
  | succ n =>
    refine ⟨n, rfl, ?_⟩
    cases T with
    | bool b => simp [valid] at h; exact Or.inl (by rw [h])
    | obj kws => exact Or.inr ⟨kws, rfl⟩
    | _ => simp [valid] at h

theorem mem_childSchemas {kws : KV} {k : String} {C : J} :
    C ∈ childSchemas (.obj kws) k ↔ ∃ e ∈ kws,
      (e.1 = "properties" ∧ ∃ props, e.2 = .obj props ∧ ∃ q ∈ props, q.1 = k ∧ q.2 = C) ∨
      (e.1 = "additionalProperties" ∧ (propKeys kws).contains k = false ∧ C = e.2) := by
  simp only [childSchemas, List.mem_flatMap]
  constructor
  · rintro ⟨e, he, hC⟩
    refine ⟨e, he, ?_⟩
    by_cases h1 : e.1 = "properties"
    · left
      refine ⟨h1, ?_⟩
      simp only [h1, if_true] at hC
      cases h2 : e.2 with
      | obj props =>
        simp only [h2, List.mem_filterMap] at hC
        obtain ⟨q, hq, hqC⟩ := hC
        by_cases hk : q.1 = k
        · simp only [hk, if_true, Option.some.injEq] at hqC
          exact ⟨props, rfl, q, hq, hk, hqC⟩
        · simp [hk] at hqC
      | _ => simp [h2] at hC
    · right
      simp only [h1, if_false] at hC
      by_cases h2 : e.1 = "additionalProperties"
      · have hC' : k ∉ propKeys kws ∧ C = e.2 := by simpa [h2] using hC
        exact ⟨h2, by simpa using hC'.1, hC'.2⟩
      · simp [h2] at hC
  · rintro ⟨e, he, h | h⟩
    · obtain ⟨h1, props, h2, q, hq, hk, hqC⟩ := h
      refine ⟨e, he, ?_⟩
      simp only [h1, if_true, h2, List.mem_filterMap]
      exact ⟨q, hq, by simp [hk, hqC]⟩
    · obtain ⟨h1, h2, h3⟩ := h
      refine ⟨e, he, ?_⟩
      have h2' : k ∉ propKeys kws := by simpa using h2
      simp [h1, h2', h3]

theorem childSchemas_nonobj {S : J} (h : isObj S = false) (k : String) : childSchemas S k = [] := by
  cases S <;> simp_all [childSchemas, isObj]

theorem mem_refTargets {root : J} {kws : KV} {T : J} :
    T ∈ refTargets root (.obj kws) ↔ ∃ e ∈ kws, e.1 = "$ref" ∧ ∃ r, e.2 = .str r ∧ resolve root r = some T := by
  simp only [refTargets, List.mem_filterMap]
  constructor
  · rintro ⟨e, he, h⟩
    refine ⟨e, he, ?_⟩
    by_cases h1 : e.1 = "$ref"
    · simp only [h1, if_true] at h
      cases h2 : e.2 <;> simp only [h2] at h <;> try (simp at h)
      exact ⟨h1, _, rfl, h⟩
    · simp [h1] at h
  · rintro ⟨e, he, h1, r, h2, h3⟩
    exact ⟨e, he, by simp [h1, h2, h3]⟩

theorem refTargets_nonobj {root S : J} (h : isObj S = false) : refTargets root S = [] := by
  cases S <;> simp_all [refTargets, isObj]

/-- validity of a dict instance passes to the value of key `k` under each child schema -/
theorem child_valid {root : J} {n : Nat} {S : J} {ikv : KV} {k : String} {y C : J}
    (h : valid root (n + 1) S (.obj ikv) = true) (hC : C ∈ childSchemas S k) (hk : lookup k ikv = some y) :
    valid root n C y = true := by
  cases hS : isObj S with
  | false => rw [childSchemas_nonobj hS] at hC; simp at hC
  | true =>
    obtain ⟨kws, rfl⟩ := exists_obj_of_isObj hS
    obtain ⟨e, he, hcase⟩ := mem_childSchemas.1 hC
    have hv := valid_entry h he
    rcases hcase with ⟨h1, props, h2, q, hq, hqk, hqC⟩ | ⟨h1, h2, h3⟩
    · rw [h1, kwOk_properties, h2] at hv
      simp only [propsKw, List.all_eq_true] at hv
      have := hv q hq
      rw [hqk, hk] at this
      rw [← hqC]; exact this
    · rw [h1, kwOk_additional] at hv
      simp only [apKw, extrasOk, List.all_eq_true] at hv
      have := hv (k, y) (lookup_mem hk)
      simp only [h2, Bool.false_or] at this
      rw [h3]; exact this

/-- validity passes to the target of a `$ref` -/
theorem ref_valid {root : J} {n : Nat} {S x T : J}
    (h : valid root (n + 1) S x = true) (hT : T ∈ refTargets root S) : valid root n T x = true := by
  cases hS : isObj S with
  | false => rw [refTargets_nonobj hS] at hT; simp at hT
  | true =>
    obtain ⟨kws, rfl⟩ := exists_obj_of_isObj hS
    obtain ⟨e, he, h1, r, h2, h3⟩ := mem_refTargets.1 hT
    have hv := valid_entry h he
    rw [h1, kwOk_ref, h2] at hv
    simpa [refKw, h3] using hv

theorem applic_succ (root : J) (n : Nat) (S : J) (p : List String) :
    applic root (n + 1) S p =
      (match p with
       | [] => [(n + 1, S)]
       | k :: q => (childSchemas S k).flatMap (fun C => applic root n C q))
      ++ (refTargets root S).flatMap (fun T => applic root n T p) := rfl

/-- **Soundness of `applic`**: in a valid configuration the value at path `p` satisfies every schema that
applies there. -/
theorem valid_applic (root : J) : ∀ (n : Nat) (S x : J), valid root n S x = true →
    ∀ (p : List String) (v : J), get x p = some v → ∀ mT ∈ applic root n S p, valid root mT.1 mT.2 v = true := by
  intro n
  induction n with
  | zero => intro S x h; rw [valid_zero] at h; cases h
  | succ n ih =>
    intro S x h p v hg mT hm
    rw [applic_succ, List.mem_append] at hm
    rcases hm with hm | hm
    · cases p with
      | nil =>
        simp only [List.mem_singleton] at hm
        subst hm
        simp only [Config.get, Option.some.injEq] at hg
        subst hg; exact h
      | cons k q =>
        simp only [List.mem_flatMap] at hm
        obtain ⟨C, hC, hm⟩ := hm
        obtain ⟨ikv, y, rfl, hk, hy⟩ := get_cons_some hg
        exact ih C y (child_valid h hC hk) q v hy mT hm
    · simp only [List.mem_flatMap] at hm
      obtain ⟨T, hT, hm⟩ := hm
      exact ih T x (ref_valid h hT) p v hg mT hm

theorem typeKw_obj (a : J) (i1 i2 : KV) : typeKw a (.obj i1) = typeKw a (.obj i2) := by
  cases a <;> simp [typeKw, typeOk, isObj, isNumber, isInteger]

theorem enumKw_obj (a : J) (i : KV) : enumKw a (.obj i) = false := by
  cases a <;> simp [enumKw]
  intro e _
  cases e <;> simp [pyEqAtom]

theorem minimumKw_obj (a : J) (i1 i2 : KV) : minimumKw a (.obj i1) = minimumKw a (.obj i2) := by
  cases a <;> simp [minimumKw, minOk]

/-- one keyword keeps holding when the value of key `k` of a dict instance is replaced by `y'`, provided
`y'` satisfies the child schemas this keyword applies to `k` and (for `$ref`) the target accepts the new dict -/
theorem kwOk_setKey {rec : J → J → Bool} {root : J} {kws : KV} {e : String × J} {ikv : KV} {k : String} {y' : J}
    (he : e ∈ kws)
    (hx : kwOk rec root kws e.1 e.2 (.obj ikv) = true)
    (hchild : ∀ C ∈ childSchemas (.obj kws) k, rec C y' = true)
    (href : ∀ T ∈ refTargets root (.obj kws), rec T (.obj (setKey k y' ikv)) = true) :
    kwOk rec root kws e.1 e.2 (.obj (setKey k y' ikv)) = true := by
  obtain ⟨kw, a⟩ := e
  simp only at hx ⊢
  rcases kwOk_cases rec root kws a kw with h | h | h | h | h | h | h | h
  · subst h; rw [kwOk_type] at hx ⊢; rw [typeKw_obj a _ ikv]; exact hx
  · subst h; rw [kwOk_required] at hx ⊢
    cases a <;> simp only [requiredKw] at hx ⊢ <;> try exact hx
    rw [List.all_eq_true] at hx ⊢
    intro n hn
    have := hx n hn
    cases n <;> simp only at this ⊢ <;> try exact this
    exact hasKey_setKey_of_hasKey this
  · subst h; rw [kwOk_enum, enumKw_obj] at hx; cases hx
  · subst h; rw [kwOk_minimum] at hx ⊢; rw [minimumKw_obj a _ ikv]; exact hx
  · subst h; rw [kwOk_ref] at hx ⊢
    cases a <;> simp only [refKw] at hx ⊢ <;> try exact hx
    rename_i r
    cases hr : resolve root r with
    | none => simp [hr] at hx
    | some T =>
      simp only []
      exact href T (mem_refTargets.2 ⟨_, he, rfl, r, rfl, hr⟩)
  · subst h; rw [kwOk_properties] at hx ⊢
    cases a <;> simp only [propsKw] at hx ⊢ <;> try exact hx
    rename_i props
    rw [List.all_eq_true] at hx ⊢
    intro q hq
    rw [lookup_setKey]
    by_cases hqk : q.1 = k
    · simp only [hqk, if_true]
      exact hchild q.2 (mem_childSchemas.2 ⟨_, he, Or.inl ⟨rfl, props, rfl, q, hq, hqk, rfl⟩⟩)
    · simp only [hqk, if_false]
      exact hx q hq
  · subst h; rw [kwOk_additional] at hx ⊢
    simp only [apKw, extrasOk, List.all_eq_true] at hx ⊢
    intro kv hkv
    rcases mem_setKey hkv with h | h
    · subst h
      cases hc : (propKeys kws).contains k with
      | true => simp
      | false =>
        simp only [Bool.false_or]
        exact hchild a (mem_childSchemas.2 ⟨_, he, Or.inr ⟨rfl, hc, rfl⟩⟩)
    · exact hx kv h
  · exact h _

/-- **Replacement**: a valid configuration stays valid when the value at `p` is replaced (or a new key is
added to an existing dict) by a value that satisfies every schema applying at `p`. -/
theorem valid_setPath (root : J) : ∀ (n : Nat) (S x : J), valid root n S x = true →
    ∀ (p : List String) (v' : J), parentIsDict x p = true →
      (∀ mT ∈ applic root n S p, valid root mT.1 mT.2 v' = true) → valid root n S (setPath x p v') = true := by
  intro n
  induction n with
  | zero => intro S x h; rw [valid_zero] at h; cases h
  | succ n ih =>
    intro S x h p v' hp H
    cases p with
    | nil =>
      have := H (n + 1, S) (by rw [applic_succ]; simp)
      simpa [setPath] using this
    | cons k q =>
      -- the instance is a dict
      cases x <;> simp only [parentIsDict] at hp <;> try (cases hp)
      rename_i ikv
      -- new value of key k
      have hchildH : ∀ C ∈ childSchemas S k, ∀ mT ∈ applic root n C q, valid root mT.1 mT.2 v' = true := by
        intro C hC mT hm
        apply H
        rw [applic_succ, List.mem_append]
        exact Or.inl (List.mem_flatMap.2 ⟨C, hC, hm⟩)
      have hrefH : ∀ T ∈ refTargets root S, ∀ mT ∈ applic root n T (k :: q), valid root mT.1 mT.2 v' = true := by
        intro T hT mT hm
        apply H
        rw [applic_succ, List.mem_append]
        exact Or.inr (List.mem_flatMap.2 ⟨T, hT, hm⟩)
      have hpx : parentIsDict (.obj ikv) (k :: q) = true := by simpa [parentIsDict] using hp
      have hchild : ∀ C ∈ childSchemas S k,
          valid root n C (setPath (match lookup k ikv with | some x => x | none => .obj []) q v') = true := by
        intro C hC
        cases hl : lookup k ikv with
        | some y =>
          simp only [hl] at hp ⊢
          exact ih C y (child_valid h hC hl) q v' hp (hchildH C hC)
        | none =>
          simp only [hl, List.isEmpty_iff] at hp ⊢
          subst hp
          simp only [setPath]
          -- (n, C) or the poison entry (0, C) is in `applic root n C []`
          cases n with
          | zero => have := hchildH C hC (0, C) (by simp [applic]); rw [valid_zero] at this; cases this
          | succ m => exact hchildH C hC (m + 1, C) (by rw [applic_succ]; simp)
      have href : ∀ T ∈ refTargets root S, valid root n T (setPath (.obj ikv) (k :: q) v') = true := by
        intro T hT
        exact ih T (.obj ikv) (ref_valid h hT) (k :: q) v' hpx (hrefH T hT)
      rw [setPath_cons_obj] at href ⊢
      cases S with
      | bool b => simpa [valid] using h
      | obj kws =>
        rw [valid_succ_obj, List.all_eq_true]
        intro e he
        exact kwOk_setKey he (valid_entry h he) hchild href
      | _ => simp [valid] at h

/-- a documented constraint of one field: JSON type, optional minimum (as the rational a/b), optional list
of admissible strings -/
structure Spec where
  type : String
  minimum : Option (Int × Nat) := none
  enum : Option (List String) := none

def Spec.holds (κ : Spec) (v : J) : Bool :=
  typeOk κ.type v &&
  (match κ.minimum with | some (a, b) => minOk a b v | none => true) &&
  (match κ.enum with
   | some L => (match v with | .str s => L.contains s | _ => false)
   | none => true)

def entries : J → KV
  | .obj kws => kws
  | _ => []

/-- some applicable schema carries `"type": κ.type` -/
def typeEnforced (κ : Spec) (Ts : List (Nat × J)) : Bool :=
  Ts.any (fun mT => (entries mT.2).any (fun e => decide (e.1 = "type") && decide (e.2 = .str κ.type)))

/-- some applicable schema carries `"minimum": a/b` (same numerator and denominator) -/
def minEnforced (a : Int) (b : Nat) (Ts : List (Nat × J)) : Bool :=
  Ts.any (fun mT => (entries mT.2).any (fun e => decide (e.1 = "minimum") &&
    (match e.2 with | .num n d _ => decide (n = a) && decide (d = b) | _ => false)))

/-- some applicable schema carries an `enum` all of whose entries are documented strings -/
def enumEnforced (L : List String) (Ts : List (Nat × J)) : Bool :=
  Ts.any (fun mT => (entries mT.2).any (fun e => decide (e.1 = "enum") &&
    (match e.2 with
     | .arr es => es.all (fun x => match x with | .str s => L.contains s | _ => false)
     | _ => false)))

/-- every part of the documented constraint is imposed by some schema applying at the field -/
def enforced (κ : Spec) (Ts : List (Nat × J)) : Bool :=
  typeEnforced κ Ts &&
  (match κ.minimum with | some (a, b) => minEnforced a b Ts | none => true) &&
  (match κ.enum with | some L => enumEnforced L Ts | none => true)

theorem pyEqAtom_str {s : String} {v : J} (h : pyEqAtom (.str s) v = true) : v = .str s := by
  cases v <;> simp [pyEqAtom] at h
  rw [h]

theorem entry_of_valid {root : J} {m : Nat} {T v : J} (h : valid root m T v = true) {e : String × J}
    (he : e ∈ entries T) : ∃ n kws, m = n + 1 ∧ T = .obj kws ∧ kwOk (valid root n) root kws e.1 e.2 v = true := by
  obtain ⟨n, rfl, hT | ⟨kws, rfl⟩⟩ := valid_true_cases h
  · subst hT; simp [entries] at he
  · exact ⟨n, kws, rfl, rfl, valid_entry h he⟩

/-- a value that satisfies all applicable schemas satisfies every documented constraint they enforce -/
theorem holds_of_enforced {root : J} {κ : Spec} {Ts : List (Nat × J)} {v : J}
    (henf : enforced κ Ts = true) (hv : ∀ mT ∈ Ts, valid root mT.1 mT.2 v = true) : κ.holds v = true := by
  simp only [enforced, Bool.and_eq_true] at henf
  obtain ⟨⟨ht, hm⟩, hen⟩ := henf
  simp only [Spec.holds, Bool.and_eq_true]
  refine ⟨⟨?_, ?_⟩, ?_⟩
  · simp only [typeEnforced, List.any_eq_true, Bool.and_eq_true, decide_eq_true_eq] at ht
    obtain ⟨mT, hmT, e, he, h1, h2⟩ := ht
    obtain ⟨n, kws, _, _, hk⟩ := entry_of_valid (hv mT hmT) he
    rw [h1, kwOk_type, h2] at hk
    simpa [typeKw] using hk
  · cases hmin : κ.minimum with
    | none => rfl
    | some ab =>
      obtain ⟨a, b⟩ := ab
      simp only [hmin] at hm ⊢
      simp only [minEnforced, List.any_eq_true, Bool.and_eq_true, decide_eq_true_eq] at hm
      obtain ⟨mT, hmT, e, he, h1, h2⟩ := hm
      obtain ⟨n, kws, _, _, hk⟩ := entry_of_valid (hv mT hmT) he
      rw [h1, kwOk_minimum] at hk
      cases he2 : e.2 <;> simp only [he2] at h2 <;> try (cases h2)
      simp only [Bool.and_eq_true, decide_eq_true_eq] at h2
      rw [he2] at hk
      simp only [minimumKw] at hk
      rw [← h2.1, ← h2.2]; exact hk
  · cases hen' : κ.enum with
    | none => rfl
    | some L =>
      simp only [hen'] at hen ⊢
      simp only [enumEnforced, List.any_eq_true, Bool.and_eq_true, decide_eq_true_eq] at hen
      obtain ⟨mT, hmT, e, he, h1, h2⟩ := hen
      obtain ⟨n, kws, _, _, hk⟩ := entry_of_valid (hv mT hmT) he
      rw [h1, kwOk_enum] at hk
      cases he2 : e.2 <;> simp only [he2] at h2 <;> try (cases h2)
      rename_i es
      rw [he2] at hk
      simp only [enumKw, List.any_eq_true] at hk
      obtain ⟨x, hx, hxv⟩ := hk
      rw [List.all_eq_true] at h2
      have hxL := h2 x hx
      cases x <;> simp only at hxL <;> try (cases hxL)
      rename_i s
      rw [pyEqAtom_str hxv]
      exact hxL

/-- the keyword entry only asks for (part of) the documented constraint, and does not descend -/
def entryImplied (κ : Spec) (e : String × J) : Bool :=
  if e.1 = "type" then decide (e.2 = .str κ.type)
  else if e.1 = "minimum" then
    (match e.2, κ.minimum with
     | .num n d _, some (a, b) => decide (n = a) && decide (d = b)
     | _, _ => false)
  else if e.1 = "enum" then
    (match e.2, κ.enum with
     | .arr es, some L => L.all (fun s => es.contains (.str s))
     | _, _ => false)
  else if e.1 = "required" ∨ e.1 = "$ref" ∨ e.1 = "properties" ∨ e.1 = "additionalProperties" then false
  else true

/-- the applicable schema is a schema object evaluated with fuel left, all of whose keywords are implied by κ -/
def leafImplied (κ : Spec) (mT : Nat × J) : Bool :=
  mT.1 != 0 && (match mT.2 with | .obj kws => kws.all (entryImplied κ) | _ => false)

theorem valid_of_leafImplied {root : J} {κ : Spec} {mT : Nat × J} {v : J}
    (hl : leafImplied κ mT = true) (hv : κ.holds v = true) : valid root mT.1 mT.2 v = true := by
  obtain ⟨m, T⟩ := mT
  simp only [leafImplied, Bool.and_eq_true, bne_iff_ne, ne_eq] at hl
  obtain ⟨hm, hT⟩ := hl
  cases m with
  | zero => exact absurd rfl hm
  | succ n =>
    cases T <;> simp only at hT <;> try (cases hT)
    rename_i kws
    simp only [Spec.holds, Bool.and_eq_true] at hv
    obtain ⟨⟨hvt, hvm⟩, hve⟩ := hv
    rw [valid_succ_obj, List.all_eq_true]
    intro e he
    rw [List.all_eq_true] at hT
    have hi := hT e he
    obtain ⟨kw, a⟩ := e
    simp only [entryImplied] at hi
    simp only
    rcases kwOk_cases (valid root n) root kws a kw with h | h | h | h | h | h | h | h
    · subst h
      simp only [if_true, decide_eq_true_eq] at hi
      rw [kwOk_type, hi]; simpa [typeKw] using hvt
    · subst h; simp at hi
    · subst h
      have h0 : ¬ ("enum" = "type") := by decide
      have h1 : ¬ ("enum" = "minimum") := by decide
      simp only [h0, h1, if_false, if_true] at hi
      rw [kwOk_enum]
      cases hL : κ.enum with
      | none => cases a <;> simp [hL] at hi
      | some L =>
        cases a with
        | arr es =>
          simp only [hL] at hi hve
          cases v with
          | str s =>
            simp only at hve
            rw [List.all_eq_true] at hi
            have := hi s (by simpa using hve)
            simp only [enumKw, List.any_eq_true]
            exact ⟨.str s, by simpa using this, by simp [pyEqAtom]⟩
          | _ => simp at hve
        | _ => simp at hi
    · subst h
      have h0 : ¬ ("minimum" = "type") := by decide
      simp only [h0, if_false, if_true] at hi
      rw [kwOk_minimum]
      cases hM : κ.minimum with
      | none => cases a <;> simp [hM] at hi
      | some ab =>
        obtain ⟨a', b'⟩ := ab
        cases a with
        | num n d i =>
          simp only [hM, Bool.and_eq_true, decide_eq_true_eq] at hi hvm
          simp only [minimumKw]
          rw [hi.1, hi.2]; exact hvm
        | _ => simp at hi
    · subst h; simp at hi
    · subst h; simp at hi
    · subst h; simp at hi
    · exact h v

/-- some applicable schema lists `n` under `required` -/
def requiredAt (n : String) (Ts : List (Nat × J)) : Bool :=
  Ts.any (fun mT => (entries mT.2).any (fun e => decide (e.1 = "required") &&
    (match e.2 with | .arr ns => ns.contains (.str n) | _ => false)))

theorem hasKey_of_requiredAt {root : J} {n : String} {Ts : List (Nat × J)} {ikv : KV}
    (hr : requiredAt n Ts = true) (hv : ∀ mT ∈ Ts, valid root mT.1 mT.2 (.obj ikv) = true) :
    hasKey n ikv = true := by
  simp only [requiredAt, List.any_eq_true, Bool.and_eq_true, decide_eq_true_eq] at hr
  obtain ⟨mT, hmT, e, he, h1, h2⟩ := hr
  obtain ⟨m, kws, _, _, hk⟩ := entry_of_valid (hv mT hmT) he
  rw [h1, kwOk_required] at hk
  cases he2 : e.2 <;> simp only [he2] at h2 <;> try (cases h2)
  rename_i ns
  rw [he2] at hk
  simp only [requiredKw, List.all_eq_true] at hk
  have := hk (.str n) (by simpa using h2)
  simpa using this

/-- some applicable schema has `additionalProperties: false` and lists only keys from `L` under `properties` -/
def closedAt (L : List String) (Ts : List (Nat × J)) : Bool :=
  Ts.any (fun mT => (entries mT.2).any (fun e => decide (e.1 = "additionalProperties") && decide (e.2 = .bool false))
    && (propKeys (entries mT.2)).all (fun k => L.contains k))

theorem keys_of_closedAt {root : J} {L : List String} {Ts : List (Nat × J)} {ikv : KV}
    (hc : closedAt L Ts = true) (hv : ∀ mT ∈ Ts, valid root mT.1 mT.2 (.obj ikv) = true) :
    ∀ k y, lookup k ikv = some y → k ∈ L := by
  intro k y hk
  simp only [closedAt, List.any_eq_true, Bool.and_eq_true, decide_eq_true_eq, List.all_eq_true] at hc
  obtain ⟨mT, hmT, ⟨e, he, h1, h2⟩, hL⟩ := hc
  obtain ⟨m, kws, _, hT, hkw⟩ := entry_of_valid (hv mT hmT) he
  rw [h1, kwOk_additional, h2] at hkw
  simp only [apKw, extrasOk, List.all_eq_true] at hkw
  have := hkw (k, y) (lookup_mem hk)
  rw [valid_false_schema] at this
  simp only [Bool.or_false] at this
  rw [hT] at hL
  simp only [entries] at hL
  have hkL := hL k (by simpa using this)
  simpa using hkL

/-- a key outside `L`, in a dictionary that some schema applying there closes to `L`, makes the configuration invalid -/
theorem validate_unknown_key {root cfg : J} {p L : List String} {k : String} {x : J}
    (hc : closedAt L (applicable root p) = true) (hg : get cfg (p ++ [k]) = some x) (hk : k ∉ L) :
    validate root cfg = false := by
  refine Bool.eq_false_iff.2 fun hv => ?_
  obtain ⟨ikv, h1, h2⟩ := get_append_singleton hg
  exact hk (keys_of_closedAt hc (valid_applic root fuel root cfg hv _ _ h1) k x h2)

/-- some applicable schema demands a JSON type other than "object" -/
def scalarTyped (Ts : List (Nat × J)) : Bool :=
  Ts.any (fun mT => (entries mT.2).any (fun e => decide (e.1 = "type") &&
    ["string", "number", "integer", "boolean", "array", "null"].any (fun t => decide (e.2 = .str t))))

theorem not_obj_of_scalarTyped {root : J} {Ts : List (Nat × J)} {ikv : KV} (hs : scalarTyped Ts = true)
    (hv : ∀ mT ∈ Ts, valid root mT.1 mT.2 (.obj ikv) = true) : False := by
  simp only [scalarTyped, List.any_eq_true, Bool.and_eq_true, decide_eq_true_eq] at hs
  obtain ⟨mT, hmT, e, he, h1, t, ht, h2⟩ := hs
  obtain ⟨n, kws, _, _, hk⟩ := entry_of_valid (hv mT hmT) he
  rw [h1, kwOk_type, h2] at hk
  simp only [List.mem_cons, List.not_mem_nil, or_false] at ht
  rcases ht with rfl | rfl | rfl | rfl | rfl | rfl <;> simp [typeKw, typeOk, isNumber, isInteger] at hk

/-- In a user configuration that is valid under `root`, a dictionary can stand over a non-dictionary value of the
default `D` only at one of the `free` leaf paths of `D`, provided every other leaf path of `D` is typed as a
non-object by the schema (`hleaves`, a decidable check on the translated data). -/
theorem takenWhole_free_of_valid {root D u : J} {n : Nat} {free : List (List String)}
    (hdepth : depthLe n D = true)
    (hleaves : ∀ q ∈ leafPaths n D, q ∈ free ∨ scalarTyped (applicable root q) = true)
    (hv : validate root u = true) {p : List String} (ht : TakenWhole u D p) :
    ∃ q ∈ free, q <+: p ∧ walk u q = .dictAt := by
  obtain ⟨q, r, v, hp, hu, hd⟩ := ht
  obtain ⟨q', hq', r', hr'⟩ := exists_leafPath_prefix q D n hdepth (Or.inl ⟨v, hd⟩)
  have huq : walk u q' = .dictAt := walk_dictAt_prefix q' r' (hr' ▸ hu)
  rcases hleaves q' hq' with h | h
  · exact ⟨q', h, ⟨r' ++ r, by rw [hp, ← hr', List.append_assoc]⟩, huq⟩
  · exfalso
    obtain ⟨ikv, hg⟩ := walk_eq_dictAt.1 huq
    exact not_obj_of_scalarTyped h (valid_applic root fuel root u hv q' _ hg)

end Cij.Schema
