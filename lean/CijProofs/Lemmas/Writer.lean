/- Lemmas about the writer model (`CijModel/Writer.lean`): registry, grids, what `write_table` and one rule write, and the
directory after a sequence of writes. -/
import CijModel.Writer
import Mathlib.Algebra.Ring.Basic
import Mathlib.Data.List.Basic
import Mathlib.Data.List.Nodup
import Mathlib.Tactic.Ring

namespace Cij.Writer

open Generated (WriterRule)

theorem dictGet_dictSet {β} (d : List (String × β)) (k k' : String) (v : β) :
    dictGet (dictSet d k v) k' = if k' = k then some v else dictGet d k' := by
  induction d with
  | nil =>
    by_cases h : k' = k
    · simp [dictSet, dictGet, h]
    · simp [dictSet, dictGet, h, Ne.symm h]
  | cons e t ih =>
    simp only [dictGet] at ih
    by_cases hk : e.1 = k <;> by_cases hk' : e.1 = k' <;> by_cases h : k' = k <;>
      simp_all [dictSet, dictGet]

theorem dictGet_fold_keywords {β} (ks : List String) (r : β) (reg : List (String × β)) (kw : String) :
    dictGet (ks.foldl (fun reg k => dictSet reg k r) reg) kw = if kw ∈ ks then some r else dictGet reg kw := by
  induction ks generalizing reg with
  | nil => simp
  | cons k t ih =>
    simp only [List.foldl_cons, ih, dictGet_dictSet, List.mem_cons]
    by_cases h1 : kw ∈ t
    · simp [h1]
    · by_cases h2 : kw = k <;> simp [h1, h2]

theorem dictGet_fold_rules (rules : List WriterRule) (reg : List (String × WriterRule)) (kw : String) :
    dictGet (rules.foldl (fun reg r => r.keywords.foldl (fun reg k => dictSet reg k r) reg) reg) kw =
      match rules.reverse.find? (fun r => decide (kw ∈ r.keywords)) with
      | some r => some r
      | none => dictGet reg kw := by
  induction rules generalizing reg with
  | nil => simp
  | cons r t ih =>
    simp only [List.foldl_cons, ih, List.reverse_cons, List.find?_append]
    cases h : List.find? (fun r => decide (kw ∈ r.keywords)) t.reverse with
    | some r' => simp
    | none =>
      by_cases hk : kw ∈ r.keywords
      · simp [dictGet_fold_keywords, hk]
      · simp [dictGet_fold_keywords, hk]

/-- the registry gives the LAST rule (in file order) that lists the keyword -/
theorem resolveIn_eq_last (rules : List WriterRule) (kw : String) :
    resolveIn rules kw = rules.reverse.find? (fun r => decide (kw ∈ r.keywords)) := by
  unfold resolveIn initRules
  rw [dictGet_fold_rules]
  cases List.find? (fun r => decide (kw ∈ r.keywords)) rules.reverse <;> simp [dictGet]

theorem optAll_eq_some {β} (l : List (Option β)) (r : List β) : optAll l = some r ↔ l = r.map some := by
  induction l generalizing r with
  | nil => cases r <;> simp [optAll]
  | cons x xs ih =>
    cases x with
    | none => cases r <;> simp [optAll]
    | some y =>
      cases h : optAll xs with
      | none =>
        have hne : ∀ r', xs ≠ List.map some r' := fun r' e => by simpa [h] using (ih r').2 e
        cases r <;> simp [optAll, h, hne]
      | some ys =>
        cases r with
        | nil => simp [optAll, h]
        | cons a r' => simp [optAll, h, ← ih r']

theorem optAll_map_some {β} (r : List β) : optAll (r.map some) = some r := (optAll_eq_some _ _).2 rfl

theorem dropLast4_arange {α} [Add α] [Mul α] [NatCast α] (t0 dt : α) (n : Nat) :
    dropLast4 (arange t0 (n + 4) dt) = arange t0 n dt := by
  simp [dropLast4, arange, ← List.map_take, List.take_range]

theorem length_arange {α} [Add α] [Mul α] [NatCast α] (t0 dt : α) (n : Nat) : (arange t0 n dt).length = n := by
  simp [arange]

theorem getElem?_arange {α} [Add α] [Mul α] [NatCast α] (t0 dt : α) (n k : Nat) (h : k < n) :
    (arange t0 n dt)[k]? = some (t0 + dt * (k : α)) := by
  simp [arange, h]

theorem map_mul_map_mul {α} [Monoid α] (l : List α) (c d : α) (h : c * d = 1) :
    (l.map (· * c)).map (· * d) = l := by
  simp [Function.comp_def, mul_assoc, h]

theorem writeTable_some {α} [Mul α] (U : Units α) (b : Base α) (fname : String) (value : Matrix α) (t : Table α)
    (h : writeTable U b fname value = some t) :
    t.fname = fname ∧ t.corner = (if b.pressureBase then "T(K)\\P(GPa)" else "T(K)\\V(A^3)") ∧
    t.rows = dropLast4 b.tArray ∧
    t.cols = b.axis.map (fun x => x * (if b.pressureBase then U.toGPa else U.toAng3)) ∧
    t.vals = dropLast4 value := by
  unfold writeTable at h
  by_cases hc : (value.length == b.tArray.length && value.all fun row =>
      row.length == (b.axis.map fun x => x * (if b.pressureBase then U.toGPa else U.toAng3)).length) = true
  · simp only [hc, if_true, Option.some.injEq] at h
    subst h; exact ⟨rfl, rfl, rfl, rfl, rfl⟩
  · simp only [hc] at h; cases h

theorem writeTable_shape_ok {α} [Mul α] (U : Units α) (b : Base α) (fname : String) (value : Matrix α)
    (hrows : value.length = b.tArray.length) (hcols : ∀ row ∈ value, row.length = b.axis.length) :
    writeTable U b fname value = some
      { fname := fname
        corner := if b.pressureBase then "T(K)\\P(GPa)" else "T(K)\\V(A^3)"
        rows := dropLast4 b.tArray
        cols := b.axis.map (fun x => x * (if b.pressureBase then U.toGPa else U.toAng3))
        vals := dropLast4 value } := by
  unfold writeTable
  have : (value.length == b.tArray.length && value.all fun row =>
      row.length == (b.axis.map fun x => x * (if b.pressureBase then U.toGPa else U.toAng3)).length) = true := by
    simp only [Bool.and_eq_true, beq_iff_eq, List.all_eq_true, List.length_map]
    exact ⟨hrows, hcols⟩
  simp only [this, if_true]

theorem writeTable_rename {α} [Mul α] (U : Units α) (b : Base α) (f f' : String) (value : Matrix α) :
    writeTable U b f' value = (writeTable U b f value).map (fun t => { t with fname := f' }) := by
  unfold writeTable
  split <;> simp

theorem dropLast4_scale {α} [Mul α] (k : α) (m : Matrix α) : dropLast4 (scale k m) = scale k (dropLast4 m) := by
  simp [dropLast4, scale, List.map_take]

theorem writeRule_ij_some {α} [Mul α] {U : Units α} {r : WriterRule} {b : Base α} {cfg : Option Config}
    {items : List (Modulus × Matrix α)} {k : α} {ts : List (Table α)}
    (hr : r.varType = "ij_value") (hprop : dictGet b.props r.prop = some (.items items))
    (hk : factorOf U r cfg = some k) (h : writeRule U r b cfg = some ts) :
    ts.length = items.length ∧
    ∀ i (hi : i < items.length) (hi' : i < ts.length),
      some (ts[i]).fname = (cfg.bind (·.fname)).or (ijFname r b.baseName (items[i]).1) ∧
      (ts[i]).rows = dropLast4 b.tArray ∧
      (ts[i]).cols = b.axis.map (· * (if b.pressureBase then U.toGPa else U.toAng3)) ∧
      (ts[i]).vals = scale k (dropLast4 (items[i]).2) := by
  simp only [writeRule, hr, writeIjVariable, hk, hprop, Option.bind_some, beq_self_eq_true, if_true,
    Option.bind_eq_bind] at h
  have hmap := (optAll_eq_some _ _).1 h
  have hlen : ts.length = items.length := by simpa using (congrArg List.length hmap).symm
  refine ⟨hlen, fun i hi hi' => ?_⟩
  have hi_eq := congrArg (fun l => l[i]?) hmap
  simp only [List.getElem?_map, List.getElem?_eq_getElem hi, List.getElem?_eq_getElem hi', Option.map_some] at hi_eq
  obtain ⟨fn, hfn, hw⟩ : ∃ fn, (cfg.bind (·.fname)).or (ijFname r b.baseName (items[i]).1) = some fn ∧
      writeTable U b fn (scale k (items[i]).2) = some ts[i] := by
    cases hf : cfg.bind (·.fname) with
    | some f => exact ⟨f, rfl, by simpa [hf] using hi_eq⟩
    | none =>
      cases hfn : ijFname r b.baseName (items[i]).1 with
      | none => simp [hf, hfn] at hi_eq
      | some fn => exact ⟨fn, rfl, by simpa [hf, hfn] using hi_eq⟩
  obtain ⟨h1, _, h3, h4, h5⟩ := writeTable_some U b fn _ _ hw
  exact ⟨by rw [h1, hfn], h3, h4, by rw [h5, dropLast4_scale]⟩

theorem writeRule_value {α} [Mul α] {U : Units α} {r : WriterRule} {b : Base α} {cfg : Option Config} {m : Matrix α} {k : α} {f : String}
    (hr : r.varType = "value") (hprop : dictGet b.props r.prop = some (.value m))
    (hk : factorOf U r cfg = some k) (hf : (cfg.bind (·.fname)).or (valueFname r b.baseName) = some f)
    (hrows : m.length = b.tArray.length) (hcols : ∀ row ∈ m, row.length = b.axis.length) :
    writeRule U r b cfg = some [
      { fname := f
        corner := if b.pressureBase then "T(K)\\P(GPa)" else "T(K)\\V(A^3)"
        rows := dropLast4 b.tArray
        cols := b.axis.map (· * (if b.pressureBase then U.toGPa else U.toAng3))
        vals := scale k (dropLast4 m) }] := by
  have hshape := writeTable_shape_ok U b f (scale k m) (by simpa [scale] using hrows)
    (by intro row hrow; simp only [scale, List.mem_map] at hrow; obtain ⟨r0, hr0, rfl⟩ := hrow
        simpa using hcols r0 hr0)
  cases h : cfg.bind (·.fname) with
  | some f' =>
    have : f' = f := by simpa [h] using hf
    simp [writeRule, hr, writeVariable, hk, hprop, h, this, hshape, dropLast4_scale]
  | none =>
    have : valueFname r b.baseName = some f := by simpa [h] using hf
    simp [writeRule, hr, writeVariable, hk, hprop, h, this, hshape, dropLast4_scale]
theorem dictSet_new {β} (d : List (String × β)) (k : String) (v : β) (h : k ∉ d.map (·.1)) :
    dictSet d k v = d ++ [(k, v)] := by
  induction d with
  | nil => rfl
  | cons e t ih =>
    obtain ⟨a, b⟩ := e
    simp only [List.map_cons, List.mem_cons, not_or] at h
    have : (a == k) = false := by simpa using fun e => h.1 e.symm
    simp [dictSet, this, ih h.2]

theorem filesAfter_fold_nodup {α} (ts : List (Table α)) (d : List (String × Table α))
    (h : (d.map (·.1) ++ ts.map (·.fname)).Nodup) :
    ts.foldl (fun d t => dictSet d t.fname t) d = d ++ ts.map (fun t => (t.fname, t)) := by
  induction ts generalizing d with
  | nil => simp
  | cons t rest ih =>
    have hnew : t.fname ∉ d.map (·.1) := by
      intro hm
      have := List.nodup_append.1 h
      exact this.2.2 _ hm _ (by simp) rfl
    simp only [List.foldl_cons, dictSet_new d t.fname t hnew]
    rw [ih]
    · simp
    · simp only [List.map_append, List.map_cons, List.map_nil, List.append_assoc, List.singleton_append]
      simpa using h

theorem filesAfter_of_nodup {α} (ts : List (Table α)) (h : (ts.map (·.fname)).Nodup) :
    filesAfter ts = ts.map (fun t => (t.fname, t)) := by
  unfold filesAfter
  rw [filesAfter_fold_nodup ts [] (by simpa using h)]; simp

theorem filesAfter_fold_same {α} (ts : List (Table α)) (f : String) (t0 : Table α)
    (h : ∀ t ∈ ts, t.fname = f) :
    ts.foldl (fun d t => dictSet d t.fname t) [(f, t0)] = [(f, (ts.getLast?).getD t0)] := by
  induction ts generalizing t0 with
  | nil => simp
  | cons t rest ih =>
    have ht : t.fname = f := h t (by simp)
    simp only [List.foldl_cons, ht, dictSet, beq_self_eq_true, if_true]
    rw [ih t (fun x hx => h x (by simp [hx]))]
    cases rest with
    | nil => simp
    | cons a r => simp [List.getLast?_eq_getLast_of_ne_nil]

theorem filesAfter_same_name {α} (ts : List (Table α)) (f : String) (hne : ts ≠ [])
    (h : ∀ t ∈ ts, t.fname = f) : filesAfter ts = [(f, ts.getLast hne)] := by
  cases ts with
  | nil => exact absurd rfl hne
  | cons t rest =>
    unfold filesAfter
    have ht : t.fname = f := h t (by simp)
    simp only [List.foldl_cons, dictSet, ht]
    rw [filesAfter_fold_same rest f t (fun x hx => h x (by simp [hx]))]
    cases rest with
    | nil => simp
    | cons a r => simp [List.getLast?_eq_getLast_of_ne_nil]

theorem ijFnames_sublist {rules : List WriterRule} {r : WriterRule} (hr : r ∈ rules) (hij : r.varType = "ij_value")
    (base : String) :
    (keys21.map fun p => ijFname r base (keyOfVoigt p)).Sublist (allFnames rules base) := by
  have h : ruleFnames r base = keys21.map fun p => ijFname r base (keyOfVoigt p) := by simp [ruleFnames, hij]
  rw [← h, allFnames, List.flatMap_def]
  exact List.sublist_flatten_of_mem (List.mem_map_of_mem hr)

end Cij.Writer
