/-
  C18 — the `Float` environment of the driver (`Ops.C18.extFloat`; `fill_cij` = `Ops.C18.fillViaRat`: the model `Fill.fill` over `Rat`
  on the exact values of the doubles, default keyword arguments, no user file) satisfies `FillFrame`, so the interpretation of the
  translated blocks that the op `c18.run` executes with `"check_source": true` equals `runWith` on every input
  (`run_is_source_driver`).  That the comparison of the two printed results by `Float.toBits` then answers `true` is not proved here.
-/
import CijProofs.Lemmas.StaticFill
import CijModel.Ops.C18

namespace Cij.StaticSrc
open Cij Cij.Static

/-- frames with the same labels are `Good` together (whatever the cell types) -/
theorem good_of_names {α β : Type} (t : Table α) (t' : Table β) (h : t'.map (·.1) = t.map (·.1)) (G : Good t) : Good t' := by
  have m : ∀ n, (getCol t n).isSome → (getCol t' n).isSome := fun n hn => by
    rw [← mem_names_iff, h, mem_names_iff]; exact hn
  exact ⟨h ▸ G.1, m _ G.2.1, m _ G.2.2.1, m _ G.2.2.2⟩

theorem names_mapM_cells {α β : Type} (f : α → Option β) (t : Table α) (tq : Table β)
    (h : t.mapM (fun c => (c.2.mapM f).map fun col => (c.1, col)) = some tq) : tq.map (·.1) = t.map (·.1) := by
  induction t generalizing tq with
  | nil => simp only [List.mapM_nil, pure, Option.some.injEq] at h; subst h; rfl
  | cons c r ih =>
    simp only [List.mapM_cons, bind, Option.bind_eq_some_iff, Option.map_eq_some_iff, pure, Option.some.injEq] at h
    obtain ⟨c', ⟨col, _, rfl⟩, r', hr, rfl⟩ := h
    simp only [List.map_cons, ih r' hr]

theorem fillFrame_driver : FillFrame Ops.C18.extFloat := by
  intro s t t' G h
  change Ops.C18.fillViaRat s t = some t' at h
  unfold Ops.C18.fillViaRat at h
  split at h
  · cases h
  · rename_i tq htq
    have Gq : Good tq := good_of_names t tq (names_mapM_cells _ t tq htq) G
    simp only at h
    split at h
    · rename_i out hout
      simp only [Option.some.injEq] at h
      subst h
      refine good_of_names out _ ?_ (fill_model_good _ _ _ tq out hout Gq).1
      rw [List.map_map]
      rfl
    · cases h

attribute [local instance] Cij.Ops.C18.natCastFloat

/-- the two runs the op `c18.run` compares under `"check_source": true` (the definitions the handler calls) are equal, on
    every input -/
theorem run_is_source_driver (u : Static.Units Float) (o : Options Float) (d1 : QhaInput.Data Float)
    (d2 : Option (ElastDat.ElastData Float)) : Ops.C18.runSource u o d1 d2 = Ops.C18.runModel u o d1 d2 :=
  run_is_source ⟨Ops.C18.fitViaRat, Ops.C18.extFloat, u, o, d1, d2⟩ fillFrame_driver

end Cij.StaticSrc
