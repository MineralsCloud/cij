/- The assembled table theorem (parts A and B) + re-export of the system certificates.  See LaueCertDefs.lean. -/
import CijProofs.Lemmas.LaueTablesA
import CijProofs.Lemmas.LaueTablesB
import CijProofs.Lemmas.LaueSysCerts
namespace Cij.Laue
open Cij.Certs

theorem defect_table (g : Gen) (a b : Fin 21) : defectZ g a b = look (defectLit g) a.val b.val := by
  rw [defectFast_eq]
  have hg : g ∈ [Gen.twoX, .twoY, .twoZ] ∨ g ∈ [Gen.fourZ, .threeZ, .sixZ, .three111] := by cases g <;> decide
  exact hg.elim (defect_partA g · a b) (defect_partB g · a b)

end Cij.Laue
