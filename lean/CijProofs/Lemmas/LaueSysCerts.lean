/-
  Kernel checks of the certificates of the nine packaged systems against the relation rows translated from /repo
  on THIS run (`Generated.constraints_*`).  See LaueCertDefs.lean.  No Mathlib.
  An edited sign or factor in a constraints file makes the corresponding `cert_<system>` fail to check
  (tools/gen_certs.py then finds no certificate and writes an empty one).

  `certOK` reads every matrix entry through two list lookups.  The kernel evaluates `certRows` instead, which
  fetches each row once as a list and combines whole rows; `certOK_of_rows` shows that it implies `certOK`.
-/
import CijProofs.Lemmas.LaueCertDefs
namespace Cij.Laue
open Cij.Certs

/-- `Σ_{e ∈ l} e.coef · S[e.src]` as a list of 21 columns -/
def rowComb (S : Nat → List ZS) (l : List (Nat × Int × Int)) : List ZS :=
  l.foldr (fun e acc => List.zipWith (fun s a => zsOf e * s + a) (S e.1) acc) (List.replicate 21 0)

def combRows (d : Int) (T : Nat → List ZS) (nT : Nat) (S : Nat → List ZS) (L : List (List (Nat × Int × Int))) : Bool :=
  decide (d ≠ 0) && (List.range nT).all fun t =>
    decide ((T t).length = 21) && decide ((T t).map (ZS.ofInt d * ·) = rowComb S (L.getD t []))

def Krow (rows : List (List Int × Int)) (i : Nat) : List ZS := (rows.getD i ([], 0)).1.map ZS.ofInt

def Nrow (gens : List Gen) (k : Nat) : List ZS :=
  match gens[k / 21]? with
  | some g => ((defectLit g).getD (k % 21) []).map fun p => ⟨p.1, p.2⟩
  | none => []

def certRows (name : String) (rows : List (List Int × Int)) : Bool :=
  let c := sysCert name
  let gens := laueGens name
  wellFormed rows
    && combRows c.d1 (Krow rows) rows.length (Nrow gens) c.l1
    && combRows c.d2 (Nrow gens) (21 * gens.length) (Krow rows) c.l2

/-- an entry of `rowComb`, where there is one, is the sum `combCheck` forms (`zipWith` may only drop columns) -/
theorem rowComb_getElem? (S : Nat → List ZS) (j : Nat) : ∀ (l : List (Nat × Int × Int)) (v : ZS),
    (rowComb S l)[j]? = some v → v = l.foldr (fun e acc => zsOf e * (S e.1).getD j 0 + acc) 0
  | [], v, h => by
    simp only [rowComb, List.foldr, List.getElem?_replicate] at h
    split at h <;> simp_all
  | e :: l, v, h => by
    simp only [rowComb, List.foldr, List.getElem?_zipWith] at h
    split at h
    · next a b ha hb =>
      have := rowComb_getElem? S j l b hb
      simp_all [List.getD_eq_getElem?_getD]
    · simp at h

theorem combCheck_of_rows {d : Int} {T S : Nat → List ZS} {nT : Nat} {L : List (List (Nat × Int × Int))}
    (h : combRows d T nT S L = true) :
    combCheck d (fun t j => (T t).getD j 0) nT (fun k j => (S k).getD j 0) L = true := by
  simp only [combRows, combCheck, Bool.and_eq_true, decide_eq_true_eq, List.all_eq_true, List.mem_range] at h ⊢
  refine ⟨h.1, fun t ht j hj => ?_⟩
  obtain ⟨hl, he⟩ := h.2 t ht
  have hj' : j < (T t).length := by omega
  apply rowComb_getElem? S j
  rw [← he, List.getElem?_map, List.getElem?_eq_getElem hj', List.getD_eq_getElem?_getD, List.getElem?_eq_getElem hj']
  rfl

theorem Kmat_eq (rows : List (List Int × Int)) : Kmat rows = fun i j => (Krow rows i).getD j 0 := by
  funext i j
  simp only [Kmat, Krow, List.getD_eq_getElem?_getD, List.getElem?_map]
  cases (rows[i]?.getD ([], 0)).1[j]? <;> rfl

theorem Nstack_eq (gens : List Gen) : Nstack gens = fun k j => (Nrow gens k).getD j 0 := by
  funext k j
  simp only [Nstack, Nrow]
  cases gens[k / 21]? with
  | none => rfl
  | some g =>
    simp only [look, List.getD_eq_getElem?_getD, List.getElem?_map]
    cases ((defectLit g)[k % 21]?.getD [])[j]? <;> rfl

theorem certOK_of_rows {name : String} {rows : List (List Int × Int)} (h : certRows name rows = true) :
    certOK name rows = true := by
  simp only [certRows, certOK, Bool.and_eq_true, Kmat_eq, Nstack_eq] at h ⊢
  exact ⟨⟨h.1.1, combCheck_of_rows h.1.2⟩, combCheck_of_rows h.2⟩

theorem cert_triclinic : certOK "triclinic" Generated.constraints_triclinic = true :=
  certOK_of_rows (by decide +kernel)
theorem cert_monoclinic : certOK "monoclinic" Generated.constraints_monoclinic = true :=
  certOK_of_rows (by decide +kernel)
theorem cert_orthorhombic : certOK "orthorhombic" Generated.constraints_orthorhombic = true :=
  certOK_of_rows (by decide +kernel)
theorem cert_tetragonal7 : certOK "tetragonal7" Generated.constraints_tetragonal7 = true :=
  certOK_of_rows (by decide +kernel)
theorem cert_tetragonal6 : certOK "tetragonal6" Generated.constraints_tetragonal6 = true :=
  certOK_of_rows (by decide +kernel)
theorem cert_trigonal7 : certOK "trigonal7" Generated.constraints_trigonal7 = true :=
  certOK_of_rows (by decide +kernel)
theorem cert_trigonal6 : certOK "trigonal6" Generated.constraints_trigonal6 = true :=
  certOK_of_rows (by decide +kernel)
theorem cert_hexagonal : certOK "hexagonal" Generated.constraints_hexagonal = true :=
  certOK_of_rows (by decide +kernel)
theorem cert_cubic : certOK "cubic" Generated.constraints_cubic = true :=
  certOK_of_rows (by decide +kernel)

end Cij.Laue
