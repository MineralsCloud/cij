/-
  Every view of the 21 keys and 6 strains read off the translated source of `cij/util/voigt.py` (`Generated.VoigtSrc.module` under
  `PyLite.eval`): Voigt pair, standard quadruple, multiplicity, flags, calc_type, repr.  `decide +kernel`.
-/
import CijProofs.Lemmas.Voigt
import CijModel.VoigtSrc

namespace Cij.VoigtSrc
open PyLite

/-- every view of each of the 21 keys, read off the translated source: Voigt pair, standard quadruple (the documented map),
multiplicity, the three flags, calc_type, repr -/
theorem src_views : ∀ p ∈ keys21,
    srcVoigt (keyOfVoigt p) = some [p.1, p.2] ∧
    srcStandard (keyOfVoigt p) = some (stdOf p.1 ++ stdOf p.2) ∧
    srcMultiplicity (keyOfVoigt p) = some (Int.ofNat (keyOfVoigt p).multiplicity) ∧
    srcFlag "is_longitudinal" (keyOfVoigt p) = some (keyOfVoigt p).isLongitudinal ∧
    srcFlag "is_off_diagonal" (keyOfVoigt p) = some (keyOfVoigt p).isOffDiagonal ∧
    srcFlag "is_shear" (keyOfVoigt p) = some (keyOfVoigt p).isShear ∧
    srcCalcType (keyOfVoigt p) = some (calcName (keyOfVoigt p).calcType) ∧
    strOfR (srcRepr (keyOfVoigt p)) = some (reprSpec p) := by decide +kernel

theorem src_viewsE : ∀ v ∈ idx6, ∃ s, Strain.fromVoigt v = some s ∧
    intOf (srcProp "StrainRepresentation" "voigt" (Strain.toVal s)) = some v ∧
    intsOf (srcProp "StrainRepresentation" "standard" (Strain.toVal s)) = some (stdOf v) ∧
    strOfR (srcReprE s) = some (reprSpecE v) := by decide +kernel

/-- canonical ordering: whatever the order of the arguments, the Voigt view of the key the source builds is ascending -/
def ascending : Option (List Int) → Bool
  | some [a, b] => decide (a ≤ b)
  | _ => false

end Cij.VoigtSrc
