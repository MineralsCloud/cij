/-
  The point formulas of `CijModel/VRH.lean` ARE the expressions the translator extracts from the bodies of the
  averaging / velocity properties of `CijVolumeBaseInterface` on this run (`Generated/VRHExprs.lean`) — for every scalar
  type, hence also for the `Float` run.  All by unfolding.
-/
import CijModel.VExpr
import Generated.VRHExprs

namespace Cij.VExpr
open Cij.VRH

variable {α : Type} [Scalar α] [Add α] [Sub α] [Mul α] [Div α]

/-- the lookup the averages use (for `c` and for `s`): only the nine orthotropic entries are read -/
def cEnv (c11 c22 c33 c12 c23 c13 c44 c55 c66 : α) : Nat → Nat → α
  | 1, 1 => c11 | 2, 2 => c22 | 3, 3 => c33 | 1, 2 => c12 | 2, 3 => c23 | 1, 3 => c13
  | 4, 4 => c44 | 5, 5 => c55 | 6, 6 => c66 | _, _ => nat 0

theorem bulkVoigt_is_source (c11 c22 c33 c12 c23 c13 c44 c55 c66 : α) (e : Env α)
    (he : e.c = cEnv c11 c22 c33 c12 c23 c13 c44 c55 c66) :
    bulkVoigtPt c11 c22 c33 c12 c23 c13 = eval e Generated.vrhBulkVoigt := by
  simp only [Generated.vrhBulkVoigt, eval, he, cEnv]; rfl

theorem shearVoigt_is_source (c11 c22 c33 c12 c23 c13 c44 c55 c66 : α) (e : Env α)
    (he : e.c = cEnv c11 c22 c33 c12 c23 c13 c44 c55 c66) :
    shearVoigtPt c11 c22 c33 c12 c23 c13 c44 c55 c66 = eval e Generated.vrhShearVoigt := by
  simp only [Generated.vrhShearVoigt, eval, he, cEnv]; rfl

theorem bulkReuss_is_source (s11 s22 s33 s12 s23 s13 s44 s55 s66 : α) (e : Env α)
    (he : e.s = cEnv s11 s22 s33 s12 s23 s13 s44 s55 s66) :
    bulkReussPt s11 s22 s33 s12 s23 s13 = eval e Generated.vrhBulkReuss := by
  simp only [Generated.vrhBulkReuss, eval, he, cEnv]; rfl

theorem shearReuss_is_source (s11 s22 s33 s12 s23 s13 s44 s55 s66 : α) (e : Env α)
    (he : e.s = cEnv s11 s22 s33 s12 s23 s13 s44 s55 s66) :
    shearReussPt s11 s22 s33 s12 s23 s13 s44 s55 s66 = eval e Generated.vrhShearReuss := by
  simp only [Generated.vrhShearReuss, eval, he, cEnv]; rfl

theorem hill_is_source (e : Env α) :
    hillPt (e.prop .kR) (e.prop .kV) = eval e Generated.vrhBulkHill ∧
    hillPt (e.prop .gR) (e.prop .gV) = eval e Generated.vrhShearHill := ⟨rfl, rfl⟩

theorem mass_is_source (e : Env α) : mass e.cellmass e.avogadro = eval e Generated.vrhMass := rfl

theorem vp_is_source (e : Env α) :
    vpPt (e.prop .kH) (e.prop .gH) e.V e.ryFactor e.mass = eval e Generated.vrhVp := rfl

theorem vs_is_source (e : Env α) :
    vsPt (e.prop .gH) e.V e.ryFactor e.mass = eval e Generated.vrhVs := rfl

end Cij.VExpr
