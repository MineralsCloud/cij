/-
  `CijModel/VolOrder.lean` IS what `QHACalculator.read_input` says (Generated/VolOrderSpec.lean, tools/gens/volorder_src.py), and what
  its check means on ordered scalars: `numpy.all(numpy.diff(a) <= 0)` ⇔ pairwise non-increasing; a permutation of a strictly
  decreasing list that is still non-increasing is the same list; without strictness only the list of keys is the same.
-/
import CijModel.VolOrder
import Generated.VolOrderSpec
import Mathlib.Algebra.Order.Field.Basic
import Mathlib.Data.List.Nodup

namespace Cij.VolOrder
open Cij.QhaInput

/-! ### model = translated statements (every scalar type) -/

section Generic
variable {α : Type} [Sub α] [OfNat α 0] [LT α] [DecidableLT α] [LE α] [DecidableLE α]

/-- the hand-written `is_monotonic_decreasing` is the test the installed qha spells (`numpy.all(numpy.diff(array) <op> 0)`, `<op>`
read from qha/tools.py on this run) -/
theorem isMonotonicDecreasing_is_source (a : List α) :
    isMonotonicDecreasing a = allDiff Generated.VolOrder.qhaMonotonicOp a := rfl

/-- **model-is-source for `read_input`**: running the translated statements in order on an empty calculator gives, for every data
set, exactly what `readInput` gives — the same exception, or the five attributes holding the same arrays -/
theorem readInput_is_source (d : Data α) :
    evalSteps d Generated.VolOrder.readInputSteps [] = (readInput d).map QhaArrays.toStore := by
  unfold readInput isMonotonicDecreasing
  simp only [Generated.VolOrder.readInputSteps, evalSteps, evalStep, scalarField, Store.get, List.lookup, blockArray]
  have h1 : ("_volumes" == "_volumes") = true := by decide
  simp only [h1]
  cases allDiff Cmp.le (List.map (fun x => x.volume) d.volumes) <;> rfl

/-- `numpy.all(numpy.diff(a) <op> 0)` when `<op> 0` on a difference means a transitive relation `R` between the two neighbours:
every earlier entry is `R`-related to every later one -/
theorem allDiff_iff_pairwise (op : Cmp) (R : α → α → Prop) (hR : ∀ x y, cmp op (y - x) 0 = true ↔ R x y)
    (htrans : ∀ x y z, R x y → R y z → R x z) (a : List α) : allDiff op a = true ↔ a.Pairwise R := by
  induction a with
  | nil => simp [allDiff, diff]
  | cons x t ih =>
    cases t with
    | nil => simp [allDiff, diff]
    | cons y t' =>
      have hstep : allDiff op (x :: y :: t') = (cmp op (y - x) 0 && allDiff op (y :: t')) := rfl
      rw [hstep, Bool.and_eq_true, ih, hR, List.pairwise_cons (a := x)]
      constructor
      · rintro ⟨hxy, hp⟩
        refine ⟨fun z hz => ?_, hp⟩
        rcases List.mem_cons.mp hz with rfl | hz
        · exact hxy
        · exact htrans _ _ _ hxy ((List.pairwise_cons.mp hp).1 z hz)
      · rintro ⟨hall, hp⟩
        exact ⟨hall y List.mem_cons_self, hp⟩

end Generic

/-! ### what the test means on an ordered field -/

section Ordered
variable {K : Type} [Field K] [LinearOrder K] [IsStrictOrderedRing K]

theorem allDiff_le_iff (a : List K) : allDiff .le a = true ↔ a.Pairwise fun x y => y ≤ x :=
  allDiff_iff_pairwise .le (fun x y => y ≤ x) (fun x y => by simp [cmp]) (fun _ _ _ h1 h2 => le_trans h2 h1) a

theorem allDiff_lt_iff (a : List K) : allDiff .lt a = true ↔ a.Pairwise fun x y => y < x :=
  allDiff_iff_pairwise .lt (fun x y => y < x) (fun x y => by simp [cmp]) (fun _ _ _ h1 h2 => lt_trans h2 h1) a

theorem allDiff_lt_nodup (a : List K) (h : allDiff .lt a = true) : a.Nodup :=
  ((allDiff_lt_iff a).mp h).imp fun hlt => (ne_of_lt hlt).symm

omit [Field K] [IsStrictOrderedRing K] in
theorem key_injOn_of_decreasing {β : Type} (f : β → K) (l : List β) (h : l.Pairwise fun a b => f b < f a) :
    ∀ a ∈ l, ∀ b ∈ l, f a = f b → a = b := by
  induction l with
  | nil => intro a ha; cases ha
  | cons x t ih =>
    obtain ⟨hx, ht⟩ := List.pairwise_cons.mp h
    intro a ha b hb hab
    rcases List.mem_cons.mp ha with hax | hat <;> rcases List.mem_cons.mp hb with hbx | hbt
    · rw [hax, hbx]
    · subst hax; exact absurd hab (ne_of_gt (hx b hbt))
    · subst hbx; exact absurd hab (ne_of_lt (hx a hat))
    · exact ih ht a hat b hbt hab

omit [Field K] [IsStrictOrderedRing K] in
/-- **the list lemma.**  `l` is strictly decreasing under the key `f`; `l'` lists the same elements in some order (`List.Perm`) and is
still non-increasing under `f`: then `l' = l`. -/
theorem perm_eq_of_decreasing {β : Type} (f : β → K) (l l' : List β) (hp : l'.Perm l)
    (hl : l.Pairwise fun a b => f b < f a) (hl' : l'.Pairwise fun a b => f b ≤ f a) : l' = l :=
  List.Perm.eq_of_pairwise (le := fun a b => f b ≤ f a)
    (fun a b ha hb h1 h2 => key_injOn_of_decreasing f l hl a (hp.subset ha) b hb (le_antisymm h2 h1))
    hl' (hl.imp le_of_lt) hp

omit [Field K] [IsStrictOrderedRing K] in
/-- without strictness: two non-increasing listings of the same elements carry the same list of keys (they can differ only by the
order of elements with EQUAL keys) -/
theorem perm_map_eq_of_nonincreasing {β : Type} (f : β → K) (l l' : List β) (hp : l'.Perm l)
    (hl : l.Pairwise fun a b => f b ≤ f a) (hl' : l'.Pairwise fun a b => f b ≤ f a) : l'.map f = l.map f :=
  List.Perm.eq_of_pairwise (le := fun x y => y ≤ x) (fun _ _ _ _ h1 h2 => le_antisymm h2 h1)
    (List.pairwise_map.mpr hl') (List.pairwise_map.mpr hl) (hp.map f)

/-- `readInput` answers iff the volumes are non-increasing in file order, and then with every array in file order -/
theorem readInput_ok_iff (d : Data K) :
    (readInput d = .ok { nm := d.nm, volumes := d.volumes.map (·.volume), energies := d.volumes.map (·.energy),
                         frequencies := d.volumes.map fun v => v.qPoints.map (·.modes),
                         weights := d.weights.map (·.weight) }) ↔
      d.volumes.Pairwise fun a b => b.volume ≤ a.volume := by
  have key : isMonotonicDecreasing (d.volumes.map (·.volume)) = true ↔ d.volumes.Pairwise fun a b => b.volume ≤ a.volume := by
    rw [← List.pairwise_map (f := fun v : VolumeData K => v.volume) (R := fun x y => y ≤ x)]
    exact allDiff_le_iff _
  unfold readInput
  dsimp only
  split
  · rename_i h
    have h' : isMonotonicDecreasing (d.volumes.map (·.volume)) = false := by simpa using h
    constructor
    · intro e; cases e
    · intro hp; rw [key.mpr hp] at h'; cases h'
  · rename_i h
    have h' : isMonotonicDecreasing (d.volumes.map (·.volume)) = true := by simpa using h
    exact ⟨fun _ => key.mp h', fun _ => rfl⟩

/-- … and otherwise raises exactly the guard's exception -/
theorem readInput_error_iff (d : Data K) :
    readInput d = .error (.raised "RuntimeError") ↔ ¬ d.volumes.Pairwise fun a b => b.volume ≤ a.volume := by
  have key : isMonotonicDecreasing (d.volumes.map (·.volume)) = true ↔ d.volumes.Pairwise fun a b => b.volume ≤ a.volume := by
    rw [← List.pairwise_map (f := fun v : VolumeData K => v.volume) (R := fun x y => y ≤ x)]
    exact allDiff_le_iff _
  unfold readInput
  dsimp only
  split
  · rename_i h
    have h' : isMonotonicDecreasing (d.volumes.map (·.volume)) = false := by simpa using h
    refine ⟨fun _ hp => ?_, fun _ => rfl⟩
    rw [key.mpr hp] at h'
    cases h'
  · rename_i h
    have h' : isMonotonicDecreasing (d.volumes.map (·.volume)) = true := by simpa using h
    constructor
    · intro e; cases e
    · intro hn; exact absurd (key.mp h') hn

end Ordered

end Cij.VolOrder
