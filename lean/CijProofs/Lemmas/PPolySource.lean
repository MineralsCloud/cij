/-
  The wiring of `CijModel/PPoly.lean` into `interpolate_mode_ppoly` IS what `cij/core/mode_gamma.py` says on this run, and the constants of the
  slope rules are the ones of the installed scipy: `tools/gens/ppoly.py` extracts them on every run
  (`Generated/PPolySpec.lean`, `Generated/ScipyCubicSpec.lean`); the theorems below compare them with the model's definitions.
-/
import CijModel.PPoly
import Generated.PPolySpec
import Generated.ScipyCubicSpec
import Mathlib.Algebra.Field.Basic
import Mathlib.Data.Nat.Cast.Basic
import Mathlib.Tactic.NormNum

set_option linter.unusedSectionVars false

namespace Cij.PPoly
open Cij.Interp

/-- the `scipy.interpolate` class behind a method of the ppoly branch: `kernelFull` runs `pchipInterpolant` (model of `PchipInterpolator`)
for `pchip`, `akimaInterpolant` (model of `Akima1DInterpolator`) for `akima`; for `hermite` the source names `CubicHermiteSpline`, whose
2-argument call is the `TypeError` of `interpolateMode` -/
def scipyClass : Method → Option String
  | .pchip => some "PchipInterpolator"
  | .akima => some "Akima1DInterpolator"
  | .hermite => some "CubicHermiteSpline"
  | _ => none

/-- the dispatch chain of the source names, for each of its three method strings, the class the model implements for that method -/
theorem dispatch_is_source :
    Generated.ppolyDispatch.map (·.1) = ["pchip", "akima", "hermite"] ∧
      ∀ e ∈ Generated.ppolyDispatch, scipyClass (Method.ofString e.1) = some e.2 := by decide

section Eval
variable {α : Type} [Add α] [Sub α] [Mul α] [Div α] [Neg α] [Zero α] [One α] [NatCast α] [LT α] [DecidableLT α] [LE α] [DecidableLE α]

/-- `interp(q, nu, extrapolate)`: with `extrapolate=False` scipy writes NaN outside `[x[0], x[-1]]` (no value: `none`) -/
def evalBySpec (extrapolate : Bool) (xs ys ds : List α) (nu : Nat) (q : α) : Option α :=
  if extrapolate then evalAt xs ys ds nu q
  else match xs.head?, xs.getLast? with
    | some a, some b => if a ≤ q ∧ q ≤ b then evalAt xs ys ds nu q else none
    | _, _ => none

/-- the evaluation calls as extracted: `(nu, extrapolate keyword)`; a call without the keyword uses the class default `dflt`
(`PchipInterpolator`: True, `Akima1DInterpolator`: False) -/
def sampleBySpec (calls : List (Nat × Option Bool)) (dflt : Bool) (xs ys ds : List α) (q : α) : Option (List α) :=
  calls.mapM fun c => evalBySpec (c.2.getD dflt) xs ys ds c.1 q

def tripleOfList : List α → Option (Triple α)
  | [a, b, c] => some (a, b, c)
  | _ => none

/-- the model's `sample` evaluates exactly the three calls the source makes on this run: `nu = 0, 1, 2`, each with `extrapolate=True`
(so the class default never matters) -/
theorem sample_is_source (dflt : Bool) (xs ys ds : List α) (q : α) :
    sample xs ys ds q = (sampleBySpec Generated.ppolyEvalCalls dflt xs ys ds q).bind tripleOfList := by
  simp only [sample, sampleBySpec, Generated.ppolyEvalCalls, List.mapM_cons, List.mapM_nil, evalBySpec, Option.getD_some, if_true]
  cases evalAt xs ys ds 0 q <;> cases evalAt xs ys ds 1 q <;> cases evalAt xs ys ds 2 q <;> rfl

end Eval

section Ctor
variable {α : Type} [Neg α] [Zero α] [ExpLog α]

/-- interpretation of one extracted constructor argument `(array name, logged?, flipped?)` on the (thinned) node arrays -/
def ctorArgBySpec (sp : String × Bool × Bool) (vols freqs : List α) : Option (List α) :=
  let base := if sp.1 == "mode_volumes" then some vols else if sp.1 == "mode_freqs" then some freqs else none
  base.map fun l =>
    let l := if sp.2.1 then l.map ExpLog.log else l
    if sp.2.2 then l.reverse else l

/-- the kernel call of the ppoly branch — `finishMode I` on the thinned node arrays flipped by `modeNodes` — receives exactly the two
positional arguments the source passes to the constructor on this run (no keyword), and is evaluated at the abscissa the source names -/
theorem ctor_is_source (I : Interpolant α) (tv tf va : List α) :
    Generated.ppolyCtorKeywords = [] ∧ Generated.ppolyEvalAbscissa = "numpy.log(v_array)" ∧
      ∃ a0 a1 x y, Generated.ppolyCtorArgs = [a0, a1] ∧ ctorArgBySpec a0 tv tf = some x ∧ ctorArgBySpec a1 tv tf = some y ∧
        finishMode I tv.reverse tf.reverse va = (do
          let r ← I x y (va.map ExpLog.log)
          pure (r.map fun (s, s1, s2) => (ExpLog.exp s, -s1, -s2))) := by
  refine ⟨by decide, by decide, _, _, _, _, rfl, rfl, rfl, ?_⟩
  simp [finishMode, List.map_reverse]

end Ctor

section Consts
variable {K : Type} [Field K]

/-- the cut-off of the Akima weights is scipy's `break_mult` literal -/
theorem breakMult_is_source : (breakMult : K) = (Generated.akimaBreakMult.1 : K) / (Generated.akimaBreakMult.2 : K) := by
  simp [breakMult, Generated.akimaBreakMult]

/-- the shape-correction factor of the PCHIP end rule is scipy's `3.` -/
theorem edgeFactor_is_source : (three : K) = (Generated.pchipEdgeFactor : K) := by
  simp [three, Generated.pchipEdgeFactor]

end Consts

end Cij.PPoly
