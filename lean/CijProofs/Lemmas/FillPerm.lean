/-
  For C09's `column_order_case_irrelevant`: `fill` does not see the order or the letter case of the columns.
  Part 1: the model's `lstsq` (`x = Aᵀ z`, `(AAᵀ)² z = AAᵀ b`, result checked) only depends on the multiset of equations —
  a row-space vector satisfying the normal equations is unique, and `solveAny` finds a solution whenever one exists.
  Part 2: recognition as a per-column map; closed form of the write-back/drop loop (`finish_closed`).
  Part 3: `fill` = (solve + decide) then (write back + drop); the first half is the same for two rearranged tables.
-/
import Mathlib.Data.List.Induction
import Mathlib.Data.List.Forall2
import Mathlib.Data.List.Nodup
import CijProofs.Lemmas.Fill
set_option linter.unusedSectionVars false
namespace Cij.Fill
variable {α : Type} [Field α] [LinearOrder α] [IsStrictOrderedRing α]

/-! ### exactly `n` entries -/

/-- `(List.range n).map fun j => y.getD j 0` — the last step of `lstsq` -/
def padTo (n : Nat) (y : List α) : List α := (List.range n).map fun j => y.getD j 0

theorem length_padTo (n : Nat) (y : List α) : (padTo n y).length = n := by simp [padTo]

theorem padTo_succ (n : Nat) (y : List α) : padTo (n + 1) y = y.headD 0 :: padTo n y.tail := by
  unfold padTo
  rw [List.range_succ_eq_map, List.map_cons, List.map_map]
  congr 1
  · cases y <;> simp
  · apply List.map_congr_left
    intro j _
    cases y <;> simp

theorem dot_padTo : ∀ (n : Nat) (d y : List α), d.length ≤ n → dot d (padTo n y) = dot d y := by
  intro n
  induction n with
  | zero => intro d y hd; have : d = [] := List.length_eq_zero_iff.mp (Nat.le_zero.mp hd); subst this; simp
  | succ n ih =>
    intro d y hd
    cases d with
    | nil => simp
    | cons a d =>
      have hd' : d.length ≤ n := by simpa using hd
      rw [padTo_succ]
      cases y with
      | nil => simp [ih d [] hd']
      | cons b y => simp [ih d y hd']

theorem allZero_iff_getD (l : List α) : (∀ e ∈ l, e = 0) ↔ ∀ j, l.getD j 0 = 0 := by
  constructor
  · intro h j
    by_cases hj : j < l.length
    · rw [List.getD_eq_getElem _ _ hj]; exact h _ (List.getElem_mem hj)
    · exact List.getD_eq_default _ _ (Nat.le_of_not_lt hj)
  · intro h e he
    obtain ⟨j, hj, rfl⟩ := List.getElem_of_mem he
    rw [← List.getD_eq_getElem _ 0 hj]; exact h j

theorem getD_tmulVec (A : List (List α)) (r : List α) (j : Nat) :
    (tmulVec A r).getD j 0 = ((List.zip A r).map fun p => p.2 * p.1.getD j 0).sum := by
  induction A generalizing r with
  | nil => simp [tmulVec]
  | cons a A ih =>
    cases r with
    | nil => simp [tmulVec]
    | cons ri r =>
      simp only [tmulVec, List.zip_cons_cons, List.map_cons, List.sum_cons]
      rw [getD_axpy, ih r, add_comm]

theorem zip_residualVec (A : List (List α)) (b x : List α) :
    List.zip A (residualVec A b x) = (List.zip A b).map fun p => (p.1, dot p.1 x - p.2) := by
  induction A generalizing b with
  | nil => simp [residualVec]
  | cons a A ih =>
    cases b with
    | nil => simp [residualVec]
    | cons β b =>
      have := ih b
      simp only [residualVec] at this
      simp [residualVec, this]

theorem normalEqHold_iff (A : List (List α)) (b x : List α) :
    normalEqHold A b x = true ↔
      ∀ j, ((List.zip A b).map fun p => (dot p.1 x - p.2) * p.1.getD j 0).sum = 0 := by
  have h1 : normalEqHold A b x = true ↔ ∀ e ∈ tmulVec A (residualVec A b x), e = 0 := by
    simp [normalEqHold]
  rw [h1, allZero_iff_getD]
  constructor
  · intro h j
    have := h j
    rw [getD_tmulVec, zip_residualVec, List.map_map] at this
    exact this
  · intro h j
    rw [getD_tmulVec, zip_residualVec, List.map_map]
    exact h j

theorem normalEqHold_perm {A A' : List (List α)} {b b' x : List α} (hp : (List.zip A b).Perm (List.zip A' b'))
    (h : normalEqHold A b x = true) : normalEqHold A' b' x = true := by
  rw [normalEqHold_iff] at h ⊢
  intro j
  exact (List.Perm.sum_eq (hp.map fun p => (dot p.1 x - p.2) * p.1.getD j 0)).symm.trans (h j)

theorem mem_of_zip_perm {A A' : List (List α)} {b b' : List α} (hp : (List.zip A b).Perm (List.zip A' b'))
    (hb' : b'.length = A'.length) : ∀ a ∈ A', a ∈ A := by
  intro a ha
  obtain ⟨i, hi, rfl⟩ := List.getElem_of_mem ha
  have hi' : i < (List.zip A' b').length := by simp [hb', hi]
  have hm : (A'[i], b'[i]'(by omega)) ∈ List.zip A' b' := by
    rw [List.mem_iff_getElem]; exact ⟨i, hi', by simp⟩
  exact (List.of_mem_zip (hp.symm.subset hm)).1

/-! ### a vector of the row space that satisfies the normal equations is unique -/

theorem dot_rowspace_zero {n : Nat} {A : List (List α)} (z d : List α) (hd : d.length ≤ n)
    (h : ∀ r ∈ A, dot r d = 0) : dot (padTo n (tmulVec A z)) d = 0 := by
  rw [dot_comm, dot_padTo n _ _ hd, dot_comm, dot_tmulVec]
  apply dot_all_zero
  intro e he
  obtain ⟨a, ha, rfl⟩ := List.mem_map.mp he
  exact h a ha

theorem rowspace_normalEq_unique {n : Nat} {A A' : List (List α)} {b b' z z' : List α}
    (hb : b.length = A.length) (hb' : b'.length = A'.length) (hp : (List.zip A b).Perm (List.zip A' b'))
    (hx : normalEqHold A b (padTo n (tmulVec A z)) = true)
    (hx' : normalEqHold A' b' (padTo n (tmulVec A' z')) = true) :
    padTo n (tmulVec A z) = padTo n (tmulVec A' z') := by
  set x := padTo n (tmulVec A z)
  set x' := padTo n (tmulVec A' z')
  have hxl : x.length = n := length_padTo _ _
  have hxl' : x'.length = n := length_padTo _ _
  have wx : WeakNE A b x := normalEq_weak hx
  have wx' : WeakNE A b x' := weakNE_perm hp.symm (normalEq_weak hx')
  have hAd : ∀ r ∈ A, dot r (vsub x' x) = 0 := weakNE_diff hb wx wx'
  have hlen : (vsub x' x).length = n := length_vsub hxl hxl'
  have hd1 : dot x (vsub x' x) = 0 := dot_rowspace_zero z _ (le_of_eq hlen) hAd
  have hd2 : dot x' (vsub x' x) = 0 :=
    dot_rowspace_zero z' _ (le_of_eq hlen) fun a ha => hAd a (mem_of_zip_perm hp hb' a ha)
  have hss : sumSq (vsub x' x) = 0 := by
    unfold sumSq
    rw [dot_comm, dot_vsub, dot_comm, hd2, dot_comm, hd1]; ring
  exact eq_of_vsub_zero hxl hxl' (sumSq_eq_zero hss)

/-! ### `solveAny` finds a solution whenever there is one -/

theorem solveAny_length : ∀ (n : Nat) (rows : List (List α × α)), (solveAny n rows).length = n := by
  intro n
  induction n with
  | zero => intro rows; simp [solveAny]
  | succ n ih =>
    intro rows
    unfold solveAny
    split
    · simp [ih]
    · simp [ih]

theorem solveAny_complete : ∀ (n : Nat) (rows : List (List α × α)),
    (∃ z0 : List α, z0.length = n ∧ ∀ p ∈ rows, dot p.1 z0 = p.2) →
    ∀ p ∈ rows, dot p.1 (solveAny n rows) = p.2 := by
  intro n
  induction n with
  | zero =>
    rintro rows ⟨z0, hz0, h0⟩ p hp
    have : z0 = [] := List.length_eq_zero_iff.mp hz0
    subst this
    simpa [solveAny] using h0 p hp
  | succ n ih =>
    rintro rows ⟨z0, hz0, h0⟩ q hq
    cases z0 with
    | nil => simp at hz0
    | cons v0 w0 =>
    have hw0 : w0.length = n := by simpa using hz0
    unfold solveAny
    split
    · rename_i hfind
      have hq0 : head0 q.1 = 0 := by
        have := List.find?_eq_none.mp hfind q hq
        simpa using this
      have hall : ∀ p ∈ rows.map (fun r => (r.1.tail, r.2)), dot p.1 w0 = p.2 := by
        intro p hp
        obtain ⟨s, hs, rfl⟩ := List.mem_map.mp hp
        have h1 := h0 s hs
        have hs0 : head0 s.1 = 0 := by
          have := List.find?_eq_none.mp hfind s hs
          simpa using this
        rw [dot_head_tail, hs0] at h1
        simpa using h1
      have := ih _ ⟨w0, hw0, hall⟩ _ (List.mem_map_of_mem (f := fun r : List α × α => (r.1.tail, r.2)) hq)
      rw [dot_head_tail, hq0]
      simpa using this
    · rename_i p hfind
      have hp : head0 p.1 ≠ 0 := by simpa using List.find?_some hfind
      have hpm : p ∈ rows := List.mem_of_find?_eq_some hfind
      have hpz := h0 p hpm
      rw [dot_head_tail] at hpz
      have hall : ∀ r ∈ rows.map (fun s : List α × α =>
            (axpy (-(head0 s.1 / head0 p.1)) p.1.tail s.1.tail, s.2 + -(head0 s.1 / head0 p.1) * p.2)),
          dot r.1 w0 = r.2 := by
        intro r hr
        obtain ⟨s, hs, rfl⟩ := List.mem_map.mp hr
        have hsz := h0 s hs
        rw [dot_head_tail] at hsz
        simp only
        rw [dot_axpy]
        field_simp
        linear_combination (head0 p.1) * hsz - (head0 s.1) * hpz
      have hsol := ih _ ⟨w0, hw0, hall⟩ _ (List.mem_map_of_mem (f := fun s : List α × α =>
            (axpy (-(head0 s.1 / head0 p.1)) p.1.tail s.1.tail, s.2 + -(head0 s.1 / head0 p.1) * p.2)) hq)
      simp only at hsol ⊢
      generalize solveAny n _ = w at hsol ⊢
      rw [dot_axpy] at hsol
      rw [dot_head_tail]
      linear_combination hsol

/-! ### what the `(AAᵀ)² z = AAᵀ b` system says -/

def gram (A : List (List α)) : List (List α) := A.map fun r => A.map fun r' => dot r r'

def sysOf (A : List (List α)) (b : List α) : List (List α × α) :=
  (gram A).map fun g => ((gram A).map fun g' => dot g g', dot g b)

theorem lstsq_eq (n : Nat) (A : List (List α)) (b : List α) :
    lstsq n A b =
      if normalEqHold A b (padTo n (tmulVec A (solveAny A.length (sysOf A b)))) = true
      then some (padTo n (tmulVec A (solveAny A.length (sysOf A b)))) else none := rfl

theorem residualVec_eq_vsub (A : List (List α)) (b y : List α) (hb : b.length = A.length) :
    residualVec A b y = vsub (A.map fun a => dot a y) b := by
  induction A generalizing b with
  | nil =>
    have : b = [] := List.length_eq_zero_iff.mp (by simpa using hb)
    subst this; simp [residualVec, vsub, axpy]
  | cons a A ih =>
    cases b with
    | nil => simp at hb
    | cons β b =>
      have := ih b (by simpa using hb)
      simp only [residualVec, vsub] at this ⊢
      simp [axpy, this]; ring

theorem gram_row (A : List (List α)) (a : List α) :
    (gram A).map (fun g' => dot (A.map fun r' => dot a r') g') =
      A.map fun r => dot r (tmulVec A (A.map fun r' => dot a r')) := by
  unfold gram
  rw [List.map_map]
  apply List.map_congr_left
  intro r _
  simp only [Function.comp]
  rw [dot_comm r, dot_tmulVec]
  congr 1
  apply List.map_congr_left
  intro r' _
  exact dot_comm _ _

/-- equation `a` of the system, at `z`:  `a · Aᵀ(A y − b) = 0` with `y = Aᵀ z` -/
theorem sys_equation (A : List (List α)) (b z a : List α) (hb : b.length = A.length) :
    dot ((gram A).map fun g' => dot (A.map fun r' => dot a r') g') z - dot (A.map fun r' => dot a r') b
      = dot a (tmulVec A (residualVec A b (tmulVec A z))) := by
  rw [gram_row, residualVec_eq_vsub A b _ hb]
  set g := A.map fun r' => dot a r' with hg
  have e1 : dot (A.map fun r => dot r (tmulVec A g)) z = dot g (A.map fun r => dot r (tmulVec A z)) := by
    rw [dot_comm, ← dot_tmulVec, dot_comm, dot_tmulVec]
  have e2 : dot a (tmulVec A (vsub (A.map fun r => dot r (tmulVec A z)) b))
      = dot g (vsub (A.map fun r => dot r (tmulVec A z)) b) := by
    rw [dot_comm, dot_tmulVec, dot_comm, hg]
    congr 1
    apply List.map_congr_left
    intro r' _
    exact dot_comm _ _
  rw [e1, e2, dot_vsub]

theorem sys_solved_iff (A : List (List α)) (b z : List α) (hb : b.length = A.length) :
    (∀ p ∈ sysOf A b, dot p.1 z = p.2) ↔
      ∀ a ∈ A, dot a (tmulVec A (residualVec A b (tmulVec A z))) = 0 := by
  unfold sysOf gram
  simp only [List.mem_map, forall_exists_index, and_imp, forall_apply_eq_imp_iff₂]
  constructor
  · intro h a ha
    rw [← sys_equation A b z a hb]
    have := h a ha
    unfold gram
    rw [this]; ring
  · intro h a ha
    have := sys_equation A b z a hb
    rw [h a ha] at this
    unfold gram at this
    linear_combination this

theorem residualVec_padTo (n : Nat) (A : List (List α)) (b y : List α) (hrows : ∀ a ∈ A, a.length ≤ n) :
    residualVec A b (padTo n y) = residualVec A b y := by
  induction A generalizing b with
  | nil => simp [residualVec]
  | cons a A ih =>
    cases b with
    | nil => simp [residualVec]
    | cons β b =>
      have := ih b (fun a' ha' => hrows a' (by simp [ha']))
      simp only [residualVec] at this
      simp [residualVec, this, dot_padTo n a y (hrows a (by simp))]

theorem normalEqHold_padTo (n : Nat) (A : List (List α)) (b y : List α) (hrows : ∀ a ∈ A, a.length ≤ n) :
    normalEqHold A b (padTo n y) = normalEqHold A b y := by
  unfold normalEqHold
  rw [residualVec_padTo n A b y hrows]

theorem normalEq_of_sys_solved (A : List (List α)) (b z : List α) (hb : b.length = A.length)
    (h : ∀ p ∈ sysOf A b, dot p.1 z = p.2) : normalEqHold A b (tmulVec A z) = true := by
  have h' := (sys_solved_iff A b z hb).mp h
  set w := tmulVec A (residualVec A b (tmulVec A z)) with hw
  have hss : sumSq w = 0 := by
    unfold sumSq
    conv_lhs => rw [hw, dot_tmulVec]
    apply dot_all_zero
    intro e he
    obtain ⟨a, ha, rfl⟩ := List.mem_map.mp he
    rw [← hw]; exact h' a ha
  have := sumSq_eq_zero hss
  simp only [normalEqHold, List.all_eq_true, decide_eq_true_eq]
  exact this

theorem lstsq_isSome_of_exists {n : Nat} {A : List (List α)} {b : List α} (hb : b.length = A.length)
    (hrows : ∀ a ∈ A, a.length ≤ n) (z0 : List α) (hz0 : z0.length = A.length)
    (h0 : normalEqHold A b (padTo n (tmulVec A z0)) = true) :
    ∃ z, z.length = A.length ∧ lstsq n A b = some (padTo n (tmulVec A z)) ∧
      normalEqHold A b (padTo n (tmulVec A z)) = true := by
  rw [normalEqHold_padTo n A b _ hrows] at h0
  have hsolv : ∀ p ∈ sysOf A b, dot p.1 z0 = p.2 := by
    rw [sys_solved_iff A b z0 hb]
    intro a _
    apply dot_all_zero
    simpa [normalEqHold] using h0
  have hlen : (sysOf A b).length = A.length := by simp [sysOf, gram]
  have hsol := solveAny_complete A.length (sysOf A b) ⟨z0, hz0, hsolv⟩
  have hne := normalEq_of_sys_solved A b _ hb hsol
  rw [← normalEqHold_padTo n A b _ hrows] at hne
  refine ⟨solveAny A.length (sysOf A b), solveAny_length _ _, ?_, hne⟩
  rw [lstsq_eq, if_pos hne]

theorem lstsq_some_form {n : Nat} {A : List (List α)} {b x : List α} (h : lstsq n A b = some x) :
    ∃ z, z.length = A.length ∧ x = padTo n (tmulVec A z) ∧ normalEqHold A b x = true := by
  rw [lstsq_eq] at h
  split at h
  · rename_i hne
    injection h with h
    exact ⟨_, solveAny_length _ _, h.symm, h ▸ hne⟩
  · simp at h

/-! ### transporting the coefficients along a permutation of the equations -/

theorem perm_lift {β γ : Type} (f : β → γ) : ∀ {m m' : List γ}, m.Perm m' → ∀ l : List β, l.map f = m →
    ∃ l' : List β, l.Perm l' ∧ l'.map f = m' := by
  intro m m' hp
  induction hp with
  | nil => intro l hl; exact ⟨l, List.Perm.refl _, hl⟩
  | cons x _ ih =>
    intro l hl
    cases l with
    | nil => simp at hl
    | cons a l =>
      simp only [List.map_cons, List.cons.injEq] at hl
      obtain ⟨l', h1, h2⟩ := ih l hl.2
      exact ⟨a :: l', h1.cons a, by simp [hl.1, h2]⟩
  | swap x y m =>
    intro l hl
    cases l with
    | nil => simp at hl
    | cons a l =>
      cases l with
      | nil => simp at hl
      | cons c l =>
        simp only [List.map_cons, List.cons.injEq] at hl
        exact ⟨c :: a :: l, List.Perm.swap c a l, by simp [hl.1, hl.2.1, hl.2.2]⟩
  | trans _ _ ih1 ih2 =>
    intro l hl
    obtain ⟨l1, h1, h2⟩ := ih1 l hl
    obtain ⟨l2, h3, h4⟩ := ih2 l1 h2
    exact ⟨l2, h1.trans h3, h4⟩

/-- coefficients `z` for the equations in one order ⇒ coefficients `z'` for another order with the same `Aᵀ z` -/
theorem exists_coeffs_perm {A A' : List (List α)} {b b' : List α} (hb : b.length = A.length)
    (hb' : b'.length = A'.length) (hp : (List.zip A b).Perm (List.zip A' b')) (z : List α)
    (hz : z.length = A.length) :
    ∃ z', z'.length = A'.length ∧ ∀ j, (tmulVec A' z').getD j 0 = (tmulVec A z).getD j 0 := by
  -- triples (row, rhs, coefficient)
  set T := List.zip (List.zip A b) z with hT
  have hTl : (List.zip A b).length = z.length := by simp [hb, hz]
  have hT1 : T.map Prod.fst = List.zip A b := List.map_fst_zip (le_of_eq hTl)
  have hT2 : T.map Prod.snd = z := List.map_snd_zip (le_of_eq hTl.symm)
  obtain ⟨T', hperm, hmap⟩ := perm_lift Prod.fst hp T hT1
  have hA1 : (List.zip A b).map Prod.fst = A := List.map_fst_zip (le_of_eq hb.symm)
  have hA1' : (List.zip A' b').map Prod.fst = A' := List.map_fst_zip (le_of_eq hb'.symm)
  refine ⟨T'.map Prod.snd, ?_, ?_⟩
  · have : T'.length = (List.zip A' b').length := by rw [← hmap]; simp
    simp [this, hb']
  · intro j
    rw [getD_tmulVec, getD_tmulVec]
    have eA' : A' = T'.map (fun t => t.1.1) := by
      rw [← hA1', ← hmap, List.map_map]; rfl
    have eA : A = T.map (fun t => t.1.1) := by
      conv_lhs => rw [← hA1, ← hT1, List.map_map]
      rfl
    have ez : z = T.map Prod.snd := hT2.symm
    have e1 : List.zip A' (T'.map Prod.snd) = T'.map (fun t => (t.1.1, t.2)) := by
      conv_lhs => rw [eA']
      rw [List.zip_map']
    have e2 : List.zip A z = T.map (fun t => (t.1.1, t.2)) := by
      conv_lhs => rw [eA, ez]
      rw [List.zip_map']
    rw [e1, e2, List.map_map, List.map_map]
    exact ((hperm.symm.map _).sum_eq)

/-- **`lstsq` only depends on the multiset of equations** — success is transported, and the vector is the same
    (determined or rank-deficient: the minimum-norm solution) -/
theorem lstsq_perm_some {n : Nat} {A A' : List (List α)} {b b' x : List α} (hb : b.length = A.length)
    (hb' : b'.length = A'.length) (hp : (List.zip A b).Perm (List.zip A' b'))
    (hrows : ∀ a ∈ A, a.length ≤ n) (h : lstsq n A b = some x) : lstsq n A' b' = some x := by
  obtain ⟨z, hz, hxz, hne⟩ := lstsq_some_form h
  obtain ⟨z0, hz0, hsame⟩ := exists_coeffs_perm hb hb' hp z hz
  have hpad : padTo n (tmulVec A' z0) = padTo n (tmulVec A z) := by
    unfold padTo
    apply List.map_congr_left
    intro j _
    exact hsame j
  have hrows' : ∀ a ∈ A', a.length ≤ n := fun a ha => hrows a (mem_of_zip_perm hp hb' a ha)
  have h0 : normalEqHold A' b' (padTo n (tmulVec A' z0)) = true := by
    rw [hpad, ← hxz]; exact normalEqHold_perm hp hne
  obtain ⟨z', _, hres, hne'⟩ := lstsq_isSome_of_exists hb' hrows' z0 hz0 h0
  rw [hres, hxz]
  congr 1
  rw [hxz] at hne
  exact (rowspace_normalEq_unique hb hb' hp hne hne').symm

theorem lstsq_perm {n : Nat} {A A' : List (List α)} {b b' : List α} (hb : b.length = A.length)
    (hb' : b'.length = A'.length) (hp : (List.zip A b).Perm (List.zip A' b'))
    (hrows : ∀ a ∈ A, a.length ≤ n) : lstsq n A b = lstsq n A' b' := by
  cases h : lstsq n A b with
  | some x => exact (lstsq_perm_some hb hb' hp hrows h).symm
  | none =>
    cases h' : lstsq n A' b' with
    | none => rfl
    | some x' =>
      have hrows' : ∀ a ∈ A', a.length ≤ n := fun a ha => hrows a (mem_of_zip_perm hp hb' a ha)
      have := lstsq_perm_some hb' hb hp.symm hrows' h'
      rw [h] at this; exact absurd this (by simp)

theorem sumSq_residual_perm {A A' : List (List α)} {b b' : List α} (x : List α)
    (hp : (List.zip A b).Perm (List.zip A' b')) :
    sumSq (residualVec A b x) = sumSq (residualVec A' b' x) := by
  have key : ∀ (A : List (List α)) (b : List α),
      sumSq (residualVec A b x) = ((List.zip A b).map fun p => (dot p.1 x - p.2) * (dot p.1 x - p.2)).sum := by
    intro A
    induction A with
    | nil => intro b; simp [sumSq, residualVec]
    | cons a A ih =>
      intro b
      cases b with
      | nil => simp [sumSq, residualVec]
      | cons β b =>
        have := ih b
        simp only [sumSq, residualVec] at this
        simp [sumSq, residualVec, this]
  rw [key, key]
  exact (hp.map _).sum_eq


/-! ## Part 2: bookkeeping -/

/-! ### the symbols as `writeAll` iterates over them -/

/-- component `j` of the tensors `xs` (one tensor per volume row) as a table column -/
def colOf (xs : List (List α)) (j : Nat) : List α := xs.map fun x => x.getD j 0

/-- `zip(range(21), symbols)` — the pairs `writeAll` iterates over -/
def symPairs : List (Nat × String) := List.zip (List.range nsym) symbolNames

theorem symbols_lower : ∀ s ∈ symbolNames, s.toLower = s := by decide +kernel
theorem symPairs_names_nodup : (symPairs.map (·.2)).Nodup := by decide +kernel
theorem symPairs_names : ∀ p ∈ symPairs, p.2 ∈ symbolNames := fun _ hp => (List.of_mem_zip hp).2

theorem idxOf?_symPairs {s : String} {i : Nat} (h : symbolNames.idxOf? s = some i) : (i, s) ∈ symPairs := by
  obtain ⟨hlt, hget, _⟩ := List.idxOf?_eq_some_iff.1 h
  unfold symPairs
  rw [List.mem_iff_getElem]
  have hl : i < (List.zip (List.range nsym) symbolNames).length := by
    simp only [List.length_zip, List.length_range]
    exact Nat.lt_min.2 ⟨hlt, hlt⟩
  exact ⟨i, hl, by rw [List.getElem_zip, List.getElem_range, hget]⟩

/-- no two columns differ by letter case only (with such a pair `fill_cij` updates only the first one) -/
def NoCaseDup (t : Table α) : Prop := ∀ c ∈ t, ∀ c' ∈ t, c.1.toLower = c'.1.toLower → c.1 = c'.1

/-! ### recognition is a per-column map of the lower-cased name -/

/-- the symbol a column name stands for (only the lower-cased name is looked at) -/
def symIdx (name : String) : Option Nat := symbolNames.idxOf? name.toLower

/-- modulus-like but not one of the 21 symbols: `list.index` raises ValueError -/
def badName (name : String) : Bool := matchesCdd name.toLower.toList && (symIdx name).isNone

theorem idxOf?_matches {s : String} {i : Nat} (h : symbolNames.idxOf? s = some i) : matchesCdd s.toList = true := by
  obtain ⟨hlt, hget, _⟩ := List.idxOf?_eq_some_iff.1 h
  exact symbolNames_match s (hget ▸ List.getElem_mem hlt)

theorem recognise_eq (names : List String) :
    recognise names = if names.any badName then .error .valueError else .ok (names.map symIdx) := by
  unfold recognise
  induction names with
  | nil => simp [recogniseLower]
  | cons s rest ih =>
    rw [List.map_cons, recogniseLower, ih]
    cases hm : matchesCdd s.toLower.toList with
    | true =>
      cases hi : symbolNames.idxOf? s.toLower with
      | none => simp [badName, symIdx, hm, hi]
      | some i =>
        have hb : badName s = false := by simp [badName, symIdx, hi]
        simp only [if_true, List.any_cons, hb, Bool.false_or, List.map_cons]
        split <;> simp [Except.map, symIdx, hi]
    | false =>
      have hi : symbolNames.idxOf? s.toLower = none := by
        cases hi : symbolNames.idxOf? s.toLower with
        | none => rfl
        | some i => rw [idxOf?_matches hi] at hm; exact absurd hm (by simp)
      have hb : badName s = false := by simp [badName, hm]
      simp only [Bool.false_eq_true, if_false, List.any_cons, hb, Bool.false_or, List.map_cons]
      split <;> simp [Except.map, symIdx, hi]

theorem recognise_ok {names : List String} {sel : List (Option Nat)} (h : recognise names = .ok sel) :
    sel = names.map symIdx := by
  rw [recognise_eq] at h
  split at h
  · cases h
  · exact (Except.ok.inj h).symm

theorem recognise_error {names : List String} {e : Err} (h : recognise names = .error e) : e = .valueError := by
  rw [recognise_eq] at h
  split at h
  · exact (Except.error.inj h).symm
  · cases h

theorem recognise_length {names : List String} {sel : List (Option Nat)} (h : recognise names = .ok sel) :
    sel.length = names.length := by
  rw [recognise_ok h, List.length_map]

theorem recognise_lt {names : List String} {sel : List (Option Nat)} (h : recognise names = .ok sel) :
    ∀ i ∈ selIdxOf sel, i < nsym := by
  intro i hi
  rw [recognise_ok h] at hi
  obtain ⟨o, ho, hoi⟩ := List.mem_filterMap.1 hi
  obtain ⟨s, _, rfl⟩ := List.mem_map.1 ho
  exact (List.idxOf?_eq_some_iff.1 hoi).1

/-- the supplied components: (symbol index, value column), in column order -/
def selPairs (t : Table α) : List (Nat × List α) := t.filterMap fun c => (symIdx c.1).map fun i => (i, c.2)

theorem selIdxOf_eq (t : Table α) : selIdxOf ((t.map (·.1)).map symIdx) = (selPairs t).map Prod.fst := by
  unfold selIdxOf selPairs
  rw [List.map_map, List.filterMap_map, List.map_filterMap]
  apply List.filterMap_congr
  intro c _
  simp only [Function.comp, id]
  cases symIdx c.1 <;> rfl

theorem selColsOf_eq (t : Table α) : selColsOf ((t.map (·.1)).map symIdx) t = (selPairs t).map Prod.snd := by
  induction t with
  | nil => simp [selColsOf, selPairs]
  | cons c t ih =>
    simp [selColsOf, selPairs] at ih ⊢
    cases h : symIdx c.1 <;> simp [h, ih]

theorem zip_stack (t : Table α) (rel : Rows) (k : Nat) :
    List.zip (stackA (α := α) ((selPairs t).map Prod.fst) rel) (stackB ((selPairs t).map Prod.snd) rel k)
      = (selPairs t).map (fun q => (selectorRow q.1, q.2.getD k 0)) ++
        rel.map (fun r => (castRow r, (Int.cast r.rhs : α) / (Int.cast (Int.ofNat r.den) : α))) := by
  unfold stackA stackB
  rw [List.zip_append (by simp), List.map_map, List.map_map, List.zip_map', List.zip_map']
  rfl

/-! ### two tables with the same columns: other order, other spelling -/

/-- same name up to letter case, same values -/
def SameCol (c c' : String × List α) : Prop := c.1.toLower = c'.1.toLower ∧ c.2 = c'.2

/-- column by column the same, names possibly re-cased -/
def Recased (t t' : Table α) : Prop := List.Forall₂ SameCol t t'

/-- `t'` = the columns of `t` in another order, names possibly re-cased -/
def Rearranged (t t' : Table α) : Prop := ∃ t'', Recased t t'' ∧ t''.Perm t'

theorem Recased.map_eq {β : Type} {f : String × List α → β} (hf : ∀ c c', SameCol c c' → f c = f c')
    {t t' : Table α} (h : Recased t t') : t.map f = t'.map f := by
  induction h with
  | nil => rfl
  | cons hc _ ih => simp [hf _ _ hc, ih]

theorem Rearranged.map_perm {β : Type} {f : String × List α → β} (hf : ∀ c c', SameCol c c' → f c = f c')
    {t t' : Table α} (h : Rearranged t t') : (t.map f).Perm (t'.map f) := by
  obtain ⟨t'', h1, h2⟩ := h
  rw [h1.map_eq hf]
  exact h2.map f

theorem Rearranged.refl (t : Table α) : Rearranged t t :=
  ⟨t, List.forall₂_same.2 (fun _ _ => ⟨rfl, rfl⟩), List.Perm.refl _⟩

theorem Rearranged.of_perm {t t' : Table α} (h : t.Perm t') : Rearranged t t' :=
  ⟨t, List.forall₂_same.2 (fun _ _ => ⟨rfl, rfl⟩), h⟩

theorem Rearranged.append_right {E E' : Table α} (h : Rearranged E E') (N : Table α) :
    Rearranged (E ++ N) (E' ++ N) := by
  obtain ⟨E'', h1, h2⟩ := h
  exact ⟨E'' ++ N, List.rel_append h1 (List.forall₂_same.2 (fun _ _ => ⟨rfl, rfl⟩)), h2.append_right N⟩

theorem Rearranged.mem_iff {t t' : Table α} (h : Rearranged t t') (name : String) (vals : List α) :
    (∃ c ∈ t, c.1.toLower = name ∧ c.2 = vals) ↔ (∃ c' ∈ t', c'.1.toLower = name ∧ c'.2 = vals) := by
  have hp := h.map_perm (f := fun c => (c.1.toLower, c.2)) (fun c c' hc => by simp [hc.1, hc.2])
  have := hp.mem_iff (a := (name, vals))
  simp only [List.mem_map, Prod.mk.injEq] at this
  exact this

theorem symIdx_sameCol {c c' : String × List α} (h : SameCol c c') : symIdx c.1 = symIdx c'.1 := by
  simp [symIdx, h.1]

theorem Rearranged.selPairs_perm {t t' : Table α} (h : Rearranged t t') : (selPairs t).Perm (selPairs t') := by
  have hp := h.map_perm (f := fun c => (symIdx c.1).map fun i => (i, c.2))
    (fun c c' hc => by simp [symIdx_sameCol hc, hc.2])
  have := hp.filterMap id
  simpa [selPairs, List.filterMap_map] using this

theorem Rearranged.any_badName {t t' : Table α} (h : Rearranged t t') :
    (t.map (·.1)).any badName = (t'.map (·.1)).any badName := by
  have hp := h.map_perm (f := fun c => badName c.1) (fun c c' hc => by simp [badName, symIdx, hc.1])
  have := hp.any_eq (f := id)
  rw [List.any_map, List.any_map] at this
  rw [List.any_map, List.any_map]
  exact this

theorem Rearranged.any_lower {t t' : Table α} (h : Rearranged t t') (s : String) :
    t.any (fun c => c.1.toLower == s) = t'.any (fun c => c.1.toLower == s) := by
  have hp := h.map_perm (f := fun c => c.1.toLower == s) (fun c c' hc => by simp [hc.1])
  have := hp.any_eq (f := id)
  rw [List.any_map, List.any_map] at this
  exact this

theorem Rearranged.rect {t t' : Table α} (h : Rearranged t t') {n : Nat} (hr : ∀ c ∈ t, c.2.length = n) :
    ∀ c' ∈ t', c'.2.length = n := by
  have hp := h.map_perm (f := fun c => c.2) (fun c c' hc => hc.2)
  intro c' hc'
  have : c'.2 ∈ t.map (·.2) := hp.symm.subset (List.mem_map_of_mem hc')
  obtain ⟨c, hc, he⟩ := List.mem_map.1 this
  rw [← he]; exact hr c hc

theorem Rearranged.length_eq {t t' : Table α} (h : Rearranged t t') : t.length = t'.length := by
  obtain ⟨t'', h1, h2⟩ := h
  rw [h1.length_eq, h2.length_eq]

/-! ### closed form of the write-back loop and of the drop -/

/-- one write-back seen from one existing column -/
def upd1 (xs : List (List α)) (p : Nat × String) (c : String × List α) : String × List α :=
  if c.1.toLower == p.2 then (c.1, colOf xs p.1) else c

def updBy (xs : List (List α)) (l : List (Nat × String)) (c : String × List α) : String × List α :=
  l.foldl (fun c p => upd1 xs p c) c

def newBy (xs : List (List α)) (l : List (Nat × String)) (t : Table α) : Table α :=
  l.filterMap fun p => if t.any (fun c => c.1.toLower == p.2) then none else some (p.2, colOf xs p.1)

theorem upd1_fst (xs : List (List α)) (p : Nat × String) (c : String × List α) : (upd1 xs p c).1 = c.1 := by
  unfold upd1; split <;> rfl

theorem updBy_fst (xs : List (List α)) (l : List (Nat × String)) (c : String × List α) : (updBy xs l c).1 = c.1 := by
  induction l generalizing c with
  | nil => rfl
  | cons p l ih => simp only [updBy, List.foldl_cons] at ih ⊢; rw [ih, upd1_fst]

theorem updBy_snoc (xs : List (List α)) (l : List (Nat × String)) (p : Nat × String) (c : String × List α) :
    updBy xs (l ++ [p]) c = upd1 xs p (updBy xs l c) := by
  simp [updBy, List.foldl_append]

/-- invariant of the write-back loop after the pairs `l`; induction on `l` from the right -/
theorem foldl_writeBack_closed (xs : List (List α)) {t : Table α} (hnd : NoCaseDup t) (l : List (Nat × String)) :
    (∀ p ∈ l, p ∈ symPairs) → (l.map (·.2)).Nodup →
    l.foldl (fun acc p => writeBack acc p.2 (xs.map fun x => x.getD p.1 0)) t
      = t.map (updBy xs l) ++ newBy xs l t := by
  induction l using List.reverseRecOn with
  | nil =>
    intro _ _
    have : updBy xs [] = id := by funext c; rfl
    simp [this, newBy]
  | append_singleton l p ih =>
    intro hl hnodup
    have hl' : ∀ q ∈ l, q ∈ symPairs := fun q hq => hl q (List.mem_append_left _ hq)
    have hp : p ∈ symPairs := hl p (by simp)
    rw [List.map_append, List.nodup_append] at hnodup
    obtain ⟨hnd1, _, hdisj⟩ := hnodup
    have hpl : ∀ q ∈ l, q.2 ≠ p.2 := by
      intro q hq
      exact hdisj q.2 (List.mem_map_of_mem hq) p.2 (by simp)
    rw [List.foldl_append, List.foldl_cons, List.foldl_nil, ih hl' hnd1]
    have hnew : ∀ e ∈ newBy xs l t, e.1.toLower ≠ p.2 := by
      intro e he
      unfold newBy at he
      obtain ⟨q, hq, hqe⟩ := List.mem_filterMap.1 he
      split at hqe
      · simp at hqe
      · injection hqe with hqe
        rw [← hqe]
        simp only
        rw [symbols_lower q.2 (symPairs_names q (hl' q hq))]
        exact hpl q hq
    have hcol : (xs.map fun x => x.getD p.1 0) = colOf xs p.1 := rfl
    rw [hcol]
    unfold writeBack
    split
    · rename_i hit hfind
      have hh : hit.1.toLower = p.2 := by simpa using List.find?_some hfind
      have hhit := List.mem_of_find?_eq_some hfind
      obtain ⟨c1, hc1, hc1e⟩ : ∃ c1 ∈ t, hit.1 = c1.1 := by
        rcases List.mem_append.1 hhit with h | h
        · obtain ⟨c1, hc1, rfl⟩ := List.mem_map.1 h
          exact ⟨c1, hc1, updBy_fst xs l c1⟩
        · exact absurd hh (hnew hit h)
      have hc1l : c1.1.toLower = p.2 := by rw [← hc1e]; exact hh
      have key : ∀ c ∈ t, (c.1 == hit.1) = (c.1.toLower == p.2) := by
        intro c hc
        rw [Bool.eq_iff_iff]
        simp only [beq_iff_eq]
        constructor
        · intro h; rw [h]; exact hh
        · intro h; rw [hc1e]; exact hnd c hc c1 hc1 (by rw [h, hc1l])
      have hany : t.any (fun c => c.1.toLower == p.2) = true :=
        List.any_eq_true.2 ⟨c1, hc1, by simp [hc1l]⟩
      rw [List.map_append, List.map_map]
      congr 1
      · apply List.map_congr_left
        intro c hc
        simp only [Function.comp, updBy_snoc, upd1, updBy_fst, key c hc]
      · have h1 : (newBy xs l t).map (fun c => if c.1 == hit.1 then (c.1, colOf xs p.1) else c) = newBy xs l t := by
          conv_rhs => rw [← List.map_id (newBy xs l t)]
          apply List.map_congr_left
          intro e he
          have : ¬ (e.1 = hit.1) := fun h => hnew e he (by rw [h]; exact hh)
          simp [this]
        rw [h1]
        simp [newBy, List.filterMap_append, hany]
    · rename_i hnone
      have hno : ∀ c ∈ t, c.1.toLower ≠ p.2 := by
        intro c hc
        have := List.find?_eq_none.1 hnone (updBy xs l c) (List.mem_append_left _ (List.mem_map_of_mem hc))
        rw [updBy_fst] at this
        simpa using this
      have hany : t.any (fun c => c.1.toLower == p.2) = false := by
        rw [List.any_eq_false]
        intro c hc
        simpa using hno c hc
      have h1 : t.map (updBy xs (l ++ [p])) = t.map (updBy xs l) := by
        apply List.map_congr_left
        intro c hc
        rw [updBy_snoc, upd1, updBy_fst]
        have : ¬ (c.1.toLower = p.2) := hno c hc
        simp [this]
      rw [h1, List.append_assoc]
      simp [newBy, List.filterMap_append, hany]

theorem updBy_noop (xs : List (List α)) (l : List (Nat × String)) (c : String × List α)
    (h : ∀ q ∈ l, q.2 ≠ c.1.toLower) : updBy xs l c = c := by
  induction l with
  | nil => rfl
  | cons q l ih =>
    have hq : ¬ (c.1.toLower = q.2) := fun e => h q (by simp) e.symm
    have : upd1 xs q c = c := by simp [upd1, hq]
    simp only [updBy, List.foldl_cons, this]
    exact ih (fun q' hq' => h q' (by simp [hq']))

theorem updBy_hit (xs : List (List α)) (l : List (Nat × String)) (c : String × List α) (i : Nat)
    (hnd : (l.map (·.2)).Nodup) (hi : (i, c.1.toLower) ∈ l) : updBy xs l c = (c.1, colOf xs i) := by
  induction l with
  | nil => simp at hi
  | cons q l ih =>
    rw [List.map_cons, List.nodup_cons] at hnd
    rcases List.mem_cons.1 hi with hq | hi'
    · have : upd1 xs q c = (c.1, colOf xs i) := by simp [upd1, ← hq]
      simp only [updBy, List.foldl_cons, this]
      apply updBy_noop
      intro q' hq' e
      apply hnd.1
      rw [← hq]
      simp only
      exact e ▸ List.mem_map_of_mem hq'
    · have hq : ¬ (c.1.toLower = q.2) := by
        intro e
        apply hnd.1
        rw [← e]
        exact List.mem_map.2 ⟨_, hi', rfl⟩
      have : upd1 xs q c = c := by simp [upd1, hq]
      simp only [updBy, List.foldl_cons, this]
      exact ih hnd.2 hi'

/-- what the write-back does to an existing column: the values of a modulus column are replaced by the solved
    component, the name keeps its spelling; every other column is untouched -/
def updCol (xs : List (List α)) (c : String × List α) : String × List α :=
  match symIdx c.1 with
  | some i => (c.1, colOf xs i)
  | none => c

theorem updBy_symPairs (xs : List (List α)) (c : String × List α) : updBy xs symPairs c = updCol xs c := by
  unfold updCol
  cases h : symIdx c.1 with
  | some i => exact updBy_hit xs symPairs c i symPairs_names_nodup (idxOf?_symPairs h)
  | none =>
    apply updBy_noop
    intro q hq e
    have : c.1.toLower ∉ symbolNames := List.idxOf?_eq_none_iff.1 h
    exact this (e ▸ symPairs_names q hq)

theorem updCol_fst (xs : List (List α)) (c : String × List α) : (updCol xs c).1 = c.1 := by
  rw [← updBy_symPairs, updBy_fst]

theorem updCol_of_symPair (xs : List (List α)) {c : String × List α} {p : Nat × String} (hp : p ∈ symPairs)
    (h : c.1.toLower = p.2) : updCol xs c = (c.1, colOf xs p.1) := by
  rw [← updBy_symPairs]
  exact updBy_hit xs symPairs c p.1 symPairs_names_nodup (h ▸ hp)

/-- the drop test -/
def keepCol (P : Params α) (c : String × List α) : Bool :=
  !(matchesCdd c.1.toLower.toList && allClose0 P.dropAtol c.2)

/-- the input columns that survive, in input order, names as spelled, modulus values replaced by the solution -/
def existingPart (P : Params α) (xs : List (List α)) (t : Table α) : Table α :=
  (t.map (updCol xs)).filter (keepCol P)

/-- the appended columns: the symbols no input column stands for, lower-case, in symbol order, negligible ones dropped -/
def newPart (P : Params α) (xs : List (List α)) (t : Table α) : Table α :=
  (symPairs.filterMap fun p =>
    if t.any (fun c => c.1.toLower == p.2) then none else some (p.2, colOf xs p.1)).filter (keepCol P)

theorem finish_closed (P : Params α) (xs : List (List α)) {t : Table α} (hnd : NoCaseDup t) :
    finish P t xs = existingPart P xs t ++ newPart P xs t := by
  have h := foldl_writeBack_closed xs hnd symPairs (fun _ h => h) symPairs_names_nodup
  have hw : writeAll t xs = t.map (updBy xs symPairs) ++ newBy xs symPairs t := h
  rw [List.map_congr_left (fun c _ => updBy_symPairs xs c)] at hw
  unfold finish
  rw [hw, List.filter_append]
  rfl

theorem updCol_sameCol (xs : List (List α)) {c c' : String × List α} (h : SameCol c c') :
    SameCol (updCol xs c) (updCol xs c') := by
  unfold updCol
  rw [← symIdx_sameCol h]
  cases symIdx c.1 with
  | some i => exact ⟨h.1, rfl⟩
  | none => exact h

theorem keepCol_sameCol (P : Params α) {c c' : String × List α} (h : SameCol c c') : keepCol P c = keepCol P c' := by
  simp [keepCol, h.1, h.2]

theorem Recased.filter {p : String × List α → Bool} (hp : ∀ c c', SameCol c c' → p c = p c') {t t' : Table α}
    (h : Recased t t') : Recased (t.filter p) (t'.filter p) := by
  induction h with
  | nil => exact List.Forall₂.nil
  | @cons a b l1 l2 hc _ ih =>
    simp only [List.filter_cons, ← hp a b hc]
    split
    · exact List.Forall₂.cons hc ih
    · exact ih

theorem Recased.map {f : String × List α → String × List α} (hf : ∀ c c', SameCol c c' → SameCol (f c) (f c'))
    {t t' : Table α} (h : Recased t t') : Recased (t.map f) (t'.map f) := by
  induction h with
  | nil => exact List.Forall₂.nil
  | cons hc _ ih => exact List.Forall₂.cons (hf _ _ hc) ih

theorem Rearranged.existingPart (P : Params α) (xs : List (List α)) {t t' : Table α} (h : Rearranged t t') :
    Rearranged (existingPart P xs t) (existingPart P xs t') := by
  obtain ⟨t'', h1, h2⟩ := h
  exact ⟨Fill.existingPart P xs t'',
    (h1.map (fun _ _ hc => updCol_sameCol xs hc)).filter (fun _ _ hc => keepCol_sameCol P hc),
    (h2.map _).filter _⟩

theorem Rearranged.newPart (P : Params α) (xs : List (List α)) {t t' : Table α} (h : Rearranged t t') :
    newPart P xs t = newPart P xs t' := by
  unfold Fill.newPart
  congr 1
  apply List.filterMap_congr
  intro p _
  rw [h.any_lower p.2]


/-! ## Part 3: `fill` = (solve + decide) then (write back + drop); the first half ignores order and case -/

/-- `fillWith` up to the decision stage: the refusal, or the solved tensors (one per volume row) -/
def fillXs (rel : Rows) (sel : List (Option Nat)) (P : Params α) (t : Table α) : Except Err (List (List α)) :=
  if (selIdxOf sel).isEmpty then
    (if rel.isEmpty then .error .linAlgError else .error .indexError)
  else
  match solveStage (stackA (α := α) (selIdxOf sel) rel)
      ((List.range (nRows t)).map fun k => stackB (selColsOf sel t) rel k) with
  | none => .error .solver
  | some s =>
    match verdict P s with
    | .error e => .error e
    | .ok () => .ok s.xs

theorem fillWith_eq_fillXs (rel : Rows) (sel : List (Option Nat)) (P : Params α) (t : Table α) :
    fillWith rel sel P t = (fillXs rel sel P t).map (finish P t) := by
  unfold fillWith fillXs
  by_cases he : (selIdxOf sel).isEmpty = true
  · simp only [he, if_true]
    cases rel.isEmpty <;> rfl
  · simp only [he]
    generalize solveStage (stackA (α := α) (selIdxOf sel) rel)
      ((List.range (nRows t)).map fun k => stackB (selColsOf sel t) rel k) = o
    cases o with
    | none => rfl
    | some s =>
      simp only
      rcases verdict P s with e | ⟨⟨⟩⟩ <;> rfl

/-- the outcome of `fill` before the write-back: an error, or the solved tensors -/
def fillSol (env : Env) (sys : String) (P : Params α) (t : Table α) : Except Err (List (List α)) :=
  match recognise (t.map (·.1)) with
  | .error e => .error e
  | .ok sel =>
    match resolve env sys with
    | .error e => .error e
    | .ok rel => fillXs rel sel P t

theorem fill_eq_fillSol (env : Env) (sys : String) (P : Params α) (t : Table α) :
    fill env (some sys) P t = (fillSol env sys P t).map (finish P t) := by
  unfold fill fillSol
  simp only
  cases recognise (t.map (·.1)) with
  | error e => rfl
  | ok sel =>
    simp only
    cases resolve env sys with
    | error e => rfl
    | ok rel => exact fillWith_eq_fillXs _ _ _ _

theorem mapM_map_congr {β γ : Type} {f f' : β → Option γ} {g g' : Nat → β} (h : ∀ k, f (g k) = f' (g' k)) :
    ∀ l : List Nat, (l.map g).mapM f = (l.map g').mapM f'
  | [] => rfl
  | k :: l => by
    rw [List.map_cons, List.map_cons, List.mapM_cons, List.mapM_cons, h k, mapM_map_congr h l]

theorem zipWith_map_congr {β γ δ : Type} {F F' : β → γ → δ} {g g' : Nat → β} (h : ∀ k x, F (g k) x = F' (g' k) x) :
    ∀ (l : List Nat) (xs : List γ), List.zipWith F (l.map g) xs = List.zipWith F' (l.map g') xs
  | [], _ => rfl
  | _ :: _, [] => by simp
  | k :: l, x :: xs => by
    simp only [List.map_cons, List.zipWith_cons_cons, h k x, zipWith_map_congr h l xs]

theorem solveStage_congr {A A' : List (List α)} (l : List Nat) {g g' : Nat → List α}
    (h1 : ∀ k, lstsq nsym A (g k) = lstsq nsym A' (g' k))
    (h2 : (kerWitness nsym A).isSome = (kerWitness nsym A').isSome) (h3 : A.length = A'.length)
    (h4 : ∀ k x, sumSq (residualVec A (g k) x) = sumSq (residualVec A' (g' k) x)) :
    solveStage A (l.map g) = solveStage A' (l.map g') := by
  have hm := mapM_map_congr (f := fun b => lstsq nsym A b) (f' := fun b => lstsq nsym A' b) h1 l
  have hz := zipWith_map_congr (F := fun b x => sumSq (residualVec A b x))
    (F' := fun b x => sumSq (residualVec A' b x)) h4 l
  unfold solveStage
  rw [hm, h2, h3]
  cases (l.map g').mapM (fun b => lstsq nsym A' b) with
  | none => rfl
  | some xs => simp [hz xs]

theorem nRows_of_rect' {t : Table α} {n : Nat} (hrect : ∀ c ∈ t, c.2.length = n) (hne : t ≠ []) : nRows t = n := by
  cases t with
  | nil => exact absurd rfl hne
  | cons c r => simp [nRows, hrect c (by simp)]

theorem fillXs_rearranged (rel : Rows) (P : Params α) {t t' : Table α} {n : Nat} (h : Rearranged t t')
    (hrect : ∀ c ∈ t, c.2.length = n) (hrel : ∀ r ∈ rel, r.coeffs.length ≤ nsym) :
    fillXs rel ((t.map (·.1)).map symIdx) P t = fillXs rel ((t'.map (·.1)).map symIdx) P t' := by
  have hS := h.selPairs_perm
  have hrect' := h.rect hrect
  unfold fillXs
  rw [selIdxOf_eq, selIdxOf_eq, selColsOf_eq, selColsOf_eq]
  by_cases hS0 : selPairs t = []
  · have hS0' : selPairs t' = [] := List.Perm.eq_nil (hS0 ▸ hS.symm)
    simp [hS0, hS0']
  · have hS0' : selPairs t' ≠ [] := fun e => hS0 (List.Perm.eq_nil (e ▸ hS))
    have e1 : ((selPairs t).map Prod.fst).isEmpty = false := by
      cases hs : selPairs t with
      | nil => exact absurd hs hS0
      | cons _ _ => rfl
    have e1' : ((selPairs t').map Prod.fst).isEmpty = false := by
      cases hs : selPairs t' with
      | nil => exact absurd hs hS0'
      | cons _ _ => rfl
    have ht : t ≠ [] := by rintro rfl; exact hS0 rfl
    have ht' : t' ≠ [] := by rintro rfl; exact hS0' rfl
    rw [nRows_of_rect' hrect ht, nRows_of_rect' hrect' ht']
    simp only [e1, e1', Bool.false_eq_true, if_false]
    have hzp : ∀ k, (List.zip (stackA (α := α) ((selPairs t).map Prod.fst) rel)
          (stackB ((selPairs t).map Prod.snd) rel k)).Perm
        (List.zip (stackA (α := α) ((selPairs t').map Prod.fst) rel)
          (stackB ((selPairs t').map Prod.snd) rel k)) := by
      intro k
      rw [zip_stack, zip_stack]
      exact (hS.map _).append_right _
    have hAp : (stackA (α := α) ((selPairs t).map Prod.fst) rel).Perm
        (stackA (α := α) ((selPairs t').map Prod.fst) rel) := by
      unfold stackA
      exact ((hS.map _).map _).append_right _
    have hb : ∀ (u : Table α) k, (stackB ((selPairs u).map Prod.snd) rel k).length =
        (stackA (α := α) ((selPairs u).map Prod.fst) rel).length := by
      intro u k; simp [stackA, stackB]
    rw [solveStage_congr (List.range n)
      (fun k => lstsq_perm (hb t k) (hb t' k) (hzp k) (stackA_rows_le _ rel hrel))
      (kerWitness_isSome_congr (fun r => hAp.mem_iff)) hAp.length_eq
      (fun k x => sumSq_residual_perm x (hzp k))]

theorem fillSol_rearranged (env : Env) (sys : String) (P : Params α) {t t' : Table α} {n : Nat}
    (h : Rearranged t t') (hrect : ∀ c ∈ t, c.2.length = n)
    (henv : ∀ rel, resolve env sys = .ok rel → ∀ r ∈ rel, r.coeffs.length ≤ nsym) :
    fillSol env sys P t = fillSol env sys P t' := by
  unfold fillSol
  rw [recognise_eq, recognise_eq, h.any_badName]
  cases (t'.map (·.1)).any badName with
  | true => rfl
  | false =>
    simp only [Bool.false_eq_true, if_false]
    cases hres : resolve env sys with
    | error e => rfl
    | ok rel => exact fillXs_rearranged rel P h hrect (henv rel hres)

/-! ### the packaged relation rows have exactly 21 coefficients -/

def packagedLenOK (p : String × List (List Int × Int)) : Bool :=
  match packaged p.1 with
  | .ok rel => rel.all fun r => r.coeffs.length == nsym
  | .error _ => true

theorem packaged_len_all : Generated.constraintSystems.all packagedLenOK = true := by decide +kernel

theorem packaged_coeffs_length {sys : String} {rel : Rows} (h : packaged sys = .ok rel) :
    ∀ r ∈ rel, r.coeffs.length = nsym := by
  have hp : ∃ p ∈ Generated.constraintSystems, p.1 = sys := by
    unfold packaged at h
    split at h
    · rename_i p hfind
      exact ⟨p, List.mem_of_find?_eq_some hfind, by simpa using List.find?_some hfind⟩
    · simp at h
  obtain ⟨p, hpm, rfl⟩ := hp
  have := List.all_eq_true.mp packaged_len_all p hpm
  unfold packagedLenOK at this
  rw [h] at this
  intro r hr
  simpa using List.all_eq_true.mp this r hr

theorem resolve_coeffs_length (env : Env) (sys : String)
    (huser : ∀ rows, env.userFile sys = some rows → ∀ r ∈ rows, r.coeffs.length ≤ nsym) :
    ∀ rel, resolve env sys = .ok rel → ∀ r ∈ rel, r.coeffs.length ≤ nsym := by
  intro rel hres
  rcases resolve_ok hres with hp | hu
  · exact fun r hr => le_of_eq (packaged_coeffs_length hp r hr)
  · exact huser rel hu

end Cij.Fill
