/-
  C18 — the block functions of `CijModel/Static.lean` ARE the blocks of `cij/cli/static.py::main` as the translator reads them on
  this run (`Generated/StaticSpec.lean`, from tools/gens/static_src.py), interpreted by `CijModel/StaticExpr.lean`.
  Every statement is for an arbitrary scalar type (no laws are used: both sides are the same term after unfolding the
  interpreter on the generated trees and a few list identities), hence also for the `Float` run of the driver.
-/
import CijModel.StaticExpr
import CijModel.StaticDefaults
import Generated.StaticSpec
import CijProofs.Lemmas.Static

set_option linter.unusedSectionVars false

namespace Cij.StaticSrc
open Cij Cij.Static

@[simp] theorem map_ar_bind_toAr {α : Type} (o : Option (List α)) : (o.map Val.ar).bind Val.toAr = o := by
  cases o <;> rfl

theorem map_ar_bind_toAr_bind {α β : Type} (o : Option (List α)) (k : List α → Option β) :
    ((o.map Val.ar).bind fun y => y.toAr.bind k) = o.bind k := by
  cases o <;> rfl

def blk (k : Nat) : Block := Generated.staticBlocks.getD k default

section
variable {α : Type} [Add α] [Sub α] [Mul α] [Div α] [Neg α] [OfNat α 0] [OfNat α 1] [NatCast α]
  [LE α] [DecidableLE α] [LT α] [DecidableLT α] [BEq α]

/-! ### evaluation rules on known values (so that the interpreter can be unfolded without case explosion) -/

@[simp] theorem toAr_ar (l : List α) : (Val.ar l).toAr = some l := rfl
@[simp] theorem toAr_sc (a : α) : (Val.sc a).toAr = none := rfl
@[simp] theorem toAr_nat (n : Nat) : (Val.nat n : Val α).toAr = none := rfl
@[simp] theorem toSc_sc (a : α) : (Val.sc a).toSc = some a := rfl
@[simp] theorem toSc_nat (n : Nat) : (Val.nat n : Val α).toSc = some (n : α) := rfl
@[simp] theorem toSc_ar (l : List α) : (Val.ar l).toSc = none := rfl
@[simp] theorem toNat_nat (n : Nat) : (Val.nat n : Val α).toNat = some n := rfl
@[simp] theorem toNat_sc (a : α) : (Val.sc a).toNat = none := rfl
@[simp] theorem toNat_ar (l : List α) : (Val.ar l).toNat = none := rfl
@[simp] theorem map1_nat (f : α → α) (n : Nat) : Val.map1 f (.nat n) = .sc (f (n : α)) := rfl
@[simp] theorem map1_sc (f : α → α) (a : α) : Val.map1 f (.sc a) = .sc (f a) := rfl
@[simp] theorem map1_ar (f : α → α) (l : List α) : Val.map1 f (.ar l) = .ar (l.map f) := rfl
@[simp] theorem bin_nat_nat_some (f : α → α → α) (g : Nat → Nat → Nat) (a b : Nat) :
    Val.bin f (some g) (.nat a) (.nat b) = .nat (g a b) := rfl
@[simp] theorem bin_nat_nat_none (f : α → α → α) (a b : Nat) :
    Val.bin f none (.nat a) (.nat b) = .sc (f (a : α) (b : α)) := rfl
@[simp] theorem bin_nat_sc (f : α → α → α) (g) (a : Nat) (b : α) : Val.bin f g (.nat a) (.sc b) = .sc (f (a : α) b) := rfl
@[simp] theorem bin_nat_ar (f : α → α → α) (g) (a : Nat) (l : List α) :
    Val.bin f g (.nat a) (.ar l) = .ar (l.map fun x => f (a : α) x) := rfl
@[simp] theorem bin_sc_nat (f : α → α → α) (g) (a : α) (b : Nat) : Val.bin f g (.sc a) (.nat b) = .sc (f a (b : α)) := rfl
@[simp] theorem bin_sc_sc (f : α → α → α) (g) (a b : α) : Val.bin f g (.sc a) (.sc b) = .sc (f a b) := rfl
@[simp] theorem bin_sc_ar (f : α → α → α) (g) (a : α) (l : List α) :
    Val.bin f g (.sc a) (.ar l) = .ar (l.map fun x => f a x) := rfl
@[simp] theorem bin_ar_nat (f : α → α → α) (g) (l : List α) (b : Nat) :
    Val.bin f g (.ar l) (.nat b) = .ar (l.map fun x => f x (b : α)) := rfl
@[simp] theorem bin_ar_sc (f : α → α → α) (g) (l : List α) (b : α) :
    Val.bin f g (.ar l) (.sc b) = .ar (l.map fun x => f x b) := rfl
@[simp] theorem bin_ar_ar (f : α → α → α) (g) (l m : List α) :
    Val.bin f g (.ar l) (.ar m) = .ar (List.zipWith f l m) := rfl

theorem lookup_cons {β : Type} (k : String) (v : β) (r : List (String × β)) (n : String) :
    lookup ((k, v) :: r) n = if k = n then some v else lookup r n := rfl

end

section
variable {α : Type} [Add α] [Sub α] [Mul α] [Div α] [Neg α] [OfNat α 0] [OfNat α 1] [NatCast α]
  [LE α] [DecidableLE α] [LT α] [DecidableLT α] [BEq α]

theorem execStmts_nil (I : Inp α) (st : St α) : execStmts I [] st = some st := rfl

theorem execStmts_cons (I : Inp α) (s : Stmt) (r : List Stmt) (st : St α) :
    execStmts I (s :: r) st = (execStmt I st s).bind (execStmts I r) := rfl

theorem step_some {I : Inp α} {s : Stmt} {r : List Stmt} {st st' : St α} (h : execStmt I st s = some st') :
    execStmts I (s :: r) st = execStmts I r st' := by rw [execStmts_cons, h]; rfl

theorem step_none {I : Inp α} {s : Stmt} {r : List Stmt} {st : St α} (h : execStmt I st s = none) :
    execStmts I (s :: r) st = none := by rw [execStmts_cons, h]; rfl

theorem execBlock_eq (I : Inp α) (st : St α) (b : Block) :
    execBlock I st b = if guardHolds I st b.guard then execStmts I b.body st else some st := rfl

end

/-- unfold the interpreter on a generated block (hypotheses of the context are used as rewrite rules) -/
macro "src_simp" : tactic => `(tactic| simp only [blk, Generated.staticBlocks, List.getD_cons_zero, List.getD_cons_succ,
  execBlock, guardHolds, List.all_nil, List.all_cons, execStmts, execStmt, eval, lookup_cons, optVal, unitFactor,
  toAr_ar, toAr_sc, toAr_nat, toSc_sc, toSc_nat, toSc_ar, toNat_nat, toNat_sc, toNat_ar, map1_nat, map1_sc, map1_ar,
  bin_nat_nat_some, bin_nat_nat_none, bin_nat_sc, bin_nat_ar, bin_sc_nat, bin_sc_sc, bin_sc_ar, bin_ar_nat, bin_ar_sc,
  bin_ar_ar, Option.bind_some, Option.bind_none, Option.map_some, Option.map_none, Option.pure_def, Option.bind_eq_bind,
  if_true, if_false, String.reduceEq, getCol_cons, getCol_nil, Bool.and_true, Bool.true_and, reduceCtorEq, List.getElem?_cons_zero, ↓reduceIte, getCol_setCol_self, getCol_setCol_ne,
  ne_eq, not_false_eq_true, *])

/-- unfold the model side with the same case hypotheses -/
macro "model_simp" "[" ls:Lean.Parser.Tactic.simpLemma,* "]" : tactic => `(tactic| simp only [execStmts_nil, bind, pure,
  Option.bind_some, Option.bind_none, Option.map_some, Option.map_none, Option.bind_eq_bind, Option.pure_def,
  $ls,*, *])

/-- The next statement of a block runs on the known state: `src_simp` evaluates it (the case hypotheses in the context are
    what it rewrites with, so they are needed although no proof names them) and `rfl` reads off the new state. -/
macro "src_step" : tactic => `(tactic| refine Eq.trans (step_some (by src_simp <;> rfl)) ?_)
/-- The next statement of a block raises on the known state. -/
macro "src_fail" : tactic => `(tactic| refine Eq.trans (step_none (by src_simp)) ?_)

section
variable {α : Type} [Add α] [Sub α] [Mul α] [Div α] [Neg α] [OfNat α 0] [OfNat α 1] [NatCast α]
  [LE α] [DecidableLE α] [LT α] [DecidableLT α] [BEq α]

theorem fitModulus_is_source (I : Inp α) (vols vArr mod : List α) (order : Nat) :
    fitModulus I.fit I.E vols vArr mod order
      = (callFun I Generated.staticFitModulus [.ar vols, .ar vArr, .ar mod, .nat order]).bind Val.toAr := by
  -- the call is a closed tree: unfolding the interpreter leaves the model's `fit …` wrapped in `.ar` and read back by `toAr`
  cases vols with
  | nil => rfl
  | cons v0 vs => exact (map_ar_bind_toAr _).symm

/-- the default `order=2` of the source is the default of the model's `fitModulus` -/
theorem fitModulus_default_is_source (I : Inp α) (vols vArr mod : List α) :
    fitModulus I.fit I.E vols vArr mod
      = (callFun I Generated.staticFitModulus [.ar vols, .ar vArr, .ar mod]).bind Val.toAr :=
  fitModulus_is_source I vols vArr mod 2

theorem v2p1d_eq_v2pRow0 (x p pn : List α) : v2p1d x p pn = v2pRow0 x.reverse p.reverse pn := rfl

theorem v2p1d_is_source (I : Inp α) (x p pn : List α) :
    v2p1d x p pn = (callFun I Generated.staticV2p1d [.ar x, .ar p, .ar pn]).bind Val.toAr :=
  (map_ar_bind_toAr _).symm

/-! ### blocks 0-2: reading the files, the frame of INPUT01, the EoS arrays -/

def stEos (st : St α) (ve : List α × List α) (e : Eos α) : St α :=
  { st with df := [("V", ve.1), ("F", ve.2)], index := none,
            loc := ("p_array", .ar e.pArray) :: ("f_array", .ar e.fArray) :: ("energies", .ar ve.2)
                   :: ("v_array", .ar e.vArray) :: ("volumes", .ar ve.1) :: st.loc }

theorem read_blocks_are_source (I : Inp α) (st : St α) :
    execBlock I st (blk 0) = some st ∧ execBlock I st (blk 1) = some st := by
  constructor
  · src_simp
  · src_simp
    simp

theorem eos_stmts_are_source (I : Inp α) (st : St α) (vols ens : List α) (hdf : st.df = [("V", vols), ("F", ens)]) :
    execStmts I ((blk 2).body.drop 1) st = (eos I.fit I.E I.o.vRatio I.o.ntv vols ens).map fun e =>
      { st with loc := ("p_array", .ar e.pArray) :: ("f_array", .ar e.fArray) :: ("energies", .ar ens)
                        :: ("v_array", .ar e.vArray) :: ("volumes", .ar vols) :: st.loc } := by
  have hV : getCol st.df "V" = some vols := by rw [hdf]; rfl
  have hF : getCol st.df "F" = some ens := by rw [hdf]; rfl
  simp only [blk, Generated.staticBlocks, List.getD_cons_zero, List.getD_cons_succ, List.drop_succ_cons, List.drop_zero]
  src_step
  cases hlo : V2P.listMin vols with
  | none => src_fail; model_simp [eos]
  | some lo =>
  cases hhi : V2P.listMax vols with
  | none => src_fail; model_simp [eos]
  | some hi =>
  src_step
  src_step
  cases vols with
  | nil => cases hlo
  | cons v0 vs =>
  cases hfit : I.fit (List.map (I.E.strain v0) (v0 :: vs)) ens
      (List.map (I.E.strain v0) (linspace (lo / I.o.vRatio) (hi * I.o.vRatio) I.o.ntv)) 2 with
  | none => src_fail; model_simp [eos, fitModulus]
  | some fA =>
  src_step
  cases hgf : FullModulus.gradient fA with
  | none => src_fail; model_simp [eos, fitModulus]
  | some gf =>
  cases hgv : FullModulus.gradient (linspace (lo / I.o.vRatio) (hi * I.o.vRatio) I.o.ntv) with
  | none => src_fail; model_simp [eos, fitModulus]
  | some gv =>
    src_step
    model_simp [eos, fitModulus, List.zipWith_map_left]

theorem execStmts_append (I : Inp α) (a b : List Stmt) (st : St α) :
    execStmts I (a ++ b) st = (execStmts I a st).bind (execStmts I b) := by
  induction a generalizing st with
  | nil => rfl
  | cons s r ih =>
    rw [List.cons_append, execStmts_cons, execStmts_cons, Option.bind_assoc]
    cases execStmt I st s with
    | none => rfl
    | some st' => exact ih st'

/-- `df = DataFrame(index=range(input01.nv))`, `df.loc[i, "V"] = input01.volumes[i].volume`, `… "F" … .energy` -/
theorem frame_stmt_is_source (I : Inp α) (st : St α) :
    execStmts I ((blk 2).body.take 1) st = (input01Columns I.d1).map fun ve =>
      { st with df := [("V", ve.1), ("F", ve.2)], index := none } := by
  simp only [blk, Generated.staticBlocks, List.getD_cons_zero, List.getD_cons_succ, List.take_succ_cons, List.take_zero]
  by_cases h : I.d1.volumes.length < I.d1.nv
  · src_fail
    simp [input01Columns, h]
  · have hn : (I.d1.volumes.length < I.d1.nv) = False := eq_false h
    refine Eq.trans (step_some (by
      src_simp
      simp only [attrOf, List.map_cons, List.map_nil, allSome, Option.map_some]
      rfl)) ?_
    simp [input01Columns, h, execStmts_nil]

theorem eos_block_is_source (I : Inp α) (st : St α) :
    execBlock I st (blk 2) = (input01Columns I.d1).bind fun ve =>
      (eos I.fit I.E I.o.vRatio I.o.ntv ve.1 ve.2).map (stEos st ve) := by
  have hg : guardHolds I st (blk 2).guard = true := by
    simp [blk, Generated.staticBlocks, guardHolds]
  rw [execBlock_eq, hg, if_pos rfl, ← List.take_append_drop 1 (blk 2).body, execStmts_append, frame_stmt_is_source]
  cases input01Columns I.d1 with
  | none => rfl
  | some ve =>
    simp only [Option.map_some, Option.bind_some]
    rw [eos_stmts_are_source I _ ve.1 ve.2 rfl]
    rfl

/-! ### blocks 3-6: the three `interp` branches and `v_array = df.loc[:, "V"]` -/

theorem interp_guards (I : Inp α) (st : St α) :
    guardHolds I st (blk 3).guard = (I.o.interp == .none) ∧
    guardHolds I st (blk 4).guard = (I.o.interp == .volume) ∧
    guardHolds I st (blk 5).guard = (I.o.interp == .pressure) := by
  cases h : I.o.interp <;>
    simp [blk, Generated.staticBlocks, guardHolds, Atom.holds, interpName, h]

theorem execBlock_skip (I : Inp α) (st : St α) (b : Block) (h : guardHolds I st b.guard = false) :
    execBlock I st b = some st := by rw [execBlock_eq, h]; rfl

theorem execBlock_run (I : Inp α) (st : St α) (b : Block) (h : guardHolds I st b.guard = true) :
    execBlock I st b = execStmts I b.body st := by rw [execBlock_eq, h]; rfl

/-- mode none: `df.loc[:, "P"] = InterpolatedUnivariateSpline(v_array, p_array)(volumes)` -/
theorem none_block_is_source (I : Inp α) (st : St α) (vA pA vols : List α) (hi : I.o.interp = .none)
    (h1 : lookup st.loc "v_array" = some (.ar vA)) (h2 : lookup st.loc "p_array" = some (.ar pA))
    (h3 : lookup st.loc "volumes" = some (.ar vols)) :
    execBlock I st (blk 3) = some { st with df := setCol st.df "P" (I.E.spline vA pA vols) } := by
  rw [execBlock_run _ _ _ (by rw [(interp_guards I st).1, hi]; rfl)]
  simp only [blk, Generated.staticBlocks, List.getD_cons_zero, List.getD_cons_succ]
  src_step
  rfl

/-- mode volume: a new frame of `ntv` rows with `V, F, P = v_array, f_array, p_array` -/
theorem volume_block_is_source (I : Inp α) (st : St α) (vA fA pA : List α) (hi : I.o.interp = .volume)
    (h1 : lookup st.loc "v_array" = some (.ar vA)) (h2 : lookup st.loc "f_array" = some (.ar fA))
    (h3 : lookup st.loc "p_array" = some (.ar pA)) :
    execBlock I st (blk 4) = some { st with df := [("V", vA), ("F", fA), ("P", pA)], index := none } := by
  rw [execBlock_run _ _ _ (by rw [(interp_guards I st).2.1, hi]; rfl)]
  simp only [blk, Generated.staticBlocks, List.getD_cons_zero, List.getD_cons_succ]
  src_step
  src_step
  src_step
  src_step
  rfl

/-- mode pressure: `_p_array = linspace(_from_gpa(p_min), _from_gpa(p_min + delta_p * (ntv - 1)), ntv)`, `V` and `F` by the
    same `v2p1d` with the same pressures, a new frame of `ntv` rows -/
theorem pressure_block_is_source (I : Inp α) (st : St α) (vA fA pA : List α) (hi : I.o.interp = .pressure)
    (h1 : lookup st.loc "v_array" = some (.ar vA)) (h2 : lookup st.loc "f_array" = some (.ar fA))
    (h3 : lookup st.loc "p_array" = some (.ar pA)) :
    execBlock I st (blk 5) =
      (v2p1d vA pA (requestedPressures I.U I.o)).bind fun v => (v2p1d fA pA (requestedPressures I.U I.o)).map fun f =>
        { st with df := [("V", v), ("F", f), ("P", requestedPressures I.U I.o)], index := none,
                  loc := ("_f_array", .ar f) :: ("_v_array", .ar v) :: ("_p_array", .ar (requestedPressures I.U I.o))
                         :: st.loc } := by
  rw [execBlock_run _ _ _ (by rw [(interp_guards I st).2.2, hi]; rfl)]
  simp only [blk, Generated.staticBlocks, List.getD_cons_zero, List.getD_cons_succ]
  have hp : linspace (I.o.pMin * I.U.fromGpa) ((I.o.pMin + I.o.deltaP * ((I.o.ntv - 1 : Nat) : α)) * I.U.fromGpa) I.o.ntv
      = requestedPressures I.U I.o := rfl
  src_step
  cases hv : v2p1d vA pA (requestedPressures I.U I.o) with
  | none =>
    rw [v2p1d_eq_v2pRow0] at hv
    src_fail
    rfl
  | some v =>
  rw [v2p1d_eq_v2pRow0] at hv
  src_step
  cases hf : v2p1d fA pA (requestedPressures I.U I.o) with
  | none =>
    rw [v2p1d_eq_v2pRow0] at hf
    src_fail
    rfl
  | some f =>
    rw [v2p1d_eq_v2pRow0] at hf
    src_step
    src_step
    src_step
    src_step
    src_step
    rfl

/-- block 6 (unguarded): `v_array = df.loc[:, "V"].to_numpy()` — the row volumes of the table being printed -/
theorem rowvolume_block_is_source (I : Inp α) (st : St α) (v : List α) (hV : getCol st.df "V" = some v) :
    execBlock I st (blk 6) = some { st with loc := ("v_array", .ar v) :: st.loc } := by
  rw [execBlock_run _ _ _ (by simp [blk, Generated.staticBlocks, guardHolds])]
  simp only [blk, Generated.staticBlocks, List.getD_cons_zero, List.getD_cons_succ]
  src_step
  rfl

def stMode (st : St α) (ve : List α × List α) (e : Eos α) (interp : Interp) (x : VFP α) : St α :=
  { stEos st ve e with
    df := x.table,
    loc := ("v_array", .ar x.v) ::
      ((match interp with
        | .pressure => [("_f_array", Val.ar x.f), ("_v_array", Val.ar x.v), ("_p_array", Val.ar x.p)]
        | _ => []) ++ (stEos st ve e).loc) }

theorem mode_blocks_are_source (I : Inp α) (st : St α) (ve : List α × List α) (e : Eos α) :
    execBlocks I [blk 3, blk 4, blk 5, blk 6] (stEos st ve e)
      = (modeTable I.E I.U I.o ve.1 ve.2 e).map (stMode st ve e I.o.interp) := by
  cases hi : I.o.interp with
  | none =>
    have g4 : ∀ s : St α, guardHolds I s (blk 4).guard = false := fun s => by rw [(interp_guards I s).2.1, hi]; rfl
    have g5 : ∀ s : St α, guardHolds I s (blk 5).guard = false := fun s => by rw [(interp_guards I s).2.2, hi]; rfl
    simp only [execBlocks, Option.bind_some]
    rw [none_block_is_source I _ e.vArray e.pArray ve.1 hi rfl rfl rfl]
    simp only [Option.bind_some, execBlock_skip _ _ _ (g4 _), execBlock_skip _ _ _ (g5 _)]
    rw [rowvolume_block_is_source I _ ve.1 rfl]
    simp [modeTable, hi, stMode, stEos, VFP.table, setCol]
  | volume =>
    have g3 : ∀ s : St α, guardHolds I s (blk 3).guard = false := fun s => by rw [(interp_guards I s).1, hi]; rfl
    have g5 : ∀ s : St α, guardHolds I s (blk 5).guard = false := fun s => by rw [(interp_guards I s).2.2, hi]; rfl
    simp only [execBlocks, Option.bind_some, execBlock_skip _ _ _ (g3 _)]
    rw [volume_block_is_source I _ e.vArray e.fArray e.pArray hi rfl rfl rfl]
    simp only [Option.bind_some, execBlock_skip _ _ _ (g5 _)]
    rw [rowvolume_block_is_source I _ e.vArray rfl]
    simp [modeTable, hi, stMode, stEos, VFP.table]
  | pressure =>
    have g3 : ∀ s : St α, guardHolds I s (blk 3).guard = false := fun s => by rw [(interp_guards I s).1, hi]; rfl
    have g4 : ∀ s : St α, guardHolds I s (blk 4).guard = false := fun s => by rw [(interp_guards I s).2.1, hi]; rfl
    simp only [execBlocks, Option.bind_some, execBlock_skip _ _ _ (g3 _), execBlock_skip _ _ _ (g4 _)]
    rw [pressure_block_is_source I _ e.vArray e.fArray e.pArray hi rfl rfl rfl]
    simp only [modeTable, hi]
    cases hv : v2p1d e.vArray e.pArray (requestedPressures I.U I.o) with
    | none => rfl
    | some v =>
    cases hf : v2p1d e.fArray e.pArray (requestedPressures I.U I.o) with
    | none => rfl
    | some f =>
      simp only [Option.bind_some, Option.map_some]
      rw [rowvolume_block_is_source I _ v rfl]
      simp [stMode, stEos, VFP.table]

/-! ### block 7: density from the header of INPUT02, the per-key fit -/

theorem input02_guard (I : Inp α) (st : St α) (k : Nat) (hk : k ∈ [7, 11, 14]) :
    guardHolds I st (blk k).guard = I.d2.isSome := by
  simp only [List.mem_cons, List.not_mem_nil, or_false] at hk
  rcases hk with rfl | rfl | rfl <;> simp [blk, Generated.staticBlocks, guardHolds, Atom.holds]

theorem moduli_block_is_source (I : Inp α) (st : St α) (rowV v : List α)
    (hv : lookup st.loc "v_array" = some (.ar rowV)) (hV : getCol st.df "V" = some v) :
    execBlock I st (blk 7) = match I.d2 with
      | none => some st
      | some d => (moduliColumns I.fit I.E d rowV).map fun cols =>
          { st with df := cols.foldl (fun t c => setCol t c.1 c.2)
                            (setCol st.df "density" (v.map fun x => d.cellmass / x)) } := by
  cases hd : I.d2 with
  | none => exact execBlock_skip _ _ _ (by rw [input02_guard I st 7 (by decide), hd]; rfl)
  | some d =>
    rw [execBlock_run _ _ _ (by rw [input02_guard I st 7 (by decide), hd]; rfl)]
    simp only [blk, Generated.staticBlocks, List.getD_cons_zero, List.getD_cons_succ]
    src_step
    rw [execStmts_cons]
    simp only [execStmt, hd, Option.bind_some, bind, pure]
    cases hvol : d.volumes with
    | nil => simp [moduliColumns, hvol]
    | cons v0 vr =>
      simp only [List.head?_cons, Option.bind_some, moduliColumns, hvol, Option.bind_assoc, execStmts_nil,
        Option.map_eq_bind, Function.comp_def]
      congr 3
      funext kv
      cases h1 : ElastDat.canonName kv.1 with
      | none => rfl
      | some name =>
      cases h2 : keyValues d kv.1 with
      | none => rfl
      | some vals =>
        src_simp
        simp only [hvol, List.map_cons, List.getElem?_cons_zero, Option.map_some, Option.bind_some, toSc_sc, toAr_ar,
          fitModulus, map_ar_bind_toAr_bind]

theorem moduli_block_eq_addModuli (I : Inp α) (st : St α) (x : VFP α) (hdf : st.df = x.table)
    (hv : lookup st.loc "v_array" = some (.ar x.v)) :
    execBlock I st (blk 7) = (addModuli I.fit I.E I.d2 x).map fun t => { st with df := t } := by
  rw [moduli_block_is_source I st x.v x.v hv (by rw [hdf]; rfl)]
  cases hd : I.d2 with
  | none =>
    simp only [addModuli, Option.map_some, ← hdf]
  | some d =>
    simp only [addModuli, bind, pure, hdf]
    cases moduliColumns I.fit I.E d x.v <;> rfl

/-! ### blocks 8-9: `if system == None: warning  elif input02: df = fill_cij(df, system)` -/

theorem fill_blocks_are_source (I : Inp α) (st : St α) :
    execBlocks I [blk 8, blk 9] st = (applyFill I.E I.o.system I.d2.isSome st.df).map fun t => { st with df := t } := by
  have g8 : ∀ s : St α, guardHolds I s (blk 8).guard = I.o.system.isNone := fun s => by
    simp [blk, Generated.staticBlocks, guardHolds, Atom.holds]
  have g9 : ∀ s : St α, guardHolds I s (blk 9).guard = (!I.o.system.isNone && I.d2.isSome) := fun s => by
    simp [blk, Generated.staticBlocks, guardHolds, Atom.holds]
  simp only [execBlocks, execBlock_eq, g8, g9]
  cases hs : I.o.system with
  | none =>
    simp only [Option.isNone_none, if_true, Bool.not_true, Bool.false_and, Bool.false_eq_true, if_false,
      Option.bind_some, applyFill, Option.map_some]
    simp only [blk, Generated.staticBlocks, List.getD_cons_zero, List.getD_cons_succ]
    rfl
  | some sys =>
    cases hd : I.d2 with
    | none => simp [applyFill]
    | some d =>
      simp only [Option.isNone_some, Bool.false_eq_true, if_false, Option.bind_some, Bool.not_false, Option.isSome_some,
        Bool.and_self, if_true, applyFill, Option.bind_fun_some]
      simp only [blk, Generated.staticBlocks, List.getD_cons_zero, List.getD_cons_succ]
      cases hf : I.E.fill sys st.df with
      | none => src_fail; rfl
      | some t => src_step; rfl

/-! ### block 10: `if cellmass: df.loc[:, "density"] = cellmass / df.loc[:, "V"]` -/

theorem truthy_some (x : Option α) (m : α) (h : truthy x = some m) : x = some m := by
  cases x with
  | none => simp [truthy] at h
  | some v =>
    simp only [truthy] at h
    split at h
    · cases h
    · exact h

theorem cellmass_block_is_source (I : Inp α) (st : St α) :
    execBlock I st (blk 10) = (overrideDensity I.o.cellmass st.df).map fun t => { st with df := t } := by
  have g : guardHolds I st (blk 10).guard = (truthy I.o.cellmass).isSome := by
    simp [blk, Generated.staticBlocks, guardHolds, Atom.holds]
  rw [execBlock_eq, g]
  cases htr : truthy I.o.cellmass with
  | none => simp [overrideDensity, htr]
  | some m =>
    have hm := truthy_some _ _ htr
    simp only [Option.isSome_some, if_true, overrideDensity, htr]
    simp only [blk, Generated.staticBlocks, List.getD_cons_zero, List.getD_cons_succ]
    cases hV : getCol st.df "V" with
    | none => src_fail; rfl
    | some v => src_step; rfl

theorem zipWith_map_map_same {β γ δ ε : Type} (f : γ → δ → ε) (g : β → γ) (h : β → δ) (l : List β) :
    List.zipWith f (l.map g) (l.map h) = l.map fun x => f (g x) (h x) := by
  induction l with
  | nil => rfl
  | cons a r ih => simp [ih]

/-- the assembly loop of the source (`"c%d%d" % tuple(sorted((i+1, j+1)))`, `if key in df.columns`, zeros otherwise) builds
    the model's `cMat` -/
theorem asmMat_is_source (t : Table α) (r : Nat) :
    asmMat { dim := 6, keyOffset := 1, sorted := true, viewOffset := 1 } t r = cMat t r := by
  -- the loop runs over 0-based `i, j` and names the column of `(i+1, j+1)`; `cMat` runs over the 1-based indices
  have h : Static.idx6 = (List.range 6).map (· + 1) := rfl
  simp only [cMat, h, List.map_map]
  rfl

theorem matCol_one (ms : List (List (List α))) (i j : Nat) : matCol ms 1 i j = ms.map fun m => at6 m i j := rfl

theorem vrh_stmts_are_source (I : Inp α) (st : St α) (hview : st.view = 1) :
    execStmts I ((blk 11).body.drop 1) st
      = some { st with df := (vrhColumns st.cs st.ss).foldl (fun t c => setCol t c.1 c.2) st.df } := by
  rcases st with ⟨df, loc, cs, ss, view, kv, idx, out⟩
  simp only at hview
  subst hview
  simp only [blk, Generated.staticBlocks, List.getD_cons_zero, List.getD_cons_succ, List.drop_succ_cons, List.drop_zero]
  -- every `c[:, i, j]` is a map over the stack, so sums of them are one map (`zipWith_map_map_same`); what is left is
  -- `vrhColumns` written out
  simp only [execStmts, execStmt, ofVExpr, propCol, Generated.staticVrh_bm_V, Generated.staticVrh_bm_R,
    Generated.staticVrh_bm_VRH, Generated.staticVrh_G_V, Generated.staticVrh_G_R, Generated.staticVrh_G_VRH, eval,
    matCol_one, Option.bind_some, Option.map_some, Option.pure_def, Option.bind_eq_bind, toAr_ar, bin_nat_ar, bin_ar_nat,
    bin_ar_ar, getCol_setCol_self, getCol_setCol_ne, ne_eq, String.reduceEq, not_false_eq_true, zipWith_map_map_same,
    List.map_map, Function.comp_def, List.map_zipWith]
  rfl

theorem vrh_block_is_source (I : Inp α) (st : St α) :
    execBlock I st (blk 11) =
      if I.d2.isSome then
        (I.E.inv6 ((List.range (nRows st.df)).map (cMat st.df))).map fun ss =>
          { st with df := (vrhColumns ((List.range (nRows st.df)).map (cMat st.df)) ss).foldl
                            (fun t c => setCol t c.1 c.2) st.df,
                    cs := (List.range (nRows st.df)).map (cMat st.df), ss := ss, view := 1 }
      else some st := by
  rw [execBlock_eq, input02_guard I st 11 (by decide)]
  cases hd : I.d2.isSome with
  | false => rfl
  | true =>
    simp only [if_true]
    simp only [blk, Generated.staticBlocks, List.getD_cons_zero, List.getD_cons_succ]
    have hasm : ∀ t : Table α, asmMat { dim := 6, keyOffset := 1, sorted := true, viewOffset := 1 } t = cMat t :=
      fun t => funext (asmMat_is_source t)
    cases hinv : I.E.inv6 ((List.range (nRows st.df)).map (cMat st.df)) with
    | none =>
      src_fail
      rfl
    | some ss =>
      src_step
      exact vrh_stmts_are_source I _ rfl

/-- Block 11 changes the frame as `addVrh` does and keeps the row labels; the stacks `cs`, `ss` and the view offset it also
    sets are read by no later block. -/
theorem vrh_block_frame (I : Inp α) (st : St α) :
    (execBlock I st (blk 11)).map (·.df) = addVrh I.E I.d2.isSome st.df ∧
    ∀ a, execBlock I st (blk 11) = some a → a.index = st.index := by
  rw [vrh_block_is_source]
  unfold addVrh
  cases I.d2.isSome with
  | false => exact ⟨rfl, fun a h => by cases h; rfl⟩
  | true =>
    simp only [if_true, Bool.not_true, Bool.false_eq_true, if_false]
    cases I.E.inv6 ((List.range (nRows st.df)).map (cMat st.df)) with
    | none => exact ⟨rfl, fun a h => by cases h⟩
    | some ss => exact ⟨rfl, fun a h => by cases h; rfl⟩

/-! ### blocks 12-13: unit conversion (`df[c] = _to_x(df[c].to_numpy())` overwrites the column in place) -/

theorem names_mapCol (t : Table α) (n : String) (f : α → α) : (mapCol t n f).map (·.1) = t.map (·.1) := by
  induction t with
  | nil => rfl
  | cons c r ih =>
    simp only [mapCol, List.map_cons, List.map_map] at ih ⊢
    refine congrArg₂ _ ?_ ih
    split <;> rfl

theorem setCol_map_eq_mapCol (t : Table α) (n : String) (v : List α) (g : α → α) (hnd : (t.map (·.1)).Nodup)
    (h : getCol t n = some v) : setCol t n (v.map g) = mapCol t n g := by
  induction t with
  | nil => cases h
  | cons c r ih =>
    simp only [List.map_cons, List.nodup_cons] at hnd
    rw [getCol_cons] at h
    by_cases hc : c.1 = n
    · rw [if_pos hc] at h
      cases h
      have hr := mapCol_absent r n g (hc ▸ hnd.1)
      simp only [mapCol] at hr
      simp only [setCol, mapCol, hc, if_true, List.map_cons, hr]
    · rw [if_neg hc] at h
      have := ih hnd.2 h
      simp only [mapCol] at this
      simp only [setCol, mapCol, hc, if_false, List.map_cons, this]

theorem hasCol_mapCol' (t : Table α) (name other : String) (f : α → α) :
    hasCol (mapCol t name f) other = hasCol t other := by
  unfold hasCol
  by_cases h : other = name
  · subst h; rw [getCol_mapCol_self]; cases getCol t other <;> rfl
  · rw [getCol_mapCol_ne _ _ _ _ h]

/-- a frame as pandas holds it here: no duplicate labels, and the three EoS columns present -/
def Good (t : Table α) : Prop :=
  (t.map (·.1)).Nodup ∧ (getCol t "V").isSome ∧ (getCol t "F").isSome ∧ (getCol t "P").isSome

theorem good_mapCol (t : Table α) (n : String) (f : α → α) (G : Good t) : Good (mapCol t n f) := by
  have h := hasCol_mapCol' t n
  unfold hasCol at h
  exact ⟨by rw [names_mapCol]; exact G.1, by rw [h]; exact G.2.1, by rw [h]; exact G.2.2.1, by rw [h]; exact G.2.2.2⟩

/-- `df[n] = _to_x(df[n].to_numpy())` on a frame with distinct labels that has the column converts it in place -/
theorem convert_stmt (I : Inp α) (st : St α) (n : String) (u : UnitFn) (k : α) (hu : unitFactor I.U u = some k)
    (hnd : (st.df.map (·.1)).Nodup) (h : (getCol st.df n).isSome) :
    execStmt I st (.setCol n (.unit u (.col n))) = some { st with df := mapCol st.df n (· * k) } := by
  obtain ⟨v, hv⟩ := Option.isSome_iff_exists.mp h
  simp only [execStmt, eval, hv, hu, Option.bind_some, Option.map_some, Option.bind_eq_bind, Option.pure_def, map1_ar,
    toAr_ar]
  rw [setCol_map_eq_mapCol _ _ _ _ hnd hv]

theorem units_blocks_are_source (I : Inp α) (st : St α) (G : Good st.df) :
    execBlocks I [blk 12, blk 13] st = some { st with df := convertUnits I.U st.df } := by
  have g12 : ∀ s : St α, guardHolds I s (blk 12).guard = true := fun s => by
    simp [blk, Generated.staticBlocks, guardHolds]
  have g13 : ∀ s : St α, guardHolds I s (blk 13).guard = hasCol s.df "density" := fun s => by
    simp [blk, Generated.staticBlocks, guardHolds, Atom.holds]
  let t1 := mapCol st.df "V" (· * I.U.toAng3)
  let t2 := mapCol t1 "F" (· * I.U.toEv)
  let t3 := mapCol t2 "P" (· * I.U.toGpa)
  have G1 : Good t1 := good_mapCol _ _ _ G
  have G2 : Good t2 := good_mapCol _ _ _ G1
  have G3 : Good t3 := good_mapCol _ _ _ G2
  have b12 : execBlock I st (blk 12) = some { st with df := t3 } := by
    rw [execBlock_run _ _ _ (g12 st)]
    simp only [blk, Generated.staticBlocks, List.getD_cons_zero, List.getD_cons_succ]
    refine Eq.trans (step_some (convert_stmt I st "V" .toAng3 _ rfl G.1 G.2.1)) ?_
    refine Eq.trans (step_some (convert_stmt I _ "F" .toEv _ rfl G1.1 G1.2.2.1)) ?_
    refine Eq.trans (step_some (convert_stmt I _ "P" .toGpa _ rfl G2.1 G2.2.2.2)) ?_
    rfl
  simp only [execBlocks, b12, Option.bind_some, execBlock_eq, g13]
  have hcu : convertUnits I.U st.df = if hasCol t3 "density" then mapCol t3 "density" (· * I.U.toGcm3) else t3 := rfl
  rw [hcu]
  cases hh : hasCol t3 "density" with
  | false => rfl
  | true =>
    simp only [if_true]
    simp only [blk, Generated.staticBlocks, List.getD_cons_zero, List.getD_cons_succ]
    rw [step_some (convert_stmt I { st with df := t3 } "density" .toGcm3 _ rfl G3.1 hh)]
    rfl

theorem setCol_setCol_same (t : Table α) (n : String) (a b : List α) : setCol (setCol t n a) n b = setCol t n b := by
  induction t with
  | nil => simp [setCol]
  | cons c r ih =>
    by_cases hc : c.1 = n
    · simp [setCol, hc]
    · simp [setCol, hc, ih]

theorem setCol_comm_of_has (t : Table α) (n m : String) (a b : List α) (hnm : m ≠ n) (h : (getCol t n).isSome) :
    setCol (setCol t m b) n a = setCol (setCol t n a) m b := by
  induction t with
  | nil => cases h
  | cons c r ih =>
    by_cases hcn : c.1 = n
    · have hcm : ¬ c.1 = m := fun e => hnm (e.symm.trans hcn)
      simp [setCol, hcn, hcm, Ne.symm hnm]
    · rw [getCol_cons, if_neg hcn] at h
      by_cases hcm : c.1 = m
      · simp [setCol, hcn, hcm, hnm]
      · simp [setCol, hcn, hcm, ih h]

theorem isSome_getCol_setCol (t : Table α) (n m : String) (a : List α) (h : (getCol t n).isSome) :
    (getCol (setCol t m a) n).isSome := by
  by_cases e : n = m
  · subst e; rw [getCol_setCol_self]; rfl
  · rw [getCol_setCol_ne _ _ _ _ e]; exact h

theorem map_zipWith_zipWith_map (h : α → α) (D A : α → α → α) (m : α → α) (k g rho : List α) :
    List.map h (List.zipWith D (List.zipWith A k (g.map m)) rho) = zip3 (fun x y z => h (D (A x (m y)) z)) k g rho := by
  induction k generalizing g rho with
  | nil => simp [zip3]
  | cons x xs ih =>
    cases g with
    | nil => simp [zip3]
    | cons y ys =>
      cases rho with
      | nil => simp [zip3]
      | cons z zs =>
        have := ih ys zs
        simp only [zip3] at this ⊢
        simp [this]

theorem setCol3_overwrite (t : Table α) (p s f : String) (hps : p ≠ s) (hpf : p ≠ f) (hsf : s ≠ f)
    (a1 a2 a3 b1 b2 b3 : List α) :
    setCol (setCol (setCol (setCol (setCol (setCol t p a1) s a2) f a3) p b1) s b2) f b3
      = setCol (setCol (setCol t p b1) s b2) f b3 := by
  have hp1 : (getCol (setCol t p a1) p).isSome := by rw [getCol_setCol_self]; rfl
  rw [setCol_comm_of_has (setCol (setCol t p a1) s a2) p f b1 a3 (Ne.symm hpf) (isSome_getCol_setCol _ _ _ _ hp1),
    setCol_comm_of_has (setCol t p a1) p s b1 a2 (Ne.symm hps) hp1, setCol_setCol_same]
  have hs1 : (getCol (setCol (setCol t p b1) s a2) s).isSome := by rw [getCol_setCol_self]; rfl
  rw [setCol_comm_of_has (setCol (setCol t p b1) s a2) s f b2 a3 (Ne.symm hsf) hs1, setCol_setCol_same,
    setCol_setCol_same]

theorem velocity_block_is_source (I : Inp α) (st : St α) :
    execBlock I st (blk 14) = (addVelocities I.E I.U I.d2.isSome st.df).map fun t => { st with df := t } := by
  rw [execBlock_eq, input02_guard I st 14 (by decide)]
  cases hd : I.d2.isSome with
  | false => rfl
  | true =>
    simp only [if_true, addVelocities, Bool.not_true, Bool.false_eq_true, if_false]
    simp only [blk, Generated.staticBlocks, List.getD_cons_zero, List.getD_cons_succ]
    cases hk : getCol st.df "bm_VRH" with
    | none => src_fail; rfl
    | some k =>
    cases hg : getCol st.df "G_VRH" with
    | none => src_fail; rfl
    | some g =>
    cases hr : getCol st.df "density" with
    | none => src_fail; rfl
    | some rho =>
      simp only [Option.map_some]
      src_step
      src_step
      src_step
      src_step
      src_step
      src_step
      simp only [execStmts_nil]
      rw [setCol3_overwrite _ _ _ _ (by decide) (by decide) (by decide), List.map_map, List.map_map, List.map_map,
        map_zipWith_zipWith_map, List.map_zipWith, List.map_zipWith]
      rfl

/-! ### blocks 15-16: sampling and `sys.stdout.write(df.to_string())` -/

theorem sample_blocks_are_source (I : Inp α) (st : St α) (hidx : st.index = none) :
    (execBlocks I [blk 15, blk 16] st).bind (·.out) = sample I.E I.o st.df := by
  have g15 : ∀ s : St α, guardHolds I s (blk 15).guard
      = (I.o.interp == .pressure && (truthy I.o.deltaPSample).isSome) := fun s => by
    cases h : I.o.interp <;> simp [blk, Generated.staticBlocks, guardHolds, Atom.holds, interpName, h]
  have g16 : ∀ s : St α, guardHolds I s (blk 16).guard = true := fun s => by
    simp [blk, Generated.staticBlocks, guardHolds]
  have w : ∀ s : St α, execBlock I s (blk 16)
      = some { s with out := some ⟨s.index.getD (List.range (nRows s.df)), s.df⟩ } := fun s => by
    rw [execBlock_run _ _ _ (g16 s)]
    simp only [blk, Generated.staticBlocks, List.getD_cons_zero, List.getD_cons_succ]
    rfl
  simp only [execBlocks, w, Option.bind_assoc, Option.bind_some]
  by_cases hp : I.o.interp = .pressure
  · cases htr : truthy I.o.deltaPSample with
    | none =>
      rw [execBlock_skip _ _ _ (by rw [g15, htr]; simp)]
      simp [sample, hp, htr, hidx]
    | some dps =>
      have hd := truthy_some _ _ htr
      rw [execBlock_run _ _ _ (by rw [g15, htr, hp]; rfl)]
      simp only [sample, hp, htr]
      simp only [blk, Generated.staticBlocks, List.getD_cons_zero, List.getD_cons_succ]
      by_cases h0 : I.E.round (dps / I.o.deltaP) = 0
      · rw [step_none (by src_simp)]
        simp [h0]
      · rw [step_some (by src_simp <;> rfl)]
        simp [execStmts_nil, h0]
  · rw [execBlock_skip _ _ _ (by rw [g15]; simp [hp])]
    simp only [Option.bind_some, hidx, Option.getD_none]
    cases hi : I.o.interp with
    | pressure => exact absurd hi hp
    | none => simp [sample, hi]
    | volume => simp [sample, hi]

/-- the part of the contract of `fill_cij(df, system)` the composition needs: on such a frame it returns such a frame.
    PROVED of the model `Fill.fill` for every scalar type (`fillFrame_model`, `fillFrame_of_model`, Lemmas/StaticFill.lean) and of the
    driver's `Float` environment (`fillFrame_driver`, Lemmas/StaticFillDriver.lean); kept as a predicate so that `run_is_source`
    covers any other `fill` with this contract. -/
def FillFrame (E : Ext α) : Prop := ∀ s t t', Good t → E.fill s t = some t' → Good t'

theorem nodup_setCol (t : Table α) (n : String) (c : List α) (h : (t.map (·.1)).Nodup) :
    ((setCol t n c).map (·.1)).Nodup := by
  induction t with
  | nil => simp [setCol]
  | cons a r ih =>
    simp only [List.map_cons, List.nodup_cons] at h
    by_cases hc : a.1 = n
    · simp only [setCol, hc, if_true, List.map_cons, List.nodup_cons]
      exact ⟨hc ▸ h.1, h.2⟩
    · simp only [setCol, hc, if_false, List.map_cons, List.nodup_cons]
      refine ⟨?_, ih h.2⟩
      intro hm
      rw [mem_names_iff] at hm
      rw [getCol_setCol_ne _ _ _ _ hc] at hm
      exact h.1 ((mem_names_iff r a.1).mpr hm)

theorem good_setCol (t : Table α) (n : String) (c : List α) (h : Good t) : Good (setCol t n c) :=
  ⟨nodup_setCol t n c h.1, isSome_getCol_setCol _ _ _ _ h.2.1, isSome_getCol_setCol _ _ _ _ h.2.2.1,
    isSome_getCol_setCol _ _ _ _ h.2.2.2⟩

theorem good_foldl_setCol (cols : List (String × List α)) (t : Table α) (h : Good t) :
    Good (cols.foldl (fun t c => setCol t c.1 c.2) t) := by
  induction cols generalizing t with
  | nil => exact h
  | cons c r ih => exact ih _ (good_setCol t c.1 c.2 h)

theorem good_table (x : VFP α) : Good x.table := by
  refine ⟨?_, rfl, rfl, rfl⟩
  simp [VFP.table]

theorem good_addModuli (fit : Fit α) (E : Ext α) (d2 : Option (ElastDat.ElastData α)) (x : VFP α) (t : Table α)
    (h : addModuli fit E d2 x = some t) : Good t := by
  cases d2 with
  | none => cases h; exact good_table x
  | some d =>
    simp only [addModuli, bind, pure, Option.bind_eq_some_iff, Option.some.injEq] at h
    obtain ⟨cols, _, rfl⟩ := h
    exact good_foldl_setCol _ _ (good_setCol _ _ _ (good_table x))

theorem good_applyFill (E : Ext α) (hf : FillFrame E) (sys : Option String) (w : Bool) (t t' : Table α)
    (h : applyFill E sys w t = some t') (ht : Good t) : Good t' := by
  unfold applyFill at h
  split at h
  · cases h; exact ht
  · split at h
    · exact hf _ t t' ht h
    · cases h; exact ht

theorem good_overrideDensity (cm : Option α) (t t' : Table α) (h : overrideDensity cm t = some t') (ht : Good t) :
    Good t' := by
  unfold overrideDensity at h
  split at h
  · cases h; exact ht
  · rw [Option.map_eq_some_iff] at h
    obtain ⟨v, _, rfl⟩ := h
    exact good_setCol _ _ _ ht

theorem good_addVrh (E : Ext α) (w : Bool) (t t' : Table α) (h : addVrh E w t = some t') (ht : Good t) : Good t' := by
  unfold addVrh at h
  split at h
  · cases h; exact ht
  · rw [Option.map_eq_some_iff] at h
    obtain ⟨ss, _, rfl⟩ := h
    exact good_foldl_setCol _ _ ht

theorem execBlocks_append (I : Inp α) (a b : List Block) (st : St α) :
    execBlocks I (a ++ b) st = (execBlocks I a st).bind (execBlocks I b) := by
  induction a generalizing st with
  | nil => rfl
  | cons s r ih =>
    simp only [List.cons_append, execBlocks, Option.bind_assoc]
    cases execBlock I st s with
    | none => rfl
    | some st' => exact ih st'

theorem execBlocks_single (I : Inp α) (b : Block) (st : St α) : execBlocks I [b] st = execBlock I st b := by
  simp [execBlocks]

theorem tail_blocks_are_source (I : Inp α) (st : St α) (hidx : st.index = none) (G : Good st.df) :
    ((execBlock I st (blk 11)).bind fun a => (execBlocks I [blk 12, blk 13] a).bind fun a =>
        (execBlock I a (blk 14)).bind fun y => (execBlocks I [blk 15, blk 16] y).bind fun a => a.out)
      = (addVrh I.E I.d2.isSome st.df).bind fun y =>
          (addVelocities I.E I.U I.d2.isSome (convertUnits I.U y)).bind fun a => sample I.E I.o a := by
  have rest : ∀ s : St α, s.index = none → Good s.df →
      ((execBlocks I [blk 12, blk 13] s).bind fun a =>
        (execBlock I a (blk 14)).bind fun y => (execBlocks I [blk 15, blk 16] y).bind fun a => a.out)
      = (addVelocities I.E I.U I.d2.isSome (convertUnits I.U s.df)).bind fun a => sample I.E I.o a := by
    intro s hi Gs
    rw [units_blocks_are_source I s Gs, Option.bind_some, velocity_block_is_source, Option.bind_map]
    refine Option.bind_congr fun t6 _ => ?_
    exact sample_blocks_are_source I _ hi
  obtain ⟨hdf, hix⟩ := vrh_block_frame I st
  cases hb : execBlock I st (blk 11) with
  | none => rw [hb] at hdf; rw [← hdf]; rfl
  | some a =>
    rw [hb] at hdf
    rw [← hdf]
    exact rest a ((hix a hb).trans hidx) (good_addVrh _ _ _ _ hdf.symm G)

/-- `Static.runWith` — the function the driver runs and the theorems of C18 are about — IS the interpretation of the blocks
    of `main` as the translator reads them now, in source order, from the empty state. -/
theorem run_is_source (I : Inp α) (hfill : FillFrame I.E) :
    run I Generated.staticBlocks = runWith I.fit I.E I.U I.o I.d1 I.d2 := by
  have split : Generated.staticBlocks = [blk 0, blk 1, blk 2] ++ ([blk 3, blk 4, blk 5, blk 6] ++ ([blk 7] ++
      ([blk 8, blk 9] ++ ([blk 10] ++ ([blk 11] ++ ([blk 12, blk 13] ++ ([blk 14] ++ [blk 15, blk 16]))))))) := rfl
  have a1 : execBlocks I [blk 0, blk 1, blk 2] ({} : St α) = (input01Columns I.d1).bind fun ve =>
      (eos I.fit I.E I.o.vRatio I.o.ntv ve.1 ve.2).map (stEos {} ve) := by
    simp only [execBlocks, (read_blocks_are_source I _).1, (read_blocks_are_source I _).2, Option.bind_some,
      eos_block_is_source, Option.bind_fun_some]
  rw [run, split]
  simp only [execBlocks_append, execBlocks_single]
  rw [a1]
  unfold runWith tableWith
  simp only [bind, Option.bind_assoc]
  -- both sides are chains of `bind` over the same stage results: walk down them, keeping the equation `stage = some _` from
  -- which the next block's hypothesis (a well-formed frame) follows
  refine Option.bind_congr fun ve _ => ?_
  rw [Option.bind_map]
  refine Option.bind_congr fun e _ => ?_
  rw [Function.comp_apply, mode_blocks_are_source, Option.bind_map]
  refine Option.bind_congr fun x _ => ?_
  rw [Function.comp_apply, moduli_block_eq_addModuli I _ x rfl rfl, Option.bind_map]
  refine Option.bind_congr fun t1 h4 => ?_
  have G1 := good_addModuli _ _ _ _ _ h4
  rw [Function.comp_apply, fill_blocks_are_source, Option.bind_map]
  refine Option.bind_congr fun t2 h5 => ?_
  have G2 := good_applyFill _ hfill _ _ _ _ h5 G1
  rw [Function.comp_apply, cellmass_block_is_source, Option.bind_map]
  refine Option.bind_congr fun t3 h6 => ?_
  have G3 := good_overrideDensity _ _ _ h6 G2
  exact tail_blocks_are_source I _ rfl G3

/-! ### the six VRH formulas, point by point, through the evaluator of calculator.py's averages (`VExpr.eval`) -/

/-- what `VExpr.eval` needs from the scalar, taken from the parameters of the static model -/
@[reducible] def scalarOf (E : Ext α) : VRH.Scalar α := ⟨fun n => (n : α), E.sqrt, fun _ _ => false⟩

/-- one row: `c[i, j]`, `s[i, j]` and the four average columns already written -/
def rowEnv (c s : Nat → Nat → α) (kv kr gv gr : α) : VExpr.Env α :=
  { c := c, s := s, prop := fun p => match p with | .kV => kv | .kR => kr | .gV => gv | .gR => gr | _ => 0,
    V := 0, mass := 0, cellmass := 0, avogadro := 0, ryFactor := 0 }

theorem vrh_formulas_are_source (E : Ext α) (c s : Nat → Nat → α) (kv kr gv gr : α) :
    bmV c = @VExpr.eval α (scalarOf E) _ _ _ _ (rowEnv c s kv kr gv gr) Generated.staticVrh_bm_V ∧
    bmR s = @VExpr.eval α (scalarOf E) _ _ _ _ (rowEnv c s kv kr gv gr) Generated.staticVrh_bm_R ∧
    vrh kv kr = @VExpr.eval α (scalarOf E) _ _ _ _ (rowEnv c s kv kr gv gr) Generated.staticVrh_bm_VRH ∧
    gV c = @VExpr.eval α (scalarOf E) _ _ _ _ (rowEnv c s kv kr gv gr) Generated.staticVrh_G_V ∧
    gR s = @VExpr.eval α (scalarOf E) _ _ _ _ (rowEnv c s kv kr gv gr) Generated.staticVrh_G_R ∧
    vrh gv gr = @VExpr.eval α (scalarOf E) _ _ _ _ (rowEnv c s kv kr gv gr) Generated.staticVrh_G_VRH :=
  ⟨rfl, rfl, rfl, rfl, rfl, rfl⟩

end

theorem click_names_are_source :
    Generated.staticCommand = "run-static" ∧
    Generated.staticClick.map (·.pyName)
      = ["input01", "input02", "interp", "ntv", "p_min", "delta_p", "delta_p_sample", "cellmass", "v_ratio", "system"] ∧
    (∀ n ∈ Generated.staticClick.map (·.pyName), n ∈ Generated.staticMainParams.map (·.1)) ∧
    (∀ n ∈ Generated.staticMainParams.map (·.1), n ∈ Generated.staticClick.map (·.pyName)) ∧
    (∀ p ∈ Generated.staticMainParams, p.2 = PyLit.none) := by
  decide +kernel

theorem click_types_are_source :
    (Generated.staticClick.map fun p => (p.pyName, p.kind, p.type, p.required))
      = [("input01", "argument", "Path(exists=True)", true), ("input02", "argument", "Path(exists=True)", false),
         ("interp", "option", "Choice", false), ("ntv", "option", "INT", false), ("p_min", "option", "FLOAT", false),
         ("delta_p", "option", "FLOAT", false), ("delta_p_sample", "option", "FLOAT", false),
         ("cellmass", "option", "FLOAT", false), ("v_ratio", "option", "FLOAT", false), ("system", "option", "", false)] := by
  decide +kernel

/-- `-I` accepts exactly the three modes of the model -/
theorem interp_choices_are_source :
    ∀ s, (s ∈ ((clickParam? Generated.staticClick "interp").map (·.choices)).getD []) ↔
      (∃ i : Interp, interpName i = s) := by
  intro s
  have h : ((clickParam? Generated.staticClick "interp").map (·.choices)).getD [] = ["none", "pressure", "volume"] := by
    decide +kernel
  rw [h]
  constructor
  · intro hs
    simp only [List.mem_cons, List.not_mem_nil, or_false] at hs
    rcases hs with rfl | rfl | rfl
    · exact ⟨.none, rfl⟩
    · exact ⟨.pressure, rfl⟩
    · exact ⟨.volume, rfl⟩
  · rintro ⟨i, rfl⟩
    cases i <;> simp [interpName]

theorem click_defaults_are_source :
    clickDefault "interp" = .str "none" ∧ clickDefault "ntv" = .int 201 ∧ clickDefault "p_min" = .int 0 ∧
    clickDefault "delta_p" = .rat 1 1 ∧ clickDefault "v_ratio" = .rat 6 5 ∧ clickDefault "delta_p_sample" = .none ∧
    clickDefault "cellmass" = .none ∧ clickDefault "system" = .none ∧ clickDefault "input02" = .none := by
  decide +kernel

theorem guards_are_source :
    Generated.staticBlocks.map (·.guard) =
      [[], [(true, .input02)], [],
       [(true, .interpIs "none")], [(false, .interpIs "none"), (true, .interpIs "volume")],
       [(false, .interpIs "none"), (false, .interpIs "volume"), (true, .interpIs "pressure")], [],
       [(true, .input02)], [(true, .systemIsNone)], [(false, .systemIsNone), (true, .input02)], [(true, .cellmass)],
       [(true, .input02)], [], [(true, .hasCol "density")], [(true, .input02)],
       [(true, .interpIs "pressure"), (true, .deltaPSample)], []] := by
  decide +kernel

end Cij.StaticSrc
