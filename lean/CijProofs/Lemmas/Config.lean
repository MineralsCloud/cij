/-
  The merge `updateConfig`: one level (`lookup_update_cases`), the path-by-path specification (`walk_update`,
  `walk_update_taken`), totality on dictionaries, and `MapEq`, equality as `walk` sees it; `OrdOK` is the only assumption
  on the iteration order of a key set.  Also paths in a configuration (`setPath`, `leafPaths`).
-/
import CijModel.Config

namespace Cij.Config
open Cij

/-- the iteration order over a Python set: any function that returns a permutation of its argument -/
def OrdOK (ord : List String → List String) : Prop := ∀ l, (ord l).Perm l

theorem ordOK_id : OrdOK id := fun _ => List.Perm.refl _
theorem ordOK_reverse : OrdOK List.reverse := fun l => List.reverse_perm l

theorem exists_obj_of_isObj {v : J} (h : isObj v = true) : ∃ kv, v = .obj kv := by
  cases v <;> simp [isObj] at h
  exact ⟨_, rfl⟩

theorem lookup_mem {k : String} {v : J} : ∀ {kv : KV}, lookup k kv = some v → (k, v) ∈ kv
  | [], h => by simp [lookup] at h
  | (k', x) :: r, h => by
      simp only [lookup] at h
      split at h
      · rename_i hk; cases h; subst hk; exact List.mem_cons_self
      · exact List.mem_cons_of_mem _ (lookup_mem h)

theorem lookup_isSome_iff {k : String} : ∀ {kv : KV}, (lookup k kv).isSome = true ↔ k ∈ keys kv
  | [] => by simp [lookup, keys]
  | (k', x) :: r => by
      simp only [lookup, keys, List.map_cons, List.mem_cons]
      split
      · rename_i hk; simp [hk]
      · rename_i hk
        have := @lookup_isSome_iff k r
        simp only [keys] at this
        rw [this]
        constructor
        · exact Or.inr
        · rintro (h | h)
          · exact absurd h.symm hk
          · exact h

theorem hasKey_iff {k : String} {kv : KV} : hasKey k kv = true ↔ k ∈ keys kv := lookup_isSome_iff

theorem lookup_none_iff {k : String} {kv : KV} : lookup k kv = none ↔ k ∉ keys kv := by
  rw [← lookup_isSome_iff]; cases lookup k kv <;> simp

theorem mem_keyUnion {k : String} {u d : KV} :
    k ∈ keyUnion u d ↔ ((lookup k u).isSome = true ∨ (lookup k d).isSome = true) := by
  simp only [keyUnion, List.mem_append, List.mem_filter, Bool.not_eq_true', hasKey]
  rw [lookup_isSome_iff, lookup_isSome_iff]
  constructor
  · rintro (h | ⟨h, _⟩)
    · exact Or.inl h
    · exact Or.inr h
  · rintro (h | h)
    · exact Or.inl h
    · by_cases hu : k ∈ keys u
      · exact Or.inl hu
      · refine Or.inr ⟨h, ?_⟩
        have : lookup k u = none := lookup_none_iff.2 hu
        simp [this]

theorem sizeOf_lookup_lt {k : String} {v : J} {kv : KV} (h : lookup k kv = some v) :
    sizeOf v < 1 + sizeOf kv := by
  have hm := List.sizeOf_lt_of_mem (lookup_mem h)
  have : sizeOf (k, v) = 1 + sizeOf k + sizeOf v := rfl
  omega

theorem loop_cons_ok {f : String → Except Err J} {k : String} {ks : List String} {r : KV} :
    loop f (k :: ks) = .ok r ↔ ∃ v r', f k = .ok v ∧ loop f ks = .ok r' ∧ r = (k, v) :: r' := by
  simp only [loop]
  cases f k <;> cases loop f ks <;> simp [eq_comm]

theorem loop_ok_mem {f : String → Except Err J} {k : String} :
    ∀ {ks : List String} {r : KV}, loop f ks = .ok r → k ∈ ks → ∃ v, f k = .ok v ∧ lookup k r = some v
  | [], _, _, hk => by simp at hk
  | k' :: ks, _, h, hk => by
      obtain ⟨v', r', hf, hl, rfl⟩ := loop_cons_ok.1 h
      by_cases hkk : k' = k
      · subst hkk; exact ⟨v', hf, by simp [lookup]⟩
      · obtain ⟨v, hv, hlk⟩ := loop_ok_mem hl ((List.mem_cons.1 hk).resolve_left (Ne.symm hkk))
        exact ⟨v, hv, by simp [lookup, hkk, hlk]⟩

theorem loop_ok_not_mem {f : String → Except Err J} {k : String} :
    ∀ {ks : List String} {r : KV}, loop f ks = .ok r → k ∉ ks → lookup k r = none
  | [], r, h, _ => by cases h; rfl
  | k' :: ks, _, h, hk => by
      obtain ⟨v', r', _, hl, rfl⟩ := loop_cons_ok.1 h
      have hkk : ¬ k' = k := fun e => hk (e ▸ List.mem_cons_self)
      simp [lookup, hkk, loop_ok_not_mem hl fun e => hk (List.mem_cons_of_mem _ e)]

theorem loop_ok_of_forall {f : String → Except Err J} :
    ∀ {ks : List String}, (∀ k ∈ ks, ∃ v, f k = .ok v) → ∃ r, loop f ks = .ok r
  | [], _ => ⟨[], rfl⟩
  | k :: ks, h => by
      obtain ⟨v, hv⟩ := h k List.mem_cons_self
      obtain ⟨r, hr⟩ := loop_ok_of_forall (ks := ks) (fun k' hk' => h k' (List.mem_cons_of_mem _ hk'))
      exact ⟨(k, v) :: r, by simp [loop, hv, hr]⟩

theorem loop_error {f : String → Except Err J} {e : Err} :
    ∀ {ks : List String}, loop f ks = .error e → ∃ k ∈ ks, f k = .error e
  | [], h => by simp [loop] at h
  | k :: ks, h => by
      simp only [loop] at h
      cases hf : f k with
      | error e' =>
        simp only [hf, Except.error.injEq] at h
        exact ⟨k, List.mem_cons_self, by rw [hf, h]⟩
      | ok v =>
        simp only [hf] at h
        cases hl : loop f ks with
        | error e' =>
          simp only [hl, Except.error.injEq] at h
          obtain ⟨k', hk', hfk⟩ := loop_error (ks := ks) (e := e') hl
          exact ⟨k', List.mem_cons_of_mem _ hk', by rw [hfk, h]⟩
        | ok r => simp [hl] at h

theorem lookupF_updRecs (ord : List String → List String) (k : String) :
    ∀ u : KV, lookupF k (updRecs ord u) = (lookup k u).map (updateConfig ord)
  | [] => by simp [updRecs, lookupF, lookup]
  | (k', v) :: r => by
      simp only [updRecs, lookupF, lookup]
      split
      · simp
      · exact lookupF_updRecs ord k r

/-- the loop body with the recursive call written directly -/
def body' (ord : List String → List String) (u d : KV) (k : String) : Except Err J :=
  match lookup k u, lookup k d with
  | none, some dv => .ok dv
  | none, none => .error .keyError
  | some uv, none => .ok uv
  | some uv, some dv => if isObj uv && isObj dv then updateConfig ord uv dv else .ok uv

theorem body_eq (ord : List String → List String) (u d : KV) :
    body (fun k => lookupF k (updRecs ord u)) u d = body' ord u d := by
  funext k
  simp only [body, body', lookupF_updRecs]
  cases hu : lookup k u <;> cases hd : lookup k d <;> simp

theorem updateConfig_obj (ord : List String → List String) (u d : KV) :
    updateConfig ord (.obj u) (.obj d) =
      match loop (body' ord u d) (ord (keyUnion u d)) with
      | .ok r => .ok (.obj r)
      | .error e => .error e := by
  rw [updateConfig, body_eq]
  cases loop (body' ord u d) (ord (keyUnion u d)) <;> rfl

theorem updateConfig_nonobj_left (ord : List String → List String) (u d : J) (h : isObj u = false) :
    updateConfig ord u d = .error .attributeError := by
  cases u <;> simp_all [updateConfig, isObj]

theorem updateConfig_nonobj_right (ord : List String → List String) (u d : J) (h : isObj d = false) :
    updateConfig ord u d = .error .attributeError := by
  cases u <;> cases d <;> simp_all [updateConfig, isObj]

theorem ok_shape {ord : List String → List String} {u d r : J} (h : updateConfig ord u d = .ok r) :
    ∃ ukv dkv rkv, u = .obj ukv ∧ d = .obj dkv ∧ r = .obj rkv ∧
      loop (body' ord ukv dkv) (ord (keyUnion ukv dkv)) = .ok rkv := by
  cases hu : isObj u with
  | false => rw [updateConfig_nonobj_left ord u d hu] at h; cases h
  | true =>
    cases hd : isObj d with
    | false => rw [updateConfig_nonobj_right ord u d hd] at h; cases h
    | true =>
      obtain ⟨ukv, rfl⟩ := exists_obj_of_isObj hu
      obtain ⟨dkv, rfl⟩ := exists_obj_of_isObj hd
      rw [updateConfig_obj] at h
      cases hl : loop (body' ord ukv dkv) (ord (keyUnion ukv dkv)) with
      | error e => simp [hl] at h
      | ok rkv =>
        simp only [hl, Except.ok.injEq] at h
        exact ⟨ukv, dkv, rkv, rfl, rfl, h.symm, hl⟩

/-- **One level of the merge**, key by key (the four branches of the loop body). -/
theorem lookup_update_cases {ord : List String → List String} (hord : OrdOK ord) {u d r : KV}
    (h : updateConfig ord (.obj u) (.obj d) = .ok (.obj r)) (k : String) :
    (lookup k u = none ∧ lookup k d = none ∧ lookup k r = none) ∨
    (lookup k u = none ∧ ∃ dv, lookup k d = some dv ∧ lookup k r = some dv) ∨
    (∃ uv, lookup k u = some uv ∧ lookup k d = none ∧ lookup k r = some uv) ∨
    (∃ uv dv, lookup k u = some uv ∧ lookup k d = some dv ∧ (isObj uv && isObj dv) = false ∧ lookup k r = some uv) ∨
    (∃ uv dv rv, lookup k u = some uv ∧ lookup k d = some dv ∧ isObj uv = true ∧ isObj dv = true ∧
        updateConfig ord uv dv = .ok rv ∧ lookup k r = some rv) := by
  obtain ⟨ukv, dkv, rkv, hu, hd, hr, hl⟩ := ok_shape h
  cases hu; cases hd; cases hr
  -- `k` is visited by the loop iff one of the two dicts has it
  have hmem : k ∈ ord (keyUnion u d) ↔ ((lookup k u).isSome = true ∨ (lookup k d).isSome = true) :=
    (hord _).mem_iff.trans mem_keyUnion
  cases hu : lookup k u with
  | none =>
    cases hd : lookup k d with
    | none => exact Or.inl ⟨rfl, rfl, loop_ok_not_mem hl (by simp [hmem, hu, hd])⟩
    | some dv =>
      obtain ⟨v, hv, hlk⟩ := loop_ok_mem hl (hmem.2 (by simp [hd]))
      simp only [body', hu, hd, Except.ok.injEq] at hv
      exact Or.inr (Or.inl ⟨rfl, dv, rfl, hv ▸ hlk⟩)
  | some uv =>
    obtain ⟨v, hv, hlk⟩ := loop_ok_mem hl (hmem.2 (by simp [hu]))
    simp only [body', hu] at hv
    cases hd : lookup k d with
    | none =>
      simp only [hd, Except.ok.injEq] at hv
      exact Or.inr (Or.inr (Or.inl ⟨uv, rfl, rfl, hv ▸ hlk⟩))
    | some dv =>
      simp only [hd] at hv
      cases ho : (isObj uv && isObj dv) with
      | false =>
        simp only [ho, Bool.false_eq_true, if_false, Except.ok.injEq] at hv
        exact Or.inr (Or.inr (Or.inr (Or.inl ⟨uv, dv, rfl, rfl, ho, hv ▸ hlk⟩)))
      | true =>
        simp only [ho, if_true] at hv
        rw [Bool.and_eq_true] at ho
        exact Or.inr (Or.inr (Or.inr (Or.inr ⟨uv, dv, v, rfl, rfl, ho.1, ho.2, hv, hlk⟩)))

theorem walk_nonobj_nil {v : J} (h : isObj v = false) : walk v [] = .leafAt v := by
  cases v <;> simp_all [walk, isObj]

theorem walk_nonobj_cons {v : J} (h : isObj v = false) (k : String) (p : List String) :
    walk v (k :: p) = .shadowed := by
  cases v <;> simp_all [walk, isObj]

theorem walk_obj_nil (kv : KV) : walk (.obj kv) [] = .dictAt := by simp [walk]

theorem walk_nil_ne_fellOff (v : J) : walk v [] ≠ .fellOff := by cases v <;> simp [walk]

theorem walk_obj_cons (kv : KV) (k : String) (p : List String) :
    walk (.obj kv) (k :: p) = match lookup k kv with | some v => walk v p | none => .fellOff := by
  cases h : lookup k kv <;> simp [walk, h]

theorem over_nonobj {v : J} (h : isObj v = false) (p : List String) (w : Walk) :
    (walk v p).over w = walk v p := by
  cases p with
  | nil => rw [walk_nonobj_nil h]; rfl
  | cons k q => rw [walk_nonobj_cons h]; rfl

theorem over_fellOff_right (a : Walk) : a.over .fellOff = a := by cases a <;> rfl
theorem over_idem (a b : Walk) : (a.over b).over b = a.over b := by cases a <;> cases b <;> rfl

theorem walk_eq_leafAt {t : J} {p : List String} {v : J} :
    walk t p = .leafAt v ↔ (get t p = some v ∧ isObj v = false) := by
  induction p generalizing t with
  | nil =>
    cases t <;> simp [walk, get, isObj] <;> (try constructor) <;> (try rintro rfl) <;> simp_all
  | cons k q ih =>
    cases t <;> simp [walk, get]
    rename_i kv
    cases hl : lookup k kv with
    | none => simp
    | some x => simp [ih]

theorem walk_eq_dictAt {t : J} {p : List String} :
    walk t p = .dictAt ↔ ∃ kv, get t p = some (.obj kv) := by
  induction p generalizing t with
  | nil => cases t <;> simp [walk, get]
  | cons k q ih =>
    cases t <;> simp [walk, get]
    rename_i kv
    cases hl : lookup k kv with
    | none => simp
    | some x => simp [ih]

theorem get_isSome_iff {t : J} {p : List String} :
    (get t p).isSome = true ↔ (walk t p = .dictAt ∨ ∃ v, walk t p = .leafAt v) := by
  simp only [walk_eq_dictAt, walk_eq_leafAt]
  constructor
  · intro h
    obtain ⟨v, hv⟩ := Option.isSome_iff_exists.1 h
    cases hobj : isObj v with
    | false => exact Or.inr ⟨v, hv, hobj⟩
    | true => obtain ⟨kv, rfl⟩ := exists_obj_of_isObj hobj; exact Or.inl ⟨kv, hv⟩
  · rintro (⟨kv, h⟩ | ⟨v, h, _⟩) <;> simp [h]

theorem walk_of_get {t x : J} : ∀ (q s : List String), get t q = some x → walk x s = walk t (q ++ s) := by
  intro q
  induction q generalizing t with
  | nil => intro s h; simp only [get, Option.some.injEq] at h; subst h; rfl
  | cons k q ih =>
    intro s h
    cases t <;> simp only [get] at h <;> try (cases h)
    rename_i kv
    simp only [List.cons_append, walk_obj_cons]
    cases hl : lookup k kv with
    | none => simp [hl] at h
    | some y => simp only [hl] at h ⊢; exact ih s h

theorem walk_dictAt_isObj {v : J} {p : List String} (h : walk v p = .dictAt) : isObj v = true := by
  cases hv : isObj v with
  | true => rfl
  | false =>
    cases p with
    | nil => rw [walk_nonobj_nil hv] at h; cases h
    | cons k q => rw [walk_nonobj_cons hv] at h; cases h

theorem over_eq_fellOff {a b : Walk} (h : a.over b = .fellOff) : a = .fellOff ∧ b = .fellOff := by
  cases a <;> simp_all [Walk.over]

/-- along `p`, the user has a dictionary at a place where the default has a non-dictionary value: the user's
dictionary is taken whole there -/
def TakenWhole (u d : J) (p : List String) : Prop :=
  ∃ q r v, p = q ++ r ∧ walk u q = .dictAt ∧ walk d q = .leafAt v

theorem takenWhole_cons {ukv dkv : KV} {k : String} {p : List String} {uv dv : J}
    (h1 : lookup k ukv = some uv) (h2 : lookup k dkv = some dv) :
    TakenWhole (.obj ukv) (.obj dkv) (k :: p) ↔ TakenWhole uv dv p := by
  constructor
  · rintro ⟨q, r, v, hp, hu, hd⟩
    cases q with
    | nil => simp [walk] at hd
    | cons k' q' =>
      simp only [List.cons_append, List.cons.injEq] at hp
      obtain ⟨rfl, rfl⟩ := hp
      rw [walk_obj_cons, h1] at hu
      rw [walk_obj_cons, h2] at hd
      exact ⟨q', r, v, rfl, hu, hd⟩
  · rintro ⟨q, r, v, hp, hu, hd⟩
    refine ⟨k :: q, r, v, by simp [hp], ?_, ?_⟩
    · rw [walk_obj_cons, h1]; exact hu
    · rw [walk_obj_cons, h2]; exact hd

/-- **Specification of the merge, path by path (1)**: below a place where the user has a dictionary over a
non-dictionary default, the result shows exactly what the user has. -/
theorem walk_update_taken {ord : List String → List String} (hord : OrdOK ord) :
    ∀ (p : List String) {u d r : J}, updateConfig ord u d = .ok r → TakenWhole u d p → walk r p = walk u p := by
  intro p
  induction p with
  | nil =>
    intro u d r h ht
    obtain ⟨ukv, dkv, rkv, rfl, rfl, rfl, _⟩ := ok_shape h
    simp [walk]
  | cons k p ih =>
    intro u d r h ht
    obtain ⟨ukv, dkv, rkv, rfl, rfl, rfl, _⟩ := ok_shape h
    obtain ⟨q, r', v, hp, hu, hd⟩ := id ht
    cases q with
    | nil => simp [walk] at hd
    | cons k' q' =>
      simp only [List.cons_append, List.cons.injEq] at hp
      obtain ⟨rfl, rfl⟩ := hp
      rw [walk_obj_cons] at hu hd
      simp only [walk_obj_cons]
      rcases lookup_update_cases hord h k with
        ⟨h1, h2, h3⟩ | ⟨h1, dv, h2, h3⟩ | ⟨uv, h1, h2, h3⟩ | ⟨uv, dv, h1, h2, ho, h3⟩ | ⟨uv, dv, rv, h1, h2, ho1, ho2, hrec, h3⟩
      · simp [h1] at hu
      · simp [h1] at hu
      · simp [h2] at hd
      · simp [h1, h3]
      · simp only [h1, h3]
        exact ih hrec ((takenWhole_cons h1 h2).1 ht)

/-- **Specification of the merge, path by path (2)**: everywhere else the user's walk wins unless it fell off a
dict, in which case the default's walk is taken. -/
theorem walk_update {ord : List String → List String} (hord : OrdOK ord) :
    ∀ (p : List String) {u d r : J}, updateConfig ord u d = .ok r → ¬ TakenWhole u d p →
      walk r p = (walk u p).over (walk d p) := by
  intro p
  induction p with
  | nil =>
    intro u d r h _
    obtain ⟨ukv, dkv, rkv, rfl, rfl, rfl, _⟩ := ok_shape h
    simp [walk, Walk.over]
  | cons k q ih =>
    intro u d r h hnt
    obtain ⟨ukv, dkv, rkv, rfl, rfl, rfl, _⟩ := ok_shape h
    simp only [walk_obj_cons]
    rcases lookup_update_cases hord h k with
      ⟨h1, h2, h3⟩ | ⟨h1, dv, h2, h3⟩ | ⟨uv, h1, h2, h3⟩ | ⟨uv, dv, h1, h2, ho, h3⟩ | ⟨uv, dv, rv, h1, h2, ho1, ho2, hrec, h3⟩
    · simp [h1, h2, h3, Walk.over]
    · simp [h1, h2, h3, Walk.over]
    · simp [h1, h2, h3, over_fellOff_right]
    · simp only [h1, h2, h3]
      cases hou : isObj uv with
      | false => rw [over_nonobj hou]
      | true =>
        exfalso
        have hod : isObj dv = false := by simpa [hou] using ho
        apply hnt
        refine ⟨[k], q, dv, rfl, ?_, ?_⟩
        · obtain ⟨ikv, rfl⟩ := exists_obj_of_isObj hou
          simp only [walk_obj_cons, h1, walk_obj_nil]
        · rw [walk_obj_cons, h2]; exact walk_nonobj_nil hod
    · simp only [h1, h2, h3]
      exact ih hrec (fun ht => hnt ((takenWhole_cons h1 h2).2 ht))

theorem walk_update_cases {ord : List String → List String} (hord : OrdOK ord) {u d r : J}
    (h : updateConfig ord u d = .ok r) (p : List String) :
    walk r p = walk u p ∨ (walk u p = .fellOff ∧ walk r p = walk d p) := by
  by_cases ht : TakenWhole u d p
  · exact Or.inl (walk_update_taken hord p h ht)
  · rw [walk_update hord p h ht]
    cases walk u p with
    | fellOff => exact Or.inr ⟨rfl, rfl⟩
    | _ => exact Or.inl rfl

/-- at the end of a default LEAF path the user's dictionary cannot have been taken whole higher up, unless the
user has a dictionary exactly there -/
theorem not_takenWhole_of_leaf {u d : J} {p : List String} {v : J} (hd : walk d p = .leafAt v)
    (hu : walk u p ≠ .dictAt) : ¬ TakenWhole u d p := by
  rintro ⟨q, r, v', hp, huq, hdq⟩
  subst hp
  have hr : r = [] := by
    clear hu huq
    induction q generalizing d with
    | nil =>
      have hv' := (walk_eq_leafAt.1 hdq).2
      simp only [walk_eq_leafAt, get, Option.some.injEq] at hdq
      obtain ⟨rfl, _⟩ := hdq
      cases r with
      | nil => rfl
      | cons k r' => simp only [List.nil_append] at hd; rw [walk_nonobj_cons hv'] at hd; cases hd
    | cons k q ih =>
      cases hod : isObj d with
      | false => rw [walk_nonobj_cons hod] at hdq; cases hdq
      | true =>
        obtain ⟨kv, rfl⟩ := exists_obj_of_isObj hod
        simp only [List.cons_append, walk_obj_cons] at hd hdq
        cases hl : lookup k kv with
        | none => simp [hl] at hdq
        | some x => simp only [hl] at hd hdq; exact ih hdq hd
  subst hr
  simp only [List.append_nil] at hu
  exact hu huq

theorem ok_of_kv {ord : List String → List String} (hord : OrdOK ord) (ukv dkv : KV) :
    ∃ r, updateConfig ord (.obj ukv) (.obj dkv) = .ok r := by
  rw [updateConfig_obj]
  have : ∃ r, loop (body' ord ukv dkv) (ord (keyUnion ukv dkv)) = .ok r := by
    apply loop_ok_of_forall
    intro k hk
    have hk' := (hord _).mem_iff.1 hk
    rw [mem_keyUnion] at hk'
    simp only [body']
    cases h1 : lookup k ukv with
    | none =>
      cases h2 : lookup k dkv with
      | none => simp [h1, h2] at hk'
      | some dv => exact ⟨dv, rfl⟩
    | some uv =>
      cases h2 : lookup k dkv with
      | none => exact ⟨uv, rfl⟩
      | some dv =>
        cases ho : (isObj uv && isObj dv) with
        | false => exact ⟨uv, by simp [ho]⟩
        | true =>
          rw [Bool.and_eq_true] at ho
          obtain ⟨ukv', rfl⟩ := exists_obj_of_isObj ho.1
          obtain ⟨dkv', rfl⟩ := exists_obj_of_isObj ho.2
          have hlt := sizeOf_lookup_lt h1
          obtain ⟨rv, hrv⟩ := ok_of_kv hord ukv' dkv'
          exact ⟨rv, by simp [isObj, hrv]⟩
  obtain ⟨r, hr⟩ := this
  exact ⟨.obj r, by simp [hr]⟩
termination_by sizeOf ukv
decreasing_by simp only [J.obj.sizeOf_spec] at hlt; omega

theorem ok_of_obj {ord : List String → List String} (hord : OrdOK ord) (u d : J) (hu : isObj u = true)
    (hd : isObj d = true) : ∃ r, updateConfig ord u d = .ok r := by
  obtain ⟨ukv, rfl⟩ := exists_obj_of_isObj hu
  obtain ⟨dkv, rfl⟩ := exists_obj_of_isObj hd
  exact ok_of_kv hord ukv dkv

/-- `update_config(u, d)` returns iff both arguments are dicts (otherwise `.keys()` raises AttributeError) -/
theorem ok_iff {ord : List String → List String} (hord : OrdOK ord) (u d : J) :
    (∃ r, updateConfig ord u d = .ok r) ↔ (isObj u = true ∧ isObj d = true) := by
  constructor
  · rintro ⟨r, h⟩
    obtain ⟨ukv, dkv, _, rfl, rfl, _, _⟩ := ok_shape h
    exact ⟨rfl, rfl⟩
  · rintro ⟨h1, h2⟩
    exact ok_of_obj hord u d h1 h2

/-- the only exception the merge can raise is the AttributeError of `.keys()` (top-level non-dict argument) -/
theorem error_is_attributeError {ord : List String → List String} (hord : OrdOK ord)
    (u d : J) (e : Err) (h : updateConfig ord u d = .error e) : e = .attributeError := by
  cases hu : isObj u with
  | false => rw [updateConfig_nonobj_left ord u d hu] at h; cases h; rfl
  | true =>
    cases hd : isObj d with
    | false => rw [updateConfig_nonobj_right ord u d hd] at h; cases h; rfl
    | true =>
      obtain ⟨r, hr⟩ := ok_of_obj hord u d hu hd
      rw [hr] at h; cases h

theorem get_cons_some {x : J} {k : String} {q : List String} {v : J} (h : get x (k :: q) = some v) :
    ∃ ikv y, x = .obj ikv ∧ lookup k ikv = some y ∧ get y q = some v := by
  cases x <;> simp [get] at h
  rename_i ikv
  cases hl : lookup k ikv with
  | none => simp [hl] at h
  | some y => exact ⟨ikv, y, rfl, hl, by simpa [hl] using h⟩

theorem lookup_setKey (k k' : String) (v : J) : ∀ kv : KV,
    lookup k' (setKey k v kv) = if k' = k then some v else lookup k' kv
  | [] => by
      simp only [setKey, lookup]
      by_cases h : k = k' <;> by_cases h' : k' = k <;> simp_all
  | (k0, x) :: r => by
      simp only [setKey]
      by_cases h0 : k0 = k
      · subst h0
        by_cases h' : k' = k0
        · simp [lookup, h']
        · have : ¬ k0 = k' := fun e => h' e.symm
          simp [lookup, h', this]
      · simp only [h0, if_false, lookup]
        by_cases h1 : k0 = k'
        · subst h1
          simp [h0]
        · simp only [h1, if_false]
          exact lookup_setKey k k' v r

theorem mem_setKey {k : String} {v : J} {e : String × J} : ∀ {kv : KV}, e ∈ setKey k v kv → e = (k, v) ∨ e ∈ kv
  | [], h => by simp [setKey] at h; exact Or.inl h
  | (k0, x) :: r, h => by
      simp only [setKey] at h
      by_cases h0 : k0 = k
      · simp only [h0, if_true, List.mem_cons] at h
        rcases h with h | h
        · exact Or.inl h
        · exact Or.inr (List.mem_cons_of_mem _ h)
      · simp only [h0, if_false, List.mem_cons] at h
        rcases h with h | h
        · exact Or.inr (h ▸ List.mem_cons_self)
        · rcases mem_setKey h with h | h
          · exact Or.inl h
          · exact Or.inr (List.mem_cons_of_mem _ h)

theorem hasKey_delKey (k : String) : ∀ l : KV, hasKey k (delKey k l) = false
  | [] => rfl
  | (k', x) :: r => by
      simp only [delKey]
      by_cases hk : k' = k
      · simp [hk, hasKey_delKey k r]
      · simp only [hk, if_false, hasKey, lookup]
        exact hasKey_delKey k r

theorem hasKey_setKey_of_hasKey {k n : String} {v : J} {kv : KV} (h : hasKey n kv = true) :
    hasKey n (setKey k v kv) = true := by
  simp only [hasKey, lookup_setKey] at h ⊢
  by_cases hn : n = k <;> simp [hn, h]

/-- the parent of the last key of `p` exists in `x` and is a dict (so `setPath x p v` only replaces or adds
one key of an existing dict) -/
def parentIsDict : J → List String → Bool
  | _, [] => true
  | .obj kv, k :: q => (match lookup k kv with
      | some y => parentIsDict y q
      | none => q.isEmpty)
  | _, _ :: _ => false

theorem setPath_cons_obj (ikv : KV) (k : String) (q : List String) (v : J) :
    setPath (.obj ikv) (k :: q) v =
      .obj (setKey k (setPath (match lookup k ikv with | some x => x | none => .obj []) q v) ikv) := by
  cases h : lookup k ikv <;> simp [setPath, h]

theorem get_append_singleton {x : J} {p : List String} {k : String} {y : J} (h : get x (p ++ [k]) = some y) :
    ∃ ikv, get x p = some (.obj ikv) ∧ lookup k ikv = some y := by
  induction p generalizing x with
  | nil =>
    obtain ⟨ikv, y', rfl, hk, hy⟩ := get_cons_some (by simpa using h)
    simp only [get, Option.some.injEq] at hy
    subst hy
    exact ⟨ikv, rfl, hk⟩
  | cons k0 q ih =>
    obtain ⟨ikv, y', rfl, hk, hy⟩ := get_cons_some (by simpa using h)
    obtain ⟨ikv', h1, h2⟩ := ih hy
    exact ⟨ikv', by simp [get, hk, h1], h2⟩

theorem get_setPath (v : J) : ∀ (p : List String) (x : J), get (setPath x p v) p = some v
  | [], x => by simp [setPath, get]
  | k :: q, x => by
      cases x <;> simp [setPath, get, lookup, lookup_setKey, get_setPath v q]

/-- all paths of `t` that end at a non-dict value (down to nesting depth `n`) -/
def leafPaths : Nat → J → List (List String)
  | n + 1, .obj kv => kv.flatMap (fun e => (leafPaths n e.2).map (e.1 :: ·))
  | 0, .obj _ => []
  | _, _ => [[]]

/-- dictionaries are nested at most `n` deep -/
def depthLe : Nat → J → Bool
  | n + 1, .obj kv => kv.all (fun e => depthLe n e.2)
  | 0, .obj _ => false
  | _, _ => true

theorem leafPaths_nonobj {t : J} (h : isObj t = false) (n : Nat) : leafPaths n t = [[]] := by
  cases t <;> cases n <;> simp_all [leafPaths, isObj]

theorem exists_leafPath_prefix : ∀ (p : List String) (t : J) (n : Nat), depthLe n t = true →
    ((∃ v, walk t p = .leafAt v) ∨ walk t p = .shadowed) → ∃ q ∈ leafPaths n t, q <+: p := by
  intro p
  induction p with
  | nil =>
    intro t n _ h
    cases ht : isObj t with
    | false => exact ⟨[], by rw [leafPaths_nonobj ht]; simp, List.nil_prefix⟩
    | true =>
      obtain ⟨kv, rfl⟩ := exists_obj_of_isObj ht
      simp [walk] at h
  | cons k q ih =>
    intro t n hd h
    cases ht : isObj t with
    | false => exact ⟨[], by rw [leafPaths_nonobj ht]; simp, List.nil_prefix⟩
    | true =>
      obtain ⟨kv, rfl⟩ := exists_obj_of_isObj ht
      cases n with
      | zero => simp [depthLe] at hd
      | succ m =>
        simp only [depthLe, List.all_eq_true] at hd
        rw [walk_obj_cons] at h
        cases hl : lookup k kv with
        | none => simp [hl] at h
        | some x =>
          simp only [hl] at h
          have hx := hd (k, x) (lookup_mem hl)
          obtain ⟨q', hq', hpre⟩ := ih x m hx h
          refine ⟨k :: q', ?_, ?_⟩
          · simp only [leafPaths, List.mem_flatMap, List.mem_map]
            exact ⟨(k, x), lookup_mem hl, q', hq', rfl⟩
          · obtain ⟨r, hr⟩ := hpre
            exact ⟨r, by simp [← hr]⟩

theorem walk_dictAt_prefix {u : J} : ∀ (q r : List String), walk u (q ++ r) = .dictAt → walk u q = .dictAt := by
  intro q
  induction q generalizing u with
  | nil =>
    intro r h
    obtain ⟨kv, rfl⟩ := exists_obj_of_isObj (walk_dictAt_isObj h)
    rfl
  | cons k q ih =>
    intro r h
    obtain ⟨kv, rfl⟩ := exists_obj_of_isObj (walk_dictAt_isObj h)
    simp only [List.cons_append, walk_obj_cons] at h ⊢
    cases hl : lookup k kv with
    | none => simp [hl] at h
    | some x => simp only [hl] at h ⊢; exact ih r h

/-- equality of configurations as Python values (dict key order invisible) -/
def MapEq (a b : J) : Prop := ∀ p, walk a p = walk b p

theorem MapEq.refl (a : J) : MapEq a a := fun _ => rfl
theorem MapEq.symm {a b : J} (h : MapEq a b) : MapEq b a := fun p => (h p).symm
theorem MapEq.trans {a b c : J} (h : MapEq a b) (h' : MapEq b c) : MapEq a c := fun p => (h p).trans (h' p)

theorem mapEq_nonobj {a b : J} (ha : isObj a = false) : MapEq a b ↔ a = b := by
  constructor
  · intro h
    have := h []
    rw [walk_nonobj_nil ha] at this
    cases hb : isObj b with
    | false => rw [walk_nonobj_nil hb] at this; cases this; rfl
    | true => obtain ⟨kv, rfl⟩ := exists_obj_of_isObj hb; cases this
  · rintro rfl; exact MapEq.refl _

/-- dicts are equal as maps iff they have the same keys and the values under every key are equal as maps
(this is the recursive definition of `dict.__eq__`) -/
theorem mapEq_obj {a b : KV} : MapEq (.obj a) (.obj b) ↔
    ∀ k, match lookup k a, lookup k b with
      | none, none => True
      | some x, some y => MapEq x y
      | _, _ => False := by
  constructor
  · intro h k
    have h1 := h [k]
    simp only [walk_obj_cons] at h1
    cases ha : lookup k a <;> cases hb : lookup k b <;> simp only [ha, hb] at h1 ⊢
    · exact walk_nil_ne_fellOff _ h1.symm
    · exact walk_nil_ne_fellOff _ h1
    · intro p
      simpa only [walk_obj_cons, ha, hb] using h (k :: p)
  · intro h p
    cases p with
    | nil => rfl
    | cons k q =>
      have := h k
      simp only [walk_obj_cons]
      cases ha : lookup k a <;> cases hb : lookup k b <;> simp only [ha, hb] at this ⊢
      exact this q

end Cij.Config
