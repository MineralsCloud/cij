/-
  The non-shear phonon contribution of `CijModel/NonShear.lean` over ℝ.  `averageOverModes … * 3 * na` is a weighted sum `wsum` over
  q-points and non-Γ-acoustic modes, and `wsum` is a `sumL ∘ map` over (row, weight) pairs; per mode, f_zp = hω/2 and
  f_th = kT·log(1 − exp(−Q)) are differentiated by the chain rule through Q = hω/kT (Q' = −γQ/V, ∂Q/∂T = −Q/T, Q₁' = (Q₁ − Q₂)/Q);
  `wsum_Pof_Aof` passes from per-mode `HasDerivAt` facts to `deriv` / `deriv (deriv ·)` of a mode sum.  The model's outputs for the
  arrays of a spectrum are then closed-form mode sums by algebra alone.  Also here: the `calculate` loop of the task list.
-/
import CijModel.NonShear
import Mathlib.Analysis.SpecialFunctions.Log.Deriv
import Mathlib.Analysis.SpecialFunctions.ExpDeriv
import Mathlib.Tactic.Ring
import Mathlib.Tactic.FieldSimp
import Mathlib.Tactic.Linarith
import Mathlib.Tactic.Positivity

namespace Cij.NonShear

open Real

/-- the model's scalar operations at ℝ: numerals are casts, `exp` is `Real.exp`, `T == 0` is `T = 0` -/
noncomputable instance instScalarReal : Scalar ℝ where
  ofNat n := (n : ℝ)
  exp := Real.exp
  isZero x := decide (x = 0)

@[simp] theorem nat_real (n : Nat) : (nat n : ℝ) = (n : ℝ) := rfl
@[simp] theorem exp_real (x : ℝ) : (Scalar.exp x : ℝ) = Real.exp x := rfl
@[simp] theorem isZero_real (x : ℝ) : (Scalar.isZero x) = decide (x = 0) := rfl

@[simp] theorem sumL_nil : sumL ([] : List ℝ) = 0 := by simp [sumL]
@[simp] theorem sumL_cons (x : ℝ) (xs : List ℝ) : sumL (x :: xs) = x + sumL xs := rfl

theorem sumL_map_add {μ : Type} (l : List μ) (f g : μ → ℝ) :
    sumL (l.map fun m => f m + g m) = sumL (l.map f) + sumL (l.map g) := by
  induction l with
  | nil => simp
  | cons a l ih => simp only [List.map_cons, sumL_cons, ih]; ring

theorem sumL_map_mul_left {μ : Type} (l : List μ) (c : ℝ) (f : μ → ℝ) :
    sumL (l.map fun m => c * f m) = c * sumL (l.map f) := by
  induction l with
  | nil => simp
  | cons a l ih => simp only [List.map_cons, sumL_cons, ih]; ring

theorem zeroFirst_length (n : Nat) (l : List ℝ) : (zeroFirst n l).length = l.length := by
  induction n generalizing l with
  | zero => rfl
  | succ n ih => cases l with
    | nil => rfl
    | cons a l => simp [zeroFirst, ih]

theorem sumL_zeroFirst (n : Nat) (l : List ℝ) : sumL (zeroFirst n l) = sumL (l.drop n) := by
  induction n generalizing l with
  | zero => rfl
  | succ n ih => cases l with
    | nil => rfl
    | cons a l => simp [zeroFirst, ih]

theorem zw2_map {μ : Type} (S : List (List μ)) (f : ℝ → ℝ → ℝ) (a b : μ → ℝ) :
    zw2 f (S.map (List.map a)) (S.map (List.map b)) = S.map (List.map fun m => f (a m) (b m)) := by
  unfold zw2
  induction S with
  | nil => rfl
  | cons r S ih =>
    simp only [List.map_cons, List.zipWith_cons_cons, ih, List.cons.injEq, and_true]
    induction r with
    | nil => rfl
    | cons x r ihr => simp only [List.map_cons, List.zipWith_cons_cons, ihr]

theorem map2_map {μ : Type} (S : List (List μ)) (f : ℝ → ℝ) (a : μ → ℝ) :
    map2 f (S.map (List.map a)) = S.map (List.map fun m => f (a m)) := by
  simp [map2, List.map_map, Function.comp_def]

/-- `Σ_q (w_q / Σw) Σ_{m ∈ row q} φ m` over an arbitrary spectrum `S : [q][m]` of modes of any type -/
noncomputable def wsum {μ : Type} (w : List ℝ) (S : List (List μ)) (φ : μ → ℝ) : ℝ :=
  sumL (List.zipWith (fun row wq => wq / sumL w * sumL (row.map φ)) S w)

/-- leave out the Γ-point acoustic modes: the first three modes of the first q-point -/
def dropΓ {μ : Type} : List (List μ) → List (List μ)
  | [] => []
  | r :: rs => r.drop 3 :: rs

theorem zipWith_eq_map_zip {β γ δ : Type} (f : β → γ → δ) (l : List β) (l' : List γ) :
    List.zipWith f l l' = (l.zip l').map fun p => f p.1 p.2 :=
  (List.map_zip_eq_zipWith (f := fun p => f p.1 p.2)).symm

/-- `wsum` as a sum over the (row, weight) pairs: its algebra is that of `sumL ∘ map`, used twice -/
theorem wsum_eq_map {μ : Type} (w : List ℝ) (S : List (List μ)) (φ : μ → ℝ) :
    wsum w S φ = sumL ((S.zip w).map fun p => p.2 / sumL w * sumL (p.1.map φ)) := by
  rw [wsum, zipWith_eq_map_zip]

theorem wsum_add {μ : Type} (w : List ℝ) (S : List (List μ)) (f g : μ → ℝ) :
    wsum w S (fun m => f m + g m) = wsum w S f + wsum w S g := by
  simp only [wsum_eq_map, sumL_map_add, mul_add]

theorem wsum_mul_left {μ : Type} (w : List ℝ) (S : List (List μ)) (c : ℝ) (f : μ → ℝ) :
    wsum w S (fun m => c * f m) = c * wsum w S f := by
  simp only [wsum_eq_map, sumL_map_mul_left, mul_left_comm _ c]

theorem wsum_congr {μ : Type} (w : List ℝ) (S : List (List μ)) (f g : μ → ℝ)
    (h : ∀ row ∈ S, ∀ m ∈ row, f m = g m) : wsum w S f = wsum w S g := by
  rw [wsum_eq_map, wsum_eq_map]
  congr 1
  refine List.map_congr_left fun p hp => ?_
  rw [List.map_congr_left (h p.1 (List.of_mem_zip hp).1)]

theorem wsum_neg {μ : Type} (w : List ℝ) (S : List (List μ)) (f : μ → ℝ) :
    wsum w S (fun m => -f m) = -wsum w S f := by
  simpa using wsum_mul_left w S (-1) f

theorem wsum_zero {μ : Type} (w : List ℝ) (S : List (List μ)) : wsum w S (fun _ => (0 : ℝ)) = 0 := by
  simpa using wsum_mul_left w S 0 (fun _ => (0 : ℝ))

theorem wsum_div {μ : Type} (w : List ℝ) (S : List (List μ)) (f : μ → ℝ) (c : ℝ) :
    wsum w S (fun m => f m / c) = wsum w S f / c := by
  simp only [div_eq_inv_mul, wsum_mul_left]

theorem mean_clearGamma {μ : Type} (S : List (List μ)) (φ : μ → ℝ) (n : ℕ) (hlen : ∀ row ∈ S, row.length = n) :
    (clearGamma (S.map (List.map φ))).map mean = (dropΓ S).map fun r => sumL (r.map φ) / (n : ℝ) := by
  have hm : ∀ row ∈ S, mean (row.map φ) = sumL (row.map φ) / (n : ℝ) := fun row hr => by
    simp only [mean, List.length_map, hlen row hr, nat_real]
  cases S with
  | nil => rfl
  | cons r S =>
    simp only [List.map_cons, clearGamma, dropΓ, List.map_map, List.cons.injEq]
    constructor
    · simp only [mean, zeroFirst_length, sumL_zeroFirst, List.length_map, List.map_drop, hlen r (List.mem_cons_self ..),
        nat_real]
    · exact List.map_congr_left fun row hr => hm row (List.mem_cons_of_mem _ hr)

/-- **average_over_modes · 3 · na is the weighted mode sum.**  For an arbitrary spectrum `S` (any number of
q-points, each with `3·na` modes), arbitrary weights with `Σw ≠ 0` and any per-mode quantity `φ`, the model's
`averageOverModes` of the array `[φ m]`, times `3 · na`, is `Σ_q (w_q/Σw) Σ_{m not Γ-acoustic} φ m`. -/
theorem average_eq_wsum {μ : Type} (S : List (List μ)) (w : List ℝ) (φ : μ → ℝ) (na : ℕ) (hna : na ≠ 0)
    (hlen : ∀ row ∈ S, row.length = 3 * na) (hw : sumL w ≠ 0) :
    averageOverModes (S.map (List.map φ)) w * 3 * na = wsum w (dropΓ S) φ := by
  have hn : (na : ℝ) ≠ 0 := Nat.cast_ne_zero.mpr hna
  -- both sides are multiples of Σ_q w_q Σ_m φ m
  have hl : ∀ p : List μ × ℝ, sumL (p.1.map φ) / ((3 * na : ℕ) : ℝ) * p.2
      = 1 / ((3 * na : ℕ) : ℝ) * (p.2 * sumL (p.1.map φ)) := fun p => by ring
  have hr : ∀ p : List μ × ℝ, p.2 / sumL w * sumL (p.1.map φ) = 1 / sumL w * (p.2 * sumL (p.1.map φ)) := fun p => by ring
  rw [averageOverModes, mean_clearGamma S φ (3 * na) hlen, wsum_eq_map, List.zipWith_map_left, zipWith_eq_map_zip]
  simp only [hl, hr, sumL_map_mul_left]
  push_cast
  field_simp

theorem q1_real (q : ℝ) : q1 q = q / (Real.exp q - 1) := by simp [q1]

theorem exp_sub_one_ne {q : ℝ} (hq : q ≠ 0) : Real.exp q - 1 ≠ 0 := by
  intro h
  have : Real.exp q = 1 := by linarith
  exact hq (by simpa using this)

/-- the overflow-safe spelling used by the code equals the textbook `Q² e^Q / (e^Q − 1)²` -/
theorem q2_eq_classic (q : ℝ) (hq : q ≠ 0) : q2 q = q ^ 2 * Real.exp q / (Real.exp q - 1) ^ 2 := by
  have he := exp_sub_one_ne hq
  have hp : Real.exp q ≠ 0 := (Real.exp_pos q).ne'
  simp only [q2, exp_real, nat_real, Nat.cast_one, Real.exp_neg]
  have h1 : 1 - (Real.exp q)⁻¹ = (Real.exp q - 1) / Real.exp q := by field_simp
  rw [h1]
  field_simp

theorem hasDerivAt_q1 (q : ℝ) (hq : 0 < q) : HasDerivAt (q1 : ℝ → ℝ) ((q1 q - q2 q) / q) q := by
  have he : Real.exp q - 1 ≠ 0 := exp_sub_one_ne hq.ne'
  have h : HasDerivAt (fun x => x / (Real.exp x - 1)) _ q :=
    (hasDerivAt_id' q).div ((Real.hasDerivAt_exp q).sub_const 1) he
  have e : (q1 q - q2 q) / q = (1 * (Real.exp q - 1) - q * Real.exp q) / (Real.exp q - 1) ^ 2 := by
    rw [q2_eq_classic q hq.ne', q1_real]
    field_simp
  rw [e, show (q1 : ℝ → ℝ) = fun x => x / (Real.exp x - 1) from funext q1_real]
  exact h

theorem hasDerivAt_log_one_sub_exp_neg (q : ℝ) (hq : 0 < q) :
    HasDerivAt (fun x => Real.log (1 - Real.exp (-x))) (q1 q / q) q := by
  have hlt : Real.exp (-q) < 1 := by rw [Real.exp_lt_one_iff]; linarith
  have hE : HasDerivAt (fun x => Real.exp (-x)) (Real.exp (-q) * -1) q :=
    (Real.hasDerivAt_exp (-q)).comp q (hasDerivAt_neg' q)
  have h : HasDerivAt (fun x => Real.log (1 - Real.exp (-x))) _ q := (hE.const_sub 1).log (by linarith)
  refine h.congr_deriv ?_
  have hp : Real.exp q ≠ 0 := (Real.exp_pos q).ne'
  have he : Real.exp q - 1 ≠ 0 := exp_sub_one_ne hq.ne'
  rw [q1_real, Real.exp_neg]
  field_simp

/-- a mode as a function of volume: frequency ω(V), Grüneisen parameter γ(V), and g(V) = V ∂γ/∂V -/
structure Mode where
  ω : ℝ → ℝ
  γ : ℝ → ℝ
  g : ℝ → ℝ

/-- the defining relations γ = −∂lnω/∂lnV, g = V∂γ/∂V at every positive volume, ω > 0 -/
def Mode.Good (m : Mode) : Prop :=
  ∀ v : ℝ, 0 < v → 0 < m.ω v ∧ HasDerivAt m.ω (-(m.γ v * m.ω v / v)) v ∧ HasDerivAt m.γ (m.g v / v) v

/-- zero-point free energy hω/2 -/
noncomputable def fzp (h : ℝ) (m : Mode) (v : ℝ) : ℝ := h * m.ω v / 2
/-- thermal free energy kT·ln(1 − e^{−hω/kT}) -/
noncomputable def fth (h k T : ℝ) (m : Mode) (v : ℝ) : ℝ :=
  k * T * Real.log (1 - Real.exp (-(h * m.ω v / (k * T))))

-- closed forms of −∂f/∂V (`p…`) and of V∂²f/∂V² − (−∂f/∂V) (`a…`) for f_zp and f_th, and of ∂p_th/∂T (`dpth`)
noncomputable def pzp (h : ℝ) (m : Mode) (v : ℝ) : ℝ := h * m.γ v * m.ω v / (2 * v)
noncomputable def azp (h : ℝ) (m : Mode) (v : ℝ) : ℝ := h * m.ω v * (m.γ v ^ 2 - m.g v) / (2 * v)
/-- the code's `Q = h_div_k * (ω / T)` -/
noncomputable def Qm (hdk T : ℝ) (m : Mode) (v : ℝ) : ℝ := hdk * (m.ω v / T)
noncomputable def pth (k hdk T : ℝ) (m : Mode) (v : ℝ) : ℝ := k * T / v * m.γ v * q1 (Qm hdk T m v)
noncomputable def ath (k hdk T : ℝ) (m : Mode) (v : ℝ) : ℝ :=
  k * T / v * (m.γ v ^ 2 * (q1 (Qm hdk T m v) - q2 (Qm hdk T m v)) - m.g v * q1 (Qm hdk T m v))
noncomputable def dpth (k hdk T : ℝ) (m : Mode) (v : ℝ) : ℝ := k / v * m.γ v * q2 (Qm hdk T m v)

theorem hasDerivAt_fzp (h : ℝ) (m : Mode) (hm : m.Good) (v : ℝ) (hv : 0 < v) :
    HasDerivAt (fzp h m) (-pzp h m v) v := by
  have h' : HasDerivAt (fzp h m) _ v := ((hm v hv).2.1.const_mul h).div_const 2
  exact h'.congr_deriv (by unfold pzp; ring)

theorem hasDerivAt_pzp (h : ℝ) (m : Mode) (hm : m.Good) (V : ℝ) (hV : 0 < V) :
    HasDerivAt (pzp h m) (-(azp h m V + pzp h m V) / V) V := by
  obtain ⟨_, hω, hγ⟩ := hm V hV
  have hV0 : V ≠ 0 := hV.ne'
  have h' : HasDerivAt (pzp h m) _ V :=
    ((hγ.const_mul h).mul hω).div ((hasDerivAt_id' V).const_mul 2) (mul_ne_zero two_ne_zero hV0)
  refine h'.congr_deriv ?_
  simp only [Pi.mul_apply, azp, pzp]
  field_simp
  ring

theorem Qm_pos {hdk T : ℝ} (m : Mode) (hm : m.Good) {v : ℝ} (hv : 0 < v) (hh : 0 < hdk) (hT : 0 < T) :
    0 < Qm hdk T m v := by
  have := (hm v hv).1
  unfold Qm; positivity

theorem hasDerivAt_Qm (hdk T : ℝ) (m : Mode) (hm : m.Good) (V : ℝ) (hV : 0 < V) :
    HasDerivAt (Qm hdk T m) (-(m.γ V * Qm hdk T m V / V)) V := by
  have h' : HasDerivAt (Qm hdk T m) _ V := ((hm V hV).2.1.div_const T).const_mul hdk
  exact h'.congr_deriv (by unfold Qm; ring)

theorem hasDerivAt_Qm_T (hdk : ℝ) (m : Mode) (V T : ℝ) (hT : T ≠ 0) :
    HasDerivAt (fun T' => Qm hdk T' m V) (-(Qm hdk T m V / T)) T := by
  have h' : HasDerivAt (fun T' => Qm hdk T' m V) _ T :=
    ((hasDerivAt_const T (m.ω V)).div (hasDerivAt_id' T) hT).const_mul hdk
  exact h'.congr_deriv (by unfold Qm; ring)

theorem fth_eq (h k hdk T : ℝ) (hhdk : hdk = h / k) (m : Mode) :
    fth h k T m = fun v => k * T * Real.log (1 - Real.exp (-Qm hdk T m v)) := by
  funext v
  rw [fth, Qm, hhdk, div_mul_div_comm]

/-- −∂f_th/∂V = (kT/V) γ Q₁: chain rule through Q with (ln(1 − e^{−Q}))′ = Q₁/Q and Q′ = −γQ/V -/
theorem hasDerivAt_fth (h k hdk T : ℝ) (hh : 0 < h) (hk : 0 < k) (hhdk : hdk = h / k) (hT : 0 < T)
    (m : Mode) (hm : m.Good) (v : ℝ) (hv : 0 < v) :
    HasDerivAt (fth h k T m) (-pth k hdk T m v) v := by
  have hpos : 0 < Qm hdk T m v := Qm_pos m hm hv (by rw [hhdk]; positivity) hT
  have h' := ((hasDerivAt_log_one_sub_exp_neg _ hpos).comp v (hasDerivAt_Qm hdk T m hm v hv)).const_mul (k * T)
  rw [fth_eq h k hdk T hhdk]
  refine h'.congr_deriv ?_
  have hv0 : v ≠ 0 := hv.ne'
  unfold pth
  generalize Qm hdk T m v = Q at hpos ⊢
  field_simp

theorem hasDerivAt_pth (k hdk T : ℝ) (hh : 0 < hdk) (hT : 0 < T) (m : Mode) (hm : m.Good) (V : ℝ) (hV : 0 < V) :
    HasDerivAt (pth k hdk T m) (-(ath k hdk T m V + pth k hdk T m V) / V) V := by
  have hV0 : V ≠ 0 := hV.ne'
  have hpos : 0 < Qm hdk T m V := Qm_pos m hm hV hh hT
  have hQ1 := (hasDerivAt_q1 _ hpos).comp V (hasDerivAt_Qm hdk T m hm V hV)
  have hinv : HasDerivAt (fun v : ℝ => k * T / v) _ V := (hasDerivAt_const V (k * T)).div (hasDerivAt_id' V) hV0
  have h' : HasDerivAt (pth k hdk T m) _ V := (hinv.mul (hm V hV).2.2).mul hQ1
  refine h'.congr_deriv ?_
  unfold ath pth
  simp only [Pi.mul_apply]
  generalize Qm hdk T m V = Q at hpos ⊢
  generalize q1 Q = A
  generalize q2 Q = B
  field_simp
  ring

theorem hasDerivAt_pth_T (k hdk T : ℝ) (hh : 0 < hdk) (hT : 0 < T) (m : Mode) (hm : m.Good) (V : ℝ) (hV : 0 < V) :
    HasDerivAt (fun T' => pth k hdk T' m V) (dpth k hdk T m V) T := by
  have hT0 : T ≠ 0 := hT.ne'
  have hpos : 0 < Qm hdk T m V := Qm_pos m hm hV hh hT
  have hQ1 := (hasDerivAt_q1 _ hpos).comp T (hasDerivAt_Qm_T hdk m V T hT0)
  have hlin : HasDerivAt (fun T' : ℝ => k * T' / V * m.γ V) _ T :=
    (((hasDerivAt_id' T).const_mul k).div_const V).mul_const (m.γ V)
  have h' : HasDerivAt (fun T' => pth k hdk T' m V) _ T := hlin.mul hQ1
  refine h'.congr_deriv ?_
  unfold dpth
  generalize Qm hdk T m V = Q at hpos ⊢
  generalize q1 Q = A
  generalize q2 Q = B
  field_simp
  ring

theorem hasDerivAt_sumL_map {μ : Type} (l : List μ) (φ : μ → ℝ → ℝ) (φ' : μ → ℝ) (x : ℝ)
    (h : ∀ m ∈ l, HasDerivAt (φ m) (φ' m) x) :
    HasDerivAt (fun u => sumL (l.map fun m => φ m u)) (sumL (l.map φ')) x := by
  induction l with
  | nil => simpa using hasDerivAt_const x (0 : ℝ)
  | cons a l ih =>
    simp only [List.map_cons, sumL_cons]
    exact (h a (List.mem_cons_self ..)).add (ih fun m hm => h m (List.mem_cons_of_mem _ hm))

theorem hasDerivAt_wsum {μ : Type} (w : List ℝ) (S : List (List μ)) (φ : μ → ℝ → ℝ) (φ' : μ → ℝ) (x : ℝ)
    (h : ∀ row ∈ S, ∀ m ∈ row, HasDerivAt (φ m) (φ' m) x) :
    HasDerivAt (fun u => wsum w S (fun m => φ m u)) (wsum w S φ') x := by
  simp only [wsum_eq_map]
  exact hasDerivAt_sumL_map _ _ _ x fun p hp =>
    (hasDerivAt_sumL_map p.1 φ φ' x (h p.1 (List.of_mem_zip hp).1)).const_mul _

/-- P = −∂F/∂V -/
noncomputable def Pof (F : ℝ → ℝ) (V : ℝ) : ℝ := -deriv F V
/-- A = V ∂²F/∂V² − P -/
noncomputable def Aof (F : ℝ → ℝ) (V : ℝ) : ℝ := V * deriv (deriv F) V - Pof F V

theorem Pof_Aof_of_hasDerivAt (F p : ℝ → ℝ) (a V : ℝ) (hV : 0 < V)
    (h1 : ∀ v, 0 < v → HasDerivAt F (-p v) v) (h2 : HasDerivAt p (-(a + p V) / V) V) :
    Pof F V = p V ∧ Aof F V = a := by
  have hP : Pof F V = p V := by unfold Pof; rw [(h1 V hV).deriv]; ring
  refine ⟨hP, ?_⟩
  have hev : deriv F =ᶠ[nhds V] fun v => -p v := by
    filter_upwards [Ioi_mem_nhds hV] with v hv
    exact (h1 v hv).deriv
  have hd2 : deriv (deriv F) V = (a + p V) / V := by
    have hn : HasDerivAt (fun v => -p v) _ V := h2.neg
    rw [hev.deriv_eq, hn.deriv]; ring
  unfold Aof
  rw [hP, hd2]
  have : V ≠ 0 := hV.ne'
  field_simp; ring

/-- `Pof_Aof_of_hasDerivAt` for a weighted mode sum, from the per-mode facts -/
theorem wsum_Pof_Aof {μ : Type} (w : List ℝ) (S : List (List μ)) (f p : μ → ℝ → ℝ) (a : μ → ℝ) (V : ℝ) (hV : 0 < V)
    (h1 : ∀ row ∈ S, ∀ m ∈ row, ∀ v, 0 < v → HasDerivAt (f m) (-p m v) v)
    (h2 : ∀ row ∈ S, ∀ m ∈ row, HasDerivAt (p m) (-(a m + p m V) / V) V) :
    Pof (fun v => wsum w S fun m => f m v) V = wsum w S (fun m => p m V) ∧
    Aof (fun v => wsum w S fun m => f m v) V = wsum w S a := by
  refine Pof_Aof_of_hasDerivAt _ (fun v => wsum w S fun m => p m v) _ V hV (fun v hv => ?_) ?_
  · rw [← wsum_neg]
    exact hasDerivAt_wsum w S f _ v fun row hr m hm => h1 row hr m hm v hv
  · have h := hasDerivAt_wsum w S p _ V h2
    rwa [wsum_div, wsum_neg, wsum_add] at h

/-- every mode that is not a Γ-point acoustic mode satisfies the Grüneisen relations -/
def GoodS (S : List (List Mode)) : Prop := ∀ row ∈ dropΓ S, ∀ m ∈ row, m.Good

/-- F_zp(V) = Σ_q ŵ_q Σ_m hω/2  (Γ acoustic modes excluded, weights normalised) -/
noncomputable def Fzp (h : ℝ) (w : List ℝ) (S : List (List Mode)) (v : ℝ) : ℝ :=
  wsum w (dropΓ S) (fun m => fzp h m v)
/-- F_th(T,V) = Σ_q ŵ_q Σ_m kT ln(1 − e^{−hω/kT}) -/
noncomputable def Fth (h k T : ℝ) (w : List ℝ) (S : List (List Mode)) (v : ℝ) : ℝ :=
  wsum w (dropΓ S) (fun m => fth h k T m v)
/-- F_ph = F_zp + F_th -/
noncomputable def Fph (h k T : ℝ) (w : List ℝ) (S : List (List Mode)) (v : ℝ) : ℝ :=
  Fzp h w S v + Fth h k T w S v

noncomputable def Pzp (h : ℝ) (w : List ℝ) (S : List (List Mode)) (v : ℝ) : ℝ :=
  wsum w (dropΓ S) (fun m => pzp h m v)
noncomputable def Azp (h : ℝ) (w : List ℝ) (S : List (List Mode)) (v : ℝ) : ℝ :=
  wsum w (dropΓ S) (fun m => azp h m v)
noncomputable def Pth (k hdk T : ℝ) (w : List ℝ) (S : List (List Mode)) (v : ℝ) : ℝ :=
  wsum w (dropΓ S) (fun m => pth k hdk T m v)
noncomputable def Ath (k hdk T : ℝ) (w : List ℝ) (S : List (List Mode)) (v : ℝ) : ℝ :=
  wsum w (dropΓ S) (fun m => ath k hdk T m v)
noncomputable def dPth (k hdk T : ℝ) (w : List ℝ) (S : List (List Mode)) (v : ℝ) : ℝ :=
  wsum w (dropΓ S) (fun m => dpth k hdk T m v)

theorem Fzp_PA (h : ℝ) (w : List ℝ) (S : List (List Mode)) (hS : GoodS S) (V : ℝ) (hV : 0 < V) :
    Pof (Fzp h w S) V = Pzp h w S V ∧ Aof (Fzp h w S) V = Azp h w S V :=
  wsum_Pof_Aof w (dropΓ S) (fzp h) (pzp h) (fun m => azp h m V) V hV
    (fun row hr m hm v hv => hasDerivAt_fzp h m (hS row hr m hm) v hv)
    (fun row hr m hm => hasDerivAt_pzp h m (hS row hr m hm) V hV)

theorem hdk_pos {h k hdk : ℝ} (hh : 0 < h) (hk : 0 < k) (hhdk : hdk = h / k) : 0 < hdk := by
  rw [hhdk]; positivity

theorem Fth_PA (h k hdk T : ℝ) (hh : 0 < h) (hk : 0 < k) (hhdk : hdk = h / k) (hT : 0 < T)
    (w : List ℝ) (S : List (List Mode)) (hS : GoodS S) (V : ℝ) (hV : 0 < V) :
    Pof (Fth h k T w S) V = Pth k hdk T w S V ∧ Aof (Fth h k T w S) V = Ath k hdk T w S V :=
  wsum_Pof_Aof w (dropΓ S) (fth h k T) (pth k hdk T) (fun m => ath k hdk T m V) V hV
    (fun row hr m hm v hv => hasDerivAt_fth h k hdk T hh hk hhdk hT m (hS row hr m hm) v hv)
    (fun row hr m hm => hasDerivAt_pth k hdk T (hdk_pos hh hk hhdk) hT m (hS row hr m hm) V hV)

theorem Fph_PA (h k hdk T : ℝ) (hh : 0 < h) (hk : 0 < k) (hhdk : hdk = h / k) (hT : 0 < T)
    (w : List ℝ) (S : List (List Mode)) (hS : GoodS S) (V : ℝ) (hV : 0 < V) :
    Pof (Fph h k T w S) V = Pzp h w S V + Pth k hdk T w S V ∧
    Aof (Fph h k T w S) V = Azp h w S V + Ath k hdk T w S V := by
  have e : Fph h k T w S = fun v => wsum w (dropΓ S) fun m => fzp h m v + fth h k T m v := by
    funext v; rw [wsum_add]; rfl
  rw [e, Pzp, Pth, Azp, Ath, ← wsum_add, ← wsum_add]
  refine wsum_Pof_Aof w (dropΓ S) _ (fun m v => pzp h m v + pth k hdk T m v) _ V hV
    (fun row hr m hm v hv => ?_) (fun row hr m hm => ?_)
  · have h' : HasDerivAt (fun v => fzp h m v + fth h k T m v) _ v :=
      (hasDerivAt_fzp h m (hS row hr m hm) v hv).add (hasDerivAt_fth h k hdk T hh hk hhdk hT m (hS row hr m hm) v hv)
    exact h'.congr_deriv (by ring)
  · have h' : HasDerivAt (fun v => pzp h m v + pth k hdk T m v) _ V :=
      (hasDerivAt_pzp h m (hS row hr m hm) V hV).add
        (hasDerivAt_pth k hdk T (hdk_pos hh hk hhdk) hT m (hS row hr m hm) V hV)
    exact h'.congr_deriv (by ring)

theorem Fth_zero (h k : ℝ) (w : List ℝ) (S : List (List Mode)) : Fth h k 0 w S = fun _ => 0 := by
  funext v
  have : (fun m : Mode => fth h k 0 m v) = fun _ => (0 : ℝ) := by funext m; simp [fth]
  rw [Fth, this, wsum_zero]

theorem Fth_zero_PA (h k : ℝ) (w : List ℝ) (S : List (List Mode)) (V : ℝ) :
    Pof (Fth h k 0 w S) V = 0 ∧ Aof (Fth h k 0 w S) V = 0 := by
  have h1 : deriv (fun _ : ℝ => (0 : ℝ)) = fun _ => 0 := by funext x; simp
  simp [Fth_zero, Pof, Aof, h1]

theorem Fph_zero (h k : ℝ) (w : List ℝ) (S : List (List Mode)) : Fph h k 0 w S = Fzp h w S := by
  funext v
  rw [Fph, Fth_zero, add_zero]

theorem Fph_PA_add (h k hdk T : ℝ) (hh : 0 < h) (hk : 0 < k) (hhdk : hdk = h / k) (hT : 0 ≤ T)
    (w : List ℝ) (S : List (List Mode)) (hS : GoodS S) (V : ℝ) (hV : 0 < V) :
    Pof (Fph h k T w S) V = Pof (Fzp h w S) V + Pof (Fth h k T w S) V ∧
    Aof (Fph h k T w S) V = Aof (Fzp h w S) V + Aof (Fth h k T w S) V := by
  rcases hT.eq_or_lt with h0 | hpos
  · subst h0
    rw [Fph_zero, (Fth_zero_PA h k w S V).1, (Fth_zero_PA h k w S V).2, add_zero, add_zero]
    exact ⟨rfl, rfl⟩
  · obtain ⟨hP, hA⟩ := Fph_PA h k hdk T hh hk hhdk hpos w S hS V hV
    obtain ⟨hPz, hAz⟩ := Fzp_PA h w S hS V hV
    obtain ⟨hPt, hAt⟩ := Fth_PA h k hdk T hh hk hhdk hpos w S hS V hV
    rw [hP, hA, hPz, hAz, hPt, hAt]
    exact ⟨rfl, rfl⟩

/-- ∂P_ph/∂T at T > 0: only the thermal pressure depends on T -/
theorem Pph_hasDerivAt_T (h k hdk T : ℝ) (hh : 0 < h) (hk : 0 < k) (hhdk : hdk = h / k) (hT : 0 < T)
    (w : List ℝ) (S : List (List Mode)) (hS : GoodS S) (V : ℝ) (hV : 0 < V) :
    HasDerivAt (fun T' => Pof (Fph h k T' w S) V) (dPth k hdk T w S V) T := by
  have hd : HasDerivAt (fun T' => Pth k hdk T' w S V) (dPth k hdk T w S V) T :=
    hasDerivAt_wsum w (dropΓ S) (fun m T' => pth k hdk T' m V) (fun m => dpth k hdk T m V) T
      (fun row hr m hm => hasDerivAt_pth_T k hdk T (hdk_pos hh hk hhdk) hT m (hS row hr m hm) V hV)
  refine (hd.const_add (Pzp h w S V)).congr_of_eventuallyEq ?_
  filter_upwards [Ioi_mem_nhds hT] with T' hT'
  exact (Fph_PA h k hdk T' hh hk hhdk hT' w S hS V hV).1

def freqOf (S : List (List Mode)) (V : ℝ) : List (List ℝ) := S.map (List.map fun m => m.ω V)
/-- `calculator.mode_gamma = [V∂γ/∂V, γ, γ**2]` -/
def mg0Of (S : List (List Mode)) (V : ℝ) : List (List ℝ) := S.map (List.map fun m => m.g V)
def mg1Of (S : List (List Mode)) (V : ℝ) : List (List ℝ) := S.map (List.map fun m => m.γ V)
def mg2Of (S : List (List Mode)) (V : ℝ) : List (List ℝ) := S.map (List.map fun m => m.γ V * m.γ V)

def sliceOf (S : List (List Mode)) (V e0 e1 pst : ℝ) : VolSlice ℝ :=
  { V := V, e0 := e0, e1 := e1, pstatic := pst, freq := freqOf S V, mg0 := mg0Of S V, mg1 := mg1Of S V,
    mg2 := mg2Of S V }

theorem avg_scaled {μ : Type} (S : List (List μ)) (w : List ℝ) (ψ φ : μ → ℝ) (na : ℕ) (hna : na ≠ 0)
    (hlen : ∀ row ∈ S, row.length = 3 * na) (hw : sumL w ≠ 0) (c : ℝ) (h : ∀ m, c * ψ m = φ m) :
    c * averageOverModes (S.map (List.map ψ)) w * nat 3 * nat na = wsum w (dropΓ S) φ := by
  rw [← funext h, wsum_mul_left, ← average_eq_wsum S w ψ na hna hlen hw]
  simp only [nat_real]; push_cast; ring

/-! ### the model's outputs as closed-form mode sums (pure algebra: no hypothesis on the spectrum) -/

section ModelSums
variable (h k hdk : ℝ) (na : ℕ) (S : List (List Mode)) (w : List ℝ) (T V e0 e1 pst : ℝ)
variable (hna : na ≠ 0) (hlen : ∀ row ∈ S, row.length = 3 * na) (hw : sumL w ≠ 0)
include hna hlen hw

theorem zeroPointLong_eq :
    zeroPointLongAt h na V (mgLong (sliceOf S V e0 e1 pst)) (freqOf S V) w
      = Azp h w S V / (5 * (e0 * e1)) + Pzp h w S V / (3 * e0) := by
  unfold zeroPointLongAt mgLong sliceOf modeGamma prefactorsLong prefactors freqOf mg0Of mg1Of mg2Of
  simp only [map2_map, zw2_map]
  rw [Azp, Pzp, ← wsum_div, ← wsum_div, ← wsum_add]
  refine avg_scaled S w _ _ na hna hlen hw _ fun m => ?_
  simp only [pfProd, pfAxis, Generated.prefLong, nat_real, azp, pzp]
  push_cast
  ring

theorem zeroPointOff_eq :
    zeroPointOffAt h na V (mgOff (sliceOf S V e0 e1 pst)) (freqOf S V) w
      = Azp h w S V / (15 * (e0 * e1)) := by
  unfold zeroPointOffAt mgOff sliceOf modeGamma prefactorsOff prefactors freqOf mg0Of mg1Of mg2Of
  simp only [map2_map, zw2_map]
  rw [Azp, ← wsum_div]
  refine avg_scaled S w _ _ na hna hlen hw _ fun m => ?_
  simp only [pfProd, Generated.prefOff, nat_real, azp]
  push_cast
  ring

theorem thermalLong_eq (hT : T ≠ 0) :
    thermalLongAt k hdk na T V (mgLong (sliceOf S V e0 e1 pst)) (freqOf S V) w
      = Ath k hdk T w S V / (5 * (e0 * e1)) + Pth k hdk T w S V / (3 * e0) := by
  unfold thermalLongAt mgLong sliceOf modeGamma prefactorsLong prefactors Q1arr Q2arr Qarr freqOf mg0Of mg1Of mg2Of
  simp only [map2_map, zw2_map, isZero_real, hT, decide_false, Bool.false_eq_true, if_false]
  rw [Ath, Pth, ← wsum_div, ← wsum_div, ← wsum_add]
  refine avg_scaled S w _ _ na hna hlen hw _ fun m => ?_
  simp only [pfProd, pfAxis, Generated.prefLong, nat_real, ath, pth, Qm]
  push_cast
  ring

theorem thermalOff_eq (hT : T ≠ 0) :
    thermalOffAt k hdk na T V (mgOff (sliceOf S V e0 e1 pst)) (freqOf S V) w
      = Ath k hdk T w S V / (15 * (e0 * e1)) := by
  unfold thermalOffAt mgOff sliceOf modeGamma prefactorsOff prefactors Q1arr Q2arr Qarr freqOf mg0Of mg1Of mg2Of
  simp only [map2_map, zw2_map, isZero_real, hT, decide_false, Bool.false_eq_true, if_false]
  rw [Ath, ← wsum_div]
  refine avg_scaled S w _ _ na hna hlen hw _ fun m => ?_
  simp only [pfProd, Generated.prefOff, nat_real, ath, Qm]
  push_cast
  ring

omit hna hlen hw in
private theorem gap_of_sums (n A₁ A₂ G cv p₀ p₁ : ℝ) (hV : V ≠ 0) (hp₀ : p₀ = 1 / 3 / e0) (hp₁ : p₁ = 1 / 3 / e1)
    (h1 : 1 * A₁ * 3 * n = p₀ * G) (h2 : 1 * A₂ * 3 * n = p₁ * G) :
    T / V / cv * A₁ * A₂ * (3 * k * n * (3 * k * n)) = T * V * (k / V * G) ^ 2 / (9 * (e0 * e1) * cv) := by
  have e : T / V / cv * A₁ * A₂ * (3 * k * n * (3 * k * n))
      = T / V / cv * k ^ 2 * (1 * A₁ * 3 * n) * (1 * A₂ * 3 * n) := by ring
  have hv : T * V * (k / V * G) ^ 2 = T / V * k ^ 2 * G ^ 2 := by field_simp
  rw [e, h1, h2, hp₀, hp₁, hv]
  ring

/-- the adiabatic correction of either class (their `prefactors[1]` agree): T·V·(Σ ∂p_th/∂T)²/(9 e₀e₁C_V) -/
theorem isoToAdia_eq (pf : Pref ℝ) (hp0 : pf.p10 = 1 / 3 / e0) (hp1 : pf.p11 = 1 / 3 / e1)
    (cv : ℝ) (hT : T ≠ 0) (hV : V ≠ 0) :
    isoToAdiaAt k hdk na T V cv (modeGamma pf (mg0Of S V) (mg1Of S V) (mg2Of S V)) (freqOf S V) w
      = T * V * (dPth k hdk T w S V) ^ 2 / (9 * (e0 * e1) * cv) := by
  unfold isoToAdiaAt modeGamma Q2arr Qarr freqOf mg0Of mg1Of mg2Of
  simp only [map2_map, zw2_map, isZero_real, hT, decide_false, Bool.false_eq_true, if_false]
  -- both averages and ∂P_th/∂T are multiples of G = Σ γ Q₂
  have a : ∀ p : ℝ, 1 * averageOverModes (S.map (List.map fun m => q2 (hdk * (m.ω V / T)) * (p * m.γ V))) w * nat 3 * nat na
      = p * wsum w (dropΓ S) (fun m => m.γ V * q2 (Qm hdk T m V)) := fun p => by
    rw [← wsum_mul_left]
    exact avg_scaled S w _ _ na hna hlen hw _ fun m => by unfold Qm; ring
  have gd : dPth k hdk T w S V = k / V * wsum w (dropΓ S) (fun m => m.γ V * q2 (Qm hdk T m V)) := by
    rw [dPth, ← wsum_mul_left]
    exact wsum_congr _ _ _ _ fun _ _ m _ => by unfold dpth; ring
  simp only [nat_real, Nat.cast_ofNat] at a ⊢
  rw [gd]
  exact gap_of_sums k T V e0 e1 _ _ _ _ cv _ _ hV hp0 hp1 (a pf.p10) (a pf.p11)

end ModelSums

theorem prefactorsLong_p1 (e0 e1 : ℝ) :
    (prefactorsLong e0 e1).p10 = 1 / 3 / e0 ∧ (prefactorsLong e0 e1).p11 = 1 / 3 / e1 := by
  simp [prefactorsLong, prefactors, pfAxis, Generated.prefLong]

theorem prefactorsOff_p1 (e0 e1 : ℝ) :
    (prefactorsOff e0 e1).p10 = 1 / 3 / e0 ∧ (prefactorsOff e0 e1).p11 = 1 / 3 / e1 := by
  simp [prefactorsOff, prefactors, pfAxis, Generated.prefOff]

/-- `isoToAdia_eq` at every T ≥ 0 in terms of ∂P_ph/∂T: the code sets rows with T = 0 to 0, and the formula vanishes there -/
theorem isoToAdia_eq_deriv (h k hdk : ℝ) (na : ℕ) (S : List (List Mode)) (w : List ℝ) (hh : 0 < h) (hk : 0 < k)
    (hhdk : hdk = h / k) (hna : na ≠ 0) (hlen : ∀ row ∈ S, row.length = 3 * na) (hw : sumL w ≠ 0) (hS : GoodS S)
    (pf : Pref ℝ) (T V e0 e1 cv : ℝ) (hp0 : pf.p10 = 1 / 3 / e0) (hp1 : pf.p11 = 1 / 3 / e1) (hT : 0 ≤ T) (hV : 0 < V) :
    isoToAdiaAt k hdk na T V cv (modeGamma pf (mg0Of S V) (mg1Of S V) (mg2Of S V)) (freqOf S V) w
      = T * V * (deriv (fun T' => Pof (Fph h k T' w S) V) T) ^ 2 / (9 * (e0 * e1) * cv) := by
  rcases hT.eq_or_lt with h0 | hpos
  · subst h0; simp [isoToAdiaAt]
  · rw [(Pph_hasDerivAt_T h k hdk T hh hk hhdk hpos w S hS V hV).deriv]
    exact isoToAdia_eq k hdk na S w T V e0 e1 hna hlen hw pf hp0 hp1 cv hpos.ne' hV.ne'

/-- ω(V) = a/V: γ ≡ 1, V∂γ/∂V ≡ 0 -/
noncomputable def invMode (a : ℝ) : Mode := { ω := fun v => a / v, γ := fun _ => 1, g := fun _ => 0 }

theorem invMode_good (a : ℝ) (ha : 0 < a) : (invMode a).Good := by
  intro v hv
  have hv0 : v ≠ 0 := hv.ne'
  refine ⟨by simp only [invMode]; positivity, ?_, ?_⟩
  · have : HasDerivAt (fun u : ℝ => a / u) ((0 * v - a * 1) / v ^ 2) v :=
      (hasDerivAt_const v a).div (hasDerivAt_id' v) hv0
    have h' : HasDerivAt (invMode a).ω _ v := this
    refine h'.congr_deriv ?_
    simp only [invMode]; field_simp; ring
  · have : HasDerivAt (fun _ : ℝ => (1 : ℝ)) 0 v := hasDerivAt_const v 1
    have h' : HasDerivAt (invMode a).γ 0 v := this
    refine h'.congr_deriv ?_
    simp [invMode]

theorem goodS_replicate (n : ℕ) (a : ℝ) (ha : 0 < a) : GoodS [List.replicate n (invMode a)] := by
  intro row hr m hm
  rw [dropΓ, List.mem_singleton] at hr
  subst hr
  rw [List.eq_of_mem_replicate (List.mem_of_mem_drop hm)]
  exact invMode_good a ha

/-! ### the `calculate` loop: shear keys agree in the two stores -/

section TaskLoop
variable {κ β : Type} [DecidableEq κ]

/-- a task list is well-formed w.r.t. a classification of keys: shear tasks carry shear keys (a Voigt index
4–6), non-shear tasks carry non-shear keys -/
def Task.WF (isShear : κ → Bool) : Task κ β → Prop
  | .nonShear key _ _ => isShear key = false
  | .shear key _ => isShear key = true

theorem step_preserves (isShear : κ → Bool) (st : Store κ β × Store κ β) (t : Task κ β) (ht : t.WF isShear)
    (inv : ∀ key, isShear key = true → st.1 key = st.2 key) :
    ∀ key, isShear key = true → (step st t).1 key = (step st t).2 key := by
  intro key hk
  cases t with
  | nonShear key' iso adia =>
    have hne : key ≠ key' := by
      intro h; rw [h] at hk; simp only [Task.WF] at ht; rw [ht] at hk; exact Bool.noConfusion hk
    simp [step, Store.set, hne, inv key hk]
  | shear key' target =>
    by_cases h : key = key'
    · simp [step, Store.set, h, shearValueAdiabatic]
    · simp [step, Store.set, h, inv key hk]

theorem foldl_step_preserves (isShear : κ → Bool) (tasks : List (Task κ β)) (hwf : ∀ t ∈ tasks, t.WF isShear)
    (st : Store κ β × Store κ β) (inv : ∀ key, isShear key = true → st.1 key = st.2 key) :
    ∀ key, isShear key = true → (tasks.foldl step st).1 key = (tasks.foldl step st).2 key := by
  induction tasks generalizing st with
  | nil => simpa using inv
  | cons t ts ih =>
    simp only [List.foldl_cons]
    exact ih (fun t' ht' => hwf t' (List.mem_cons_of_mem _ ht')) (step st t)
      (step_preserves isShear st t (hwf t (List.mem_cons_self ..)) inv)

end TaskLoop

end Cij.NonShear
