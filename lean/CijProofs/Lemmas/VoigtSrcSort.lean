/-
  `sorted((i, j))` on two SYMBOLIC integers, and what follows from it: `StrainRepresentation.from_standard(i, j)` of the translated
  source, for ALL integers, in every calling context (any remaining fuel ≥ 41, any call depth below the recursion limit).

  Plain kernel evaluation cannot decide `intLt j i` for two symbolic magnitudes of the same sign.  The way around it is a
  CONTINUATION EXTRACTION: `fs_spine` (checked by the kernel as a definitional equality between two stuck terms) says that the
  body of `from_standard` evaluates to `contFS … (sortByKeys [i, j] [i, j] [])`, where `contFS` is the evaluator's own continuation
  (bind the two names, run the remaining statements).  `sort2_ints` (an ordinary proof) rewrites the stuck sort under `i ≤ j` /
  `j < i`; after that the pair is (min, max), and the remaining test `(i, j) not in VOIGT_TO_STANDARD.values()` is decided by the
  constructors of the two integers (kernel evaluation per shape: negative, 0, 1, 2, 3, ≥ 4).

  Every `kernel_rfl` between two stuck terms carries a small `maxHeartbeats`: when such an equation is FALSE (a changed source) the
  kernel's search for a definitional unfolding does not terminate in reasonable time; the limit turns that into an error.
-/
import CijProofs.Lemmas.PyLite
import CijProofs.Lemmas.Voigt
import CijModel.VoigtSrc

namespace Cij.VoigtSrc
open PyLite

/-! ### generic pieces -/

/-- exception kind of any result -/
def excK {α} (r : Result α) : Option String := match r with | .exc k _ => some k | _ => none
def excA {α} (r : Result α) : List Val := match r with | .exc _ a => a | _ => []

theorem excK_eq {α} {r : Result α} {k : String} (h : excK r = some k) : r = .exc k (excA r) := by
  cases r <;> simp_all [excK, excA]

theorem excKind_eq_excK (r : Result Val) : excKind r = excK r := by cases r <;> rfl

/-- the module's globals after import (the value every call of `PyLite.eval` starts from) -/
def genv0 : Env := match src.load fuel with | .ok g => g | _ => []
theorem load_ok : src.load fuel = .ok genv0 := by kernel_rfl

def noFun : FunDef := ⟨"", .method, [], none, []⟩
/-- function `f` of class `c` of the translated module -/
def funOf (c f : String) : FunDef := match src.findClass c with
  | some cd => (match cd.findFun f with | some fd => fd | none => noFun)
  | none => noFun

/-- the evaluator with `f` units of fuel, as the record the mutual block passes down -/
def recAt (f : Nat) : Rec :=
  ⟨evalExpr src 60 genv0 f, evalList src 60 genv0 f, evalDict src 60 genv0 f, evalKw src 60 genv0 f, evalBool src 60 genv0 f,
   evalFParts src 60 genv0 f, genLoop src 60 genv0 f, mapCall src 60 genv0 f, execStmts src 60 genv0 f, callFun src 60 genv0 f,
   callVal src 60 genv0 f, getAttr src 60 genv0 f⟩

/-! #### frames: the continuations the step functions wrap around a sub-evaluation (the same `do` blocks) -/

/-- `stepCallFun` around the body -/
def frFun (r : Result Flow) : Result Val := do
  match ← r with
  | .ret v => pure v
  | .next _ => pure .none
/-- `stepRet` around the returned expression -/
def frRet (r : Result Val) : Result Flow := do let v ← r; pure (.ret v)
/-- `stepIf` around the chosen branch (`ss` = the statements after the `if`) -/
def frIf (r : Rec) (d : Nat) (ss : List Stmt) (x : Result Flow) : Result Flow := do
  match ← x with
  | .ret v => pure (.ret v)
  | .next env' => r.stmts d env' ss
/-- `stepList` around the first (non-starred) element -/
def frHead (r : Rec) (d : Nat) (env : Env) (es : List Expr) (x : Result Val) : Result (List Val) := do
  let v ← x
  let rest ← r.list d env es
  pure (v :: rest)
/-- `stepList` around the first, starred, element -/
def frStar (r : Rec) (d : Nat) (env : Env) (es : List Expr) (x : Result Val) : Result (List Val) := do
  let v ← x
  let xs ← iterOf v
  let rest ← r.list d env es
  pure (xs ++ rest)
/-- `stepList` around the remaining elements -/
def frTail (v : Val) (x : Result (List Val)) : Result (List Val) := do let rest ← x; pure (v :: rest)
/-- `stepTuple` -/
def frTuple (x : Result (List Val)) : Result Val := do let vs ← x; pure (.tuple vs)
/-- `stepCall` around the argument list -/
def frArgs (r : Rec) (d : Nat) (env : Env) (kw : List (String × Expr)) (fv : Val) (x : Result (List Val)) : Result Val := do
  let avs ← x
  let kvs ← r.kw d env kw
  r.callVal d fv avs kvs

theorem frFun_frRet (r : Result Val) : frFun (frRet r) = r := by cases r <;> rfl

/-- entering a module function below the recursion limit -/
theorem callFun_enter (N d : Nat) (fd : FunDef) (recv : Val) (args : List Val) (h : d < 60) :
    callFun src 60 genv0 (N + 1) d fd recv args =
      (bindParams fd.params fd.vararg (recv :: args)).bind fun env => frFun (execStmts src 60 genv0 N (d + 1) env fd.body) := by
  show stepCallFun 60 _ d fd recv args = _
  unfold stepCallFun
  rw [if_neg (by omega)]
  rfl

/-- … and at it -/
theorem callFun_overflow (N d : Nat) (fd : FunDef) (recv : Val) (args : List Val) (h : 60 ≤ d) :
    callFun src 60 genv0 (N + 1) d fd recv args = .exc "RecursionError" [] := by
  show stepCallFun 60 _ d fd recv args = _
  unfold stepCallFun
  rw [if_pos h]
  rfl

/-! ### `sorted` of two integers -/

theorem sort2_ints (i j : Int) :
    sortByKeys [.int i, .int j] [.int i, .int j] [] = .ok (if j < i then [.int j, .int i] else [.int i, .int j]) := by
  by_cases h : j < i
  · simp [sortByKeys, insertSorted, pyOrd, ordAtom, Val.plain, numOf, OrdOp.onInt, intLt_eq_decide, bind, Result.bind, h]
  · simp [sortByKeys, insertSorted, pyOrd, ordAtom, Val.plain, numOf, OrdOp.onInt, intLt_eq_decide, bind, Result.bind, h, pure]

/-! ### `StrainRepresentation.from_standard` -/

def fdFS : FunDef := funOf "StrainRepresentation" "from_standard"
def SRc : Val := .cls "StrainRepresentation"

/-- `E_.from_standard(i, j)` with `N` units of fuel at call depth `d` -/
def callFS (N d : Nat) (i j : Int) : Result Val := callFun src 60 genv0 N d fdFS SRc [.int i, .int j]

def fsTarget : Target := match fdFS.body with | .assign t _ :: _ => t | _ => .name ""
def fsRest : List Stmt := fdFS.body.tail
def envFS (i j : Int) : Env := [("cls", SRc), ("i", .int i), ("j", .int j)]

theorem fs_params (i j : Int) : bindParams fdFS.params fdFS.vararg [SRc, .int i, .int j] = .ok (envFS i j) := by kernel_rfl

def bodyFS (N d : Nat) (i j : Int) : Result Flow := execStmts src 60 genv0 N d (envFS i j) fdFS.body
/-- what the evaluator does with the result of the sort: `i, j = <that list>`, then the remaining statements -/
def contFS (N d : Nat) (i j : Int) (S : Result (List Val)) : Result Flow :=
  (S.bind fun rs => .ok (.list rs)).bind fun v => (bindTarget fsTarget v (envFS i j)).bind fun env' =>
    execStmts src 60 genv0 N d env' fsRest

set_option maxHeartbeats 20000 in
/-- the body of `from_standard` up to the sort: it IS `i, j = sorted((i, j))` followed by the rest -/
theorem fs_spine (m d : Nat) (i j : Int) :
    bodyFS (m + 40) d i j = contFS (m + 39) d i j (sortByKeys [.int i, .int j] [.int i, .int j] []) := by kernel_rfl

abbrev RTE : Option String := some "RuntimeError"

def isRetStrain (r : Result Flow) (lo hi : Int) : Bool :=
  match r with
  | .ok (.ret (.record "StrainRepresentation" [.int a, .int b])) => a == lo && b == hi
  | _ => false

theorem isRetStrain_eq {r : Result Flow} {lo hi : Int} (h : isRetStrain r lo hi = true) :
    r = .ok (.ret (Strain.toVal ⟨lo, hi⟩)) := by
  unfold isRetStrain at h
  split at h
  · simp only [Bool.and_eq_true, beq_iff_eq] at h
    obtain ⟨rfl, rfl⟩ := h
    rfl
  · exact absurd h (by simp)

/-! after the sort, per shape of (lo, hi); `i j` (the shadowed parameters), the fuel and the depth stay symbolic -/

theorem fs_lo_neg (m d : Nat) (i j : Int) (a : Nat) (hi : Int) :
    excK (contFS (m + 39) d i j (.ok [.int (Int.negSucc a), .int hi])) = RTE := by kernel_rfl
theorem fs_lo_zero (m d : Nat) (i j : Int) (hi : Int) :
    excK (contFS (m + 39) d i j (.ok [.int 0, .int hi])) = RTE := by kernel_rfl
theorem fs_lo_big (m d : Nat) (i j : Int) (a : Nat) (hi : Int) :
    excK (contFS (m + 39) d i j (.ok [.int (Int.ofNat (a + 4)), .int hi])) = RTE := by kernel_rfl
theorem fs_hi_neg (m d : Nat) (i j : Int) (b : Nat) :
    (idx3.all fun lo => excK (contFS (m + 39) d i j (.ok [.int lo, .int (Int.negSucc b)])) == RTE) = true := by kernel_rfl
theorem fs_hi_zero (m d : Nat) (i j : Int) :
    (idx3.all fun lo => excK (contFS (m + 39) d i j (.ok [.int lo, .int 0])) == RTE) = true := by kernel_rfl
theorem fs_hi_big (m d : Nat) (i j : Int) (b : Nat) :
    (idx3.all fun lo => excK (contFS (m + 39) d i j (.ok [.int lo, .int (Int.ofNat (b + 4))])) == RTE) = true := by kernel_rfl
/-- the six sorted pairs inside 1..3 are accepted and returned as they are -/
theorem fs_good (m d : Nat) (i j : Int) :
    (idx3.all fun lo => idx3.all fun hi => decide (hi < lo) || isRetStrain (contFS (m + 39) d i j (.ok [.int lo, .int hi])) lo hi) = true := by
  kernel_rfl

/-- every integer is negative, one of 0..3, or at least 4 -/
theorem int_shape4 (v : Int) : (∃ n, v = Int.negSucc n) ∨ v = 0 ∨ v = 1 ∨ v = 2 ∨ v = 3 ∨ ∃ n, v = Int.ofNat (n + 4) := by
  cases v with
  | negSucc n => exact Or.inl ⟨n, rfl⟩
  | ofNat m =>
    rcases m with _ | _ | _ | _ | m
    · exact Or.inr (Or.inl rfl)
    · exact Or.inr (Or.inr (Or.inl rfl))
    · exact Or.inr (Or.inr (Or.inr (Or.inl rfl)))
    · exact Or.inr (Or.inr (Or.inr (Or.inr (Or.inl rfl))))
    · exact Or.inr (Or.inr (Or.inr (Or.inr (Or.inr ⟨m, rfl⟩))))

theorem all_idx3 {p : Int → Int → Bool} (h : (idx3.all fun i => idx3.all fun j => p i j) = true) :
    ∀ i ∈ idx3, ∀ j ∈ idx3, p i j = true := by
  intro i hi j hj; exact List.all_eq_true.mp (List.all_eq_true.mp h i hi) j hj

theorem all_idx3' {p : Int → Bool} (h : (idx3.all fun i => p i) = true) : ∀ i ∈ idx3, p i = true :=
  fun i hi => List.all_eq_true.mp h i hi

theorem negSucc_neg (a : Nat) : Int.negSucc a < 0 := Int.negSucc_lt_zero a
theorem four_le_ofNat (a : Nat) : (4 : Int) ≤ Int.ofNat (a + 4) := by
  have : (Int.ofNat (a + 4)) = ((a + 4 : Nat) : Int) := rfl
  omega

/-- after the sort: the pair (lo ≤ hi) is rejected unless it lies inside 1..3, and returned unchanged otherwise -/
theorem contFS_sorted (m d : Nat) (i j lo hi : Int) (hle : lo ≤ hi) :
    (¬(1 ≤ lo ∧ hi ≤ 3) → excK (contFS (m + 39) d i j (.ok [.int lo, .int hi])) = RTE) ∧
    ((1 ≤ lo ∧ hi ≤ 3) → contFS (m + 39) d i j (.ok [.int lo, .int hi]) = .ok (.ret (Strain.toVal ⟨lo, hi⟩))) := by
  by_cases hlo : 1 ≤ lo ∧ lo ≤ 3
  · have hlm : lo ∈ idx3 := (mem_idx3 lo).2 hlo
    by_cases hhi : hi ≤ 3
    · have hhm : hi ∈ idx3 := (mem_idx3 hi).2 ⟨by omega, hhi⟩
      refine ⟨fun h => absurd ⟨hlo.1, hhi⟩ h, fun _ => ?_⟩
      have := all_idx3 (fs_good m d i j) lo hlm hi hhm
      rw [Bool.or_eq_true] at this
      rcases this with h | h
      · exact absurd (of_decide_eq_true h) (by omega)
      · exact isRetStrain_eq h
    · refine ⟨fun _ => ?_, fun h => absurd h.2 hhi⟩
      rcases int_shape4 hi with ⟨b, rfl⟩ | rfl | rfl | rfl | rfl | ⟨b, rfl⟩
      · exact eq_of_beq (all_idx3' (fs_hi_neg m d i j b) lo hlm)
      · exact eq_of_beq (all_idx3' (fs_hi_zero m d i j) lo hlm)
      · exact absurd (by decide) hhi
      · exact absurd (by decide) hhi
      · exact absurd (by decide) hhi
      · exact eq_of_beq (all_idx3' (fs_hi_big m d i j b) lo hlm)
  · refine ⟨fun _ => ?_, fun h => absurd ⟨h.1, by omega⟩ hlo⟩
    rcases int_shape4 lo with ⟨a, rfl⟩ | rfl | rfl | rfl | rfl | ⟨a, rfl⟩
    · exact fs_lo_neg m d i j a hi
    · exact fs_lo_zero m d i j hi
    · exact absurd (by decide) hlo
    · exact absurd (by decide) hlo
    · exact absurd (by decide) hlo
    · exact fs_lo_big m d i j a hi

theorem frFun_exc {r : Result Flow} {k : String} (h : excK r = some k) : excK (frFun r) = some k := by
  rw [excK_eq h]; rfl

/-- **`E_.from_standard(i, j)` for ALL integers, in any context**: RuntimeError unless (min, max) lies inside 1..3 — i.e. unless it is
one of the six values of `VOIGT_TO_STANDARD` —, and the NamedTuple `(min, max)` otherwise -/
theorem callFS_spec (m d : Nat) (hd : d < 60) (i j : Int) :
    (¬(1 ≤ min i j ∧ max i j ≤ 3) → excK (callFS (m + 41) d i j) = RTE) ∧
    ((1 ≤ min i j ∧ max i j ≤ 3) → callFS (m + 41) d i j = .ok (Strain.toVal ⟨min i j, max i j⟩)) := by
  have e : callFS (m + 41) d i j = frFun (contFS (m + 39) (d + 1) i j (.ok (if j < i then [.int j, .int i] else [.int i, .int j]))) := by
    unfold callFS
    rw [callFun_enter (m + 40) d fdFS SRc _ hd, fs_params]
    show frFun (bodyFS (m + 40) (d + 1) i j) = _
    rw [fs_spine, sort2_ints]
  rw [e]
  by_cases h : j < i
  · rw [if_pos h, show min i j = j by omega, show max i j = i by omega]
    obtain ⟨h1, h2⟩ := contFS_sorted m (d + 1) i j j i (by omega)
    exact ⟨fun hn => frFun_exc (h1 hn), fun hy => by rw [h2 hy]; rfl⟩
  · have h' : i ≤ j := by omega
    rw [if_neg h, show min i j = i by omega, show max i j = j by omega]
    obtain ⟨h1, h2⟩ := contFS_sorted m (d + 1) i j i j h'
    exact ⟨fun hn => frFun_exc (h1 hn), fun hy => by rw [h2 hy]; rfl⟩

/-- a standard pair inside 1..3 -/
def in3 (i j : Int) : Prop := 1 ≤ min i j ∧ max i j ≤ 3
instance (i j : Int) : Decidable (in3 i j) := by unfold in3; infer_instance

/-- the hand model's `Strain.fromStandard`, in the same closed form -/
theorem model_fromStandard (i j : Int) :
    Strain.fromStandard i j = if in3 i j then some ⟨min i j, max i j⟩ else none := by
  show _ = if 1 ≤ min i j ∧ max i j ≤ 3 then _ else _
  by_cases h : 1 ≤ min i j ∧ max i j ≤ 3
  · rw [if_pos h]
    have hi : i ∈ idx3 := (mem_idx3 i).2 (by omega)
    have hj : j ∈ idx3 := (mem_idx3 j).2 (by omega)
    have key : ∀ i ∈ idx3, ∀ j ∈ idx3, Strain.fromStandard i j = some ⟨min i j, max i j⟩ := by decide +kernel
    exact key i hi j hj
  · rw [if_neg h]
    cases hm : Strain.fromStandard i j with
    | none => rfl
    | some s => exfalso; have := strain_fromStandard_range i j s hm; omega

/-! ### `ModulusRepresentation.from_standard` -/

def fdC4 : FunDef := funOf "ModulusRepresentation" "from_standard"
def MRc : Val := .cls "ModulusRepresentation"
def callC4 (N d : Nat) (i j k l : Int) : Result Val := callFun src 60 genv0 N d fdC4 MRc [.int i, .int j, .int k, .int l]
def env4 (i j k l : Int) : Env := [("cls", MRc), ("i", .int i), ("j", .int j), ("k", .int k), ("l", .int l)]
theorem c4_params (i j k l : Int) : bindParams fdC4.params fdC4.vararg [MRc, .int i, .int j, .int k, .int l] = .ok (env4 i j k l) := by
  kernel_rfl

def c4Ret : Expr := match fdC4.body with | [.ret (some e)] => e | _ => .const .none
def c4Sorted : Expr := match c4Ret with | .call _ [.starred e] _ => e | _ => .const .none
def c4Kw : List (String × Expr) := match c4Sorted with | .call _ _ kw => kw | _ => []
def c4Elts : List Expr := match c4Sorted with | .call _ [.tuple es] _ => es | _ => []

def bodyC4 (F d : Nat) (i j k l : Int) : Result Flow := execStmts src 60 genv0 F d (env4 i j k l) fdC4.body

/-- everything `C_.from_standard` does around the evaluation of the two-element tuple display -/
def outerC4 (F d : Nat) (env : Env) (x : Result (List Val)) : Result Flow :=
  frRet (frArgs (recAt (F - 2)) d env [] MRc (frStar (recAt (F - 3)) d env []
    (frArgs (recAt (F - 4)) d env c4Kw (.builtin "sorted") (frHead (recAt (F - 5)) d env [] (frTuple x)))))

set_option maxHeartbeats 4000 in
theorem c4_spine1 (m d : Nat) (i j k l : Int) : bodyC4 (m + 60) d i j k l =
    outerC4 (m + 60) d (env4 i j k l) (frHead (recAt (m + 53)) d (env4 i j k l) c4Elts.tail (callFS (m + 51) d i j)) := by
  kernel_rfl

set_option maxHeartbeats 4000 in
theorem c4_spine2 (m d : Nat) (i j k l : Int) (v1 : Val) :
    frHead (recAt (m + 53)) d (env4 i j k l) c4Elts.tail (.ok v1) =
      frTail v1 (frHead (recAt (m + 52)) d (env4 i j k l) [] (callFS (m + 50) d k l)) := by
  kernel_rfl

/-- both strains built: sort them by `.voigt` and construct — checked against the hand model for the 6 × 6 canonical strains.
The constructor is a call, so the evaluator compares the depth with the recursion limit: `d` has to be a literal for the kernel,
hence one evaluation per body depth that occurs. -/
def finishOK (m d : Nat) (i j k l : Int) : Bool :=
  idx3.all fun a => idx3.all fun b => idx3.all fun c => idx3.all fun e => decide (b < a) || decide (e < c) ||
    agreeWith valToModulus (frFun (outerC4 (m + 60) d (env4 i j k l) (.ok [Strain.toVal ⟨a, b⟩, Strain.toVal ⟨c, e⟩])))
      (Modulus.sortByVoigt ⟨a, b⟩ ⟨c, e⟩)

theorem finish_d1 (m : Nat) (i j k l : Int) : finishOK m 1 i j k l = true := by kernel_rfl
theorem finish_d3 (m : Nat) (i j k l : Int) : finishOK m 3 i j k l = true := by kernel_rfl
theorem finish_d4 (m : Nat) (i j k l : Int) : finishOK m 4 i j k l = true := by kernel_rfl
theorem finish_d5 (m : Nat) (i j k l : Int) : finishOK m 5 i j k l = true := by kernel_rfl

theorem outerC4_exc (F d : Nat) (env : Env) (k : String) (a : List Val) : outerC4 F d env (.exc k a) = .exc k a := rfl
theorem frHead_exc (r : Rec) (d : Nat) (env : Env) (es : List Expr) (k : String) (a : List Val) :
    frHead r d env es (.exc k a) = .exc k a := rfl
theorem frTail_exc (v : Val) (k : String) (a : List Val) : frTail v (.exc k a) = .exc k a := rfl
theorem frHead_last (m d : Nat) (env : Env) (v : Val) : frHead (recAt (m + 1)) d env [] (.ok v) = .ok [v] := by kernel_rfl

/-- **`C_.from_standard(i, j, k, l)` for ALL integers, in any context** (fuel ≥ 61, call depth `d` with the two inner calls still
below the recursion limit): RuntimeError as soon as one of the two pairs is not, after sorting, inside 1..3 -/
theorem callC4_rejects (m d : Nat) (hd : d + 1 < 60) (i j k l : Int) (h : ¬(in3 i j ∧ in3 k l)) :
    excK (callC4 (m + 61) d i j k l) = RTE := by
  have e : callC4 (m + 61) d i j k l = frFun (bodyC4 (m + 60) (d + 1) i j k l) := by
    unfold callC4
    rw [callFun_enter (m + 60) d fdC4 MRc _ (by omega), c4_params]
    rfl
  rw [e, c4_spine1]
  obtain ⟨r1, a1⟩ := callFS_spec (m + 10) (d + 1) hd i j
  by_cases h1 : in3 i j
  · have h2 : ¬in3 k l := fun h2 => h ⟨h1, h2⟩
    rw [show m + 51 = m + 10 + 41 by omega, a1 h1, c4_spine2]
    obtain ⟨r2, _⟩ := callFS_spec (m + 9) (d + 1) hd k l
    rw [show m + 50 = m + 9 + 41 by omega, excK_eq (r2 h2), frHead_exc, frTail_exc, outerC4_exc]
    rfl
  · rw [show m + 51 = m + 10 + 41 by omega, excK_eq (r1 h1), frHead_exc, outerC4_exc]
    rfl

theorem model_fromStandard4 (i j k l : Int) : Modulus.fromStandard i j k l =
    if in3 i j ∧ in3 k l then Modulus.sortByVoigt ⟨min i j, max i j⟩ ⟨min k l, max k l⟩ else none := by
  unfold Modulus.fromStandard
  rw [model_fromStandard i j, model_fromStandard k l]
  by_cases h1 : in3 i j <;> by_cases h2 : in3 k l <;> simp [h1, h2]

/-- … and the model's key when both are (body depths 1, 3, 4, 5 = the calling contexts that exist: `C_.from_standard` directly,
`c_(i, j, k, l)`, `c_("ijkl")`, `c_(ijkl)`) -/
theorem callC4_accepts (m d : Nat) (hd : d = 0 ∨ d = 2 ∨ d = 3 ∨ d = 4) (i j k l : Int) (h : in3 i j ∧ in3 k l) :
    agreeWith valToModulus (callC4 (m + 61) d i j k l) (Modulus.fromStandard i j k l) = true := by
  have hd' : d + 1 < 60 := by omega
  have e : callC4 (m + 61) d i j k l = frFun (bodyC4 (m + 60) (d + 1) i j k l) := by
    unfold callC4
    rw [callFun_enter (m + 60) d fdC4 MRc _ (by omega), c4_params]
    rfl
  rw [e, c4_spine1, model_fromStandard4, if_pos h]
  obtain ⟨_, a1⟩ := callFS_spec (m + 10) (d + 1) hd' i j
  obtain ⟨_, a2⟩ := callFS_spec (m + 9) (d + 1) hd' k l
  rw [show m + 51 = m + 10 + 41 by omega, a1 h.1, c4_spine2, show m + 50 = m + 9 + 41 by omega, a2 h.2,
    show m + 52 = m + 51 + 1 by omega, frHead_last]
  show agreeWith valToModulus (frFun (outerC4 (m + 60) (d + 1) (env4 i j k l) (.ok [_, _]))) _ = true
  have fin : finishOK m (d + 1) i j k l = true := by
    rcases hd with rfl | rfl | rfl | rfl
    · exact finish_d1 m i j k l
    · exact finish_d3 m i j k l
    · exact finish_d4 m i j k l
    · exact finish_d5 m i j k l
  unfold in3 at h
  have q := List.all_eq_true.mp (List.all_eq_true.mp (List.all_eq_true.mp (List.all_eq_true.mp fin
    (min i j) ((mem_idx3 _).2 (by omega))) (max i j) ((mem_idx3 _).2 (by omega))) (min k l) ((mem_idx3 _).2 (by omega)))
    (max k l) ((mem_idx3 _).2 (by omega))
  simp only [Bool.or_eq_true, decide_eq_true_eq] at q
  rcases q with (q | q) | q
  · omega
  · omega
  · exact q

/-! ### the two classmethods called directly -/

set_option maxHeartbeats 20000 in
theorem fs_direct (i j : Int) : srcFun "StrainRepresentation" "from_standard" [.int i, .int j] = callFS 2000 0 i j := by kernel_rfl
set_option maxHeartbeats 20000 in
theorem c4_direct (i j k l : Int) :
    srcFun "ModulusRepresentation" "from_standard" [.int i, .int j, .int k, .int l] = callC4 2000 0 i j k l := by kernel_rfl

end Cij.VoigtSrc
