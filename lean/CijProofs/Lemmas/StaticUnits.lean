/-
  C18 — the unit helpers of `cij/util/units.py` as the translator reads them on this run (`Generated.staticUnitHelpers`:
  `convert_unit(src, dst, value)` on the default pint registry): dimensions agree, `_from_gpa` undoes `_to_gpa`, `_to_kms` is the
  factor 1, `_to_gcm3` is `1/(N_A·a₀³[cm³])`.  pint's own table of unit values is outside: a unit is a symbol with an SI value
  given by a parameter `base` (the harness compares pint's factors with CODATA-2018 numbers on every run).
-/
import CijModel.StaticExpr
import Generated.StaticSpec
import Mathlib.Analysis.SpecialFunctions.Pow.Real
import Mathlib.Analysis.SpecialFunctions.Sqrt
import Mathlib.Tactic.Ring
import Mathlib.Tactic.FieldSimp
import Mathlib.Tactic.NormNum

namespace Cij.StaticSrc

def unitHelper? (n : String) : Option UnitHelper := Generated.staticUnitHelpers.find? fun h => h.name = n

/-- SI value of one unit of the expression, the named units valued by `base` -/
noncomputable def UExpr.val (base : String → ℝ) : UExpr → ℝ
  | .u n => base n
  | .mul a b => a.val base * b.val base
  | .div a b => a.val base / b.val base
  | .pow a n d => (a.val base) ^ ((n : ℝ) / (d : ℝ))

/-- `convert_unit(src, dst, 1)`: one `src` unit expressed in `dst` units -/
noncomputable def UnitHelper.factor (base : String → ℝ) (h : UnitHelper) : ℝ := h.src.val base / h.dst.val base

/-- physical dimension of a named unit as exponents of (length, mass, time, amount), in halves (so that `** (1/2)` stays
    integral); `none` for a name the table does not know -/
def dimOf : String → Option (Int × Int × Int × Int)
  | "bohr" | "angstrom" | "cm" | "km" | "m" => some (2, 0, 0, 0)
  | "g" | "kg" => some (0, 2, 0, 0)
  | "s" => some (0, 0, 2, 0)
  | "mol" | "particle" => some (0, 0, 0, 2)
  | "rydberg" | "eV" | "J" => some (4, 2, -4, 0)
  | "GPa" | "Pa" => some (-2, 2, -4, 0)
  | _ => none

/-- dimension of a unit expression; `none` for an unknown unit or an exponent that is not a whole number of halves -/
def UExpr.dim : UExpr → Option (Int × Int × Int × Int)
  | .u n => dimOf n
  | .mul a b => do
      let (l, m, t, k) ← a.dim
      let (l', m', t', k') ← b.dim
      pure (l + l', m + m', t + t', k + k')
  | .div a b => do
      let (l, m, t, k) ← a.dim
      let (l', m', t', k') ← b.dim
      pure (l - l', m - m', t - t', k - k')
  | .pow a n d => do
      let (l, m, t, k) ← a.dim
      if d = 0 ∨ (l * n) % d ≠ 0 ∨ (m * n) % d ≠ 0 ∨ (t * n) % d ≠ 0 ∨ (k * n) % d ≠ 0 then none
      else pure (l * n / d, m * n / d, t * n / d, k * n / d)

/-- the seven helpers static.py imports exist, and each converts between units of the same dimension -/
theorem unit_helpers_dimensions :
    Generated.staticUnitHelpers.map (·.name)
      = ["_to_gpa", "_from_gpa", "_to_ang3", "_from_ang3", "_to_gcm3", "_to_ev", "_to_kms"] ∧
    ∀ h ∈ Generated.staticUnitHelpers, h.src.dim.isSome ∧ h.src.dim = h.dst.dim := by
  decide +kernel

/-- `_from_gpa` is `_to_gpa` with source and target exchanged (same for the volume pair) -/
theorem unit_pairs_are_inverse_spec :
    (do let a ← unitHelper? "_to_gpa"; let b ← unitHelper? "_from_gpa"; pure (a.src = b.dst ∧ a.dst = b.src)) = some True ∧
    (do let a ← unitHelper? "_to_ang3"; let b ← unitHelper? "_from_ang3"; pure (a.src = b.dst ∧ a.dst = b.src)) = some True := by
  simp [unitHelper?, Generated.staticUnitHelpers]

theorem gpa_factors_inverse (base : String → ℝ) (a b : UnitHelper) (ha : unitHelper? "_to_gpa" = some a)
    (hb : unitHelper? "_from_gpa" = some b) (h1 : a.src.val base ≠ 0) (h2 : a.dst.val base ≠ 0) :
    b.factor base * a.factor base = 1 := by
  have e : a.src = b.dst ∧ a.dst = b.src := by
    simp only [unitHelper?, Generated.staticUnitHelpers, List.find?, String.reduceEq, decide_true, decide_false,
      Option.some.injEq] at ha hb
    subst ha hb
    exact ⟨rfl, rfl⟩
  unfold UnitHelper.factor
  rw [← e.1, ← e.2]
  field_simp

/-- coherent SI values of the units `_to_kms` mentions (Pa, kg, m, s = 1) -/
noncomputable def siBase : String → ℝ
  | "GPa" => 10 ^ 9
  | "g" => 1 / 10 ^ 3
  | "cm" => 1 / 10 ^ 2
  | "km" => 10 ^ 3
  | "s" => 1
  | _ => 1

/-- `_to_kms` = `sqrt(GPa / (g/cm³))` in km/s is the factor 1 exactly -/
theorem kms_factor_is_one (h : UnitHelper) (hh : unitHelper? "_to_kms" = some h) : h.factor siBase = 1 := by
  simp only [unitHelper?, Generated.staticUnitHelpers, List.find?, String.reduceEq, decide_true, decide_false,
    Option.some.injEq] at hh
  subst hh
  simp only [UnitHelper.factor, UExpr.val, siBase]
  have e : ((10 : ℝ) ^ 9 / (1 / 10 ^ 3 / (1 / 10 ^ 2) ^ (((3 : ℕ) : ℝ) / ((1 : ℕ) : ℝ)))) = (10 ^ 3) ^ 2 := by
    rw [Nat.cast_one, div_one, Real.rpow_natCast]
    norm_num
  rw [e, Nat.cast_one, Nat.cast_ofNat, ← Real.sqrt_eq_rpow, Real.sqrt_sq (by positivity)]
  norm_num

/-- `_to_gcm3`: with `mol = N_A particles`, one (g/mol)/(bohr³/particle) is `1 / (N_A · (a₀/cm)³)` g/cm³ -/
theorem gcm3_factor_is_source (base : String → ℝ) (h : UnitHelper) (hh : unitHelper? "_to_gcm3" = some h) (NA : ℝ)
    (hmol : base "mol" = NA * base "particle") (hg : base "g" ≠ 0) (hp : base "particle" ≠ 0) (hN : NA ≠ 0)
    (hb : base "bohr" ≠ 0) (hc : base "cm" ≠ 0) :
    h.factor base = 1 / (NA * (base "bohr" / base "cm") ^ 3) := by
  simp only [unitHelper?, Generated.staticUnitHelpers, List.find?, String.reduceEq, decide_true, decide_false,
    Option.some.injEq] at hh
  subst hh
  simp only [UnitHelper.factor, UExpr.val, hmol, Nat.cast_one, div_one, Nat.cast_ofNat]
  rw [show ((3 : ℝ)) = ((3 : ℕ) : ℝ) by norm_num, Real.rpow_natCast, Real.rpow_natCast]
  field_simp

end Cij.StaticSrc
