/-
  The eigenvector tools of `CijModel/Evec.lean`: the greedy loop of `evec_sort` under row dominance (`Planted`); row dominance for a
  permuted, re-phased, perturbed orthonormal basis; the algebra of `evec_disp2eig` over ℝ-pairs (`HasSqrt ℝ := Real.sqrt` is declared
  here); block structure and column slices of `evec_load`.
-/
import CijModel.Evec
import Mathlib.Data.Finset.Card
import Mathlib.Data.Finset.Image
import Mathlib.Order.Defs.LinearOrder
import Mathlib.Data.List.Perm.Basic
import Mathlib.Data.List.Range
import Mathlib.Data.Finset.Range
import Mathlib.Analysis.InnerProductSpace.Basic
import Mathlib.Tactic.Linarith
import Mathlib.Tactic.Ring
import Mathlib.Tactic.FieldSimp

set_option linter.unusedSectionVars false

namespace Cij.Evec

section run
variable {α : Type} [LT α] [DecidableRel (fun a b : α => a < b)] [OfNat α 0] {ι : Type}

theorem greedyLoop_eq_assign (n : Nat) (target : Nat → ι) (k : Nat) (a : Nat → Nat → α) (s : Nat → Option ι) :
    greedyLoop n target k a s = assign target (greedyPairs n k a) s := by
  induction k generalizing a s with
  | zero => rfl
  | succ k ih => simp only [greedyLoop, greedyPairs, assign, List.foldl_cons]; rw [ih]; rfl

theorem evecSortRun_eq (n : Nat) (a : Nat → Nat → α) (target : Nat → ι) :
    evecSortRun n a target = (List.range n).map (evecSortMag n a target) := by
  unfold evecSortRun evecSortMag
  rw [greedyLoop_eq_assign]

end run

section greedy
variable {α : Type} [LinearOrder α] [Zero α] {ι : Type}

theorem mem_pairs (n : Nat) (p : Nat × Nat) : p ∈ pairs n ↔ p.1 < n ∧ p.2 < n := by
  obtain ⟨i, j⟩ := p
  simp only [pairs, List.mem_flatMap, List.mem_range, List.mem_map, Prod.mk.injEq]
  constructor
  · rintro ⟨a, ha, b, hb, rfl, rfl⟩; exact ⟨ha, hb⟩
  · rintro ⟨hi, hj⟩; exact ⟨i, hi, j, hj, rfl, rfl⟩

/-- the fold of `argmax2` -/
theorem foldl_argmax (a : Nat → Nat → α) (L : List (Nat × Nat)) (b0 : Nat × Nat) :
    let r := L.foldl (fun best p => if a best.1 best.2 < a p.1 p.2 then p else best) b0
    (r = b0 ∨ r ∈ L) ∧ a b0.1 b0.2 ≤ a r.1 r.2 ∧ ∀ p ∈ L, a p.1 p.2 ≤ a r.1 r.2 := by
  induction L generalizing b0 with
  | nil => simp
  | cons q L ih =>
    simp only [List.foldl_cons]
    by_cases h : a b0.1 b0.2 < a q.1 q.2
    · rw [if_pos h]
      obtain ⟨h1, h2, h3⟩ := ih q
      refine ⟨?_, le_trans (le_of_lt h) h2, ?_⟩
      · rcases h1 with h1 | h1
        · right; rw [h1]; simp
        · right; simp [h1]
      · intro p hp
        rcases List.mem_cons.mp hp with rfl | hp
        · exact h2
        · exact h3 p hp
    · rw [if_neg h]
      obtain ⟨h1, h2, h3⟩ := ih b0
      refine ⟨?_, h2, ?_⟩
      · rcases h1 with h1 | h1
        · left; exact h1
        · right; simp [h1]
      · intro p hp
        rcases List.mem_cons.mp hp with rfl | hp
        · exact le_trans (not_lt.mp h) h2
        · exact h3 p hp

theorem argmax2_spec (n : Nat) (hn : 0 < n) (a : Nat → Nat → α) :
    (argmax2 n a).1 < n ∧ (argmax2 n a).2 < n ∧ ∀ i < n, ∀ j < n, a i j ≤ a (argmax2 n a).1 (argmax2 n a).2 := by
  obtain ⟨h1, _, h3⟩ := foldl_argmax a (pairs n) (0, 0)
  have hmem : argmax2 n a ∈ pairs n := by
    rcases h1 with h1 | h1
    · unfold argmax2; rw [h1]; exact (mem_pairs n (0, 0)).2 ⟨hn, hn⟩
    · exact h1
  have := (mem_pairs n _).1 hmem
  exact ⟨this.1, this.2, fun i hi j hj => h3 (i, j) ((mem_pairs n (i, j)).2 ⟨hi, hj⟩)⟩

/-- the matrix after the rows `E` and their planted columns `π(E)` have been zeroed -/
def elim (a : Nat → Nat → α) (π : Nat → Nat) (E : Finset Nat) : Nat → Nat → α :=
  fun i j => if i ∈ E ∨ ∃ r ∈ E, j = π r then 0 else a i j

theorem elim_empty (a : Nat → Nat → α) (π : Nat → Nat) : elim a π ∅ = a := by
  funext i j; simp [elim]

theorem zeroRC_elim (a : Nat → Nat → α) (π : Nat → Nat) (E : Finset Nat) (r : Nat) :
    zeroRC (elim a π E) r (π r) = elim a π (insert r E) := by
  funext i j
  simp only [zeroRC, elim, Finset.mem_insert]
  by_cases h1 : i = r
  · simp [h1]
  · by_cases h2 : j = π r
    · simp [h2]
    · by_cases h3 : i ∈ E
      · simp [h3]
      · by_cases h4 : ∃ r' ∈ E, j = π r'
        · have : ∃ r_1, (r_1 = r ∨ r_1 ∈ E) ∧ j = π r_1 := by
            obtain ⟨r', hr', hj⟩ := h4; exact ⟨r', Or.inr hr', hj⟩
          simp [h1, h2, h3, h4, this]
        · have : ¬ ∃ r_1, (r_1 = r ∨ r_1 ∈ E) ∧ j = π r_1 := by
            rintro ⟨r', hr' | hr', hj⟩
            · exact h2 (hr' ▸ hj)
            · exact h4 ⟨r', hr', hj⟩
          simp [h1, h2, h3, h4, this]

/-- the dominance hypothesis: `π` permutes the indices below `n`, every planted entry is positive and strictly
larger than every other entry of its row -/
structure Planted (n : Nat) (a : Nat → Nat → α) (π : Nat → Nat) : Prop where
  range : ∀ i < n, π i < n
  inj : ∀ i < n, ∀ j < n, π i = π j → i = j
  pos : ∀ i < n, 0 < a i (π i)
  row : ∀ i < n, ∀ j < n, j ≠ π i → a i j < a i (π i)

/-- one round: while a row is left, the global argmax of the partly zeroed matrix is a planted pair of a row not
yet eliminated -/
theorem argmax_elim (n : Nat) (a : Nat → Nat → α) (π : Nat → Nat) (hP : Planted n a π) (E : Finset Nat)
    (hEn : ∀ r ∈ E, r < n) (i0 : Nat) (hi0 : i0 < n) (hi0E : i0 ∉ E) :
    (argmax2 n (elim a π E)).1 < n ∧ (argmax2 n (elim a π E)).1 ∉ E ∧
      (argmax2 n (elim a π E)).2 = π (argmax2 n (elim a π E)).1 := by
  obtain ⟨hr, hc, hmax⟩ := argmax2_spec n (lt_of_le_of_lt (Nat.zero_le _) hi0) (elim a π E)
  generalize argmax2 n (elim a π E) = p at hr hc hmax
  obtain ⟨r, c⟩ := p
  simp only at hr hc hmax ⊢
  -- a planted entry of a remaining row survives in the zeroed matrix
  have surv : ∀ i < n, i ∉ E → elim a π E i (π i) = a i (π i) := by
    intro i hi hiE
    have : ¬ ∃ r ∈ E, π i = π r := by
      rintro ⟨r', hrE, h⟩
      exact hiE (hP.inj i hi r' (hEn r' hrE) h ▸ hrE)
    simp [elim, hiE, this]
  -- the maximum is positive, hence not a zeroed entry
  have hpos : 0 < elim a π E r c := by
    have h1 := hmax i0 hi0 (π i0) (hP.range i0 hi0)
    rw [surv i0 hi0 hi0E] at h1
    exact lt_of_lt_of_le (hP.pos i0 hi0) h1
  have hnz : ¬ (r ∈ E ∨ ∃ r' ∈ E, c = π r') := by
    intro h
    simp [elim, h] at hpos
  have hrE : r ∉ E := fun h => hnz (Or.inl h)
  have hval : elim a π E r c = a r c := by simp [elim, hnz]
  refine ⟨hr, hrE, ?_⟩
  by_contra hne
  have h1 := hmax r hr (π r) (hP.range r hr)
  rw [surv r hr hrE, hval] at h1
  exact absurd (hP.row r hr c hc hne) (not_lt.mpr h1)

/-- the loop invariant: after the rows `E` are done, `k = n - |E|` further rounds assign every remaining row its
planted item and leave the rows of `E` (and everything beyond `n`) untouched -/
theorem greedyLoop_elim (n : Nat) (a : Nat → Nat → α) (π : Nat → Nat) (hP : Planted n a π) (target : Nat → ι) :
    ∀ (k : Nat) (E : Finset Nat) (s : Nat → Option ι), (∀ r ∈ E, r < n) → E.card + k = n →
      (∀ i < n, i ∉ E → greedyLoop n target k (elim a π E) s i = some (target (π i))) ∧
      (∀ i, (i ∈ E ∨ n ≤ i) → greedyLoop n target k (elim a π E) s i = s i) := by
  intro k
  induction k with
  | zero =>
    intro E s hEn hcard
    have hE : E = Finset.range n := by
      apply Finset.eq_of_subset_of_card_le
      · intro r hr; exact Finset.mem_range.mpr (hEn r hr)
      · simp at hcard; simp [hcard]
    refine ⟨?_, fun i _ => rfl⟩
    intro i hi hiE
    exact absurd (hE ▸ Finset.mem_range.mpr hi) hiE
  | succ k ih =>
    intro E s hEn hcard
    have hlt : E.card < (Finset.range n).card := by simp; omega
    obtain ⟨i0, hi0, hi0E⟩ : ∃ i0, i0 < n ∧ i0 ∉ E := by
      by_contra hcon
      push Not at hcon
      have : Finset.range n ⊆ E := fun i hi => hcon i (Finset.mem_range.mp hi)
      exact absurd (Finset.card_le_card this) (not_le.mpr hlt)
    obtain ⟨hr, hrE, hc⟩ := argmax_elim n a π hP E hEn i0 hi0 hi0E
    simp only [greedyLoop]
    rw [hc, zeroRC_elim]
    have hEn' : ∀ r' ∈ insert (argmax2 n (elim a π E)).1 E, r' < n := by
      intro r' hr'
      rcases Finset.mem_insert.mp hr' with rfl | h
      · exact hr
      · exact hEn r' h
    have hcard' : (insert (argmax2 n (elim a π E)).1 E).card + k = n := by
      rw [Finset.card_insert_of_notMem hrE]; omega
    obtain ⟨ih1, ih2⟩ := ih (insert (argmax2 n (elim a π E)).1 E)
      (setAt s (argmax2 n (elim a π E)).1 (target (π (argmax2 n (elim a π E)).1))) hEn' hcard'
    refine ⟨?_, ?_⟩
    · intro i hi hiE
      by_cases hir : i = (argmax2 n (elim a π E)).1
      · rw [ih2 i (Or.inl (by rw [hir]; exact Finset.mem_insert_self _ _))]
        simp [setAt, hir]
      · exact ih1 i hi (by simp [hir, hiE])
    · intro i hi
      have hne : i ≠ (argmax2 n (elim a π E)).1 := by
        rcases hi with hi | hi
        · exact fun h => hrE (h ▸ hi)
        · exact fun h => absurd (h ▸ hr) (not_lt.mpr hi)
      rw [ih2 i (by rcases hi with hi | hi; exact Or.inl (Finset.mem_insert_of_mem hi); exact Or.inr hi)]
      simp [setAt, hne]

theorem evecSortMag_planted (n : Nat) (a : Nat → Nat → α) (π : Nat → Nat) (hP : Planted n a π) (target : Nat → ι) :
    ∀ i < n, evecSortMag n a target i = some (target (π i)) := by
  intro i hi
  have h := (greedyLoop_elim n a π hP target n ∅ (fun _ => none) (by simp) (by simp)).1 i hi (by simp)
  rwa [elim_empty] at h

end greedy

/-! ### the dominance hypothesis from orthonormality: permuted, re-phased, slightly perturbed copy -/

section margin
variable {𝕜 E : Type*} [RCLike 𝕜] [NormedAddCommGroup E] [InnerProductSpace 𝕜 E]

/-- overlaps of an orthonormal family `b` with `t j = c j • b (σ j) + δ j`, `‖c j‖ = 1`, `‖δ j‖ ≤ ε`:
the planted one is ≥ 1 - ε, every other one ≤ ε -/
theorem overlap_bounds (n : ℕ) (b t δ : ℕ → E) (c : ℕ → 𝕜) (σ : ℕ → ℕ) (ε : ℝ)
    (hnorm : ∀ i < n, ‖b i‖ = 1) (horth : ∀ i < n, ∀ k < n, i ≠ k → inner 𝕜 (b i) (b k) = 0)
    (hc : ∀ j < n, ‖c j‖ = 1) (ht : ∀ j < n, t j = c j • b (σ j) + δ j) (hδ : ∀ j < n, ‖δ j‖ ≤ ε)
    (hσ : ∀ j < n, σ j < n) (i j : ℕ) (hi : i < n) (hj : j < n) :
    (σ j = i → 1 - ε ≤ ‖inner 𝕜 (b i) (t j)‖) ∧ (σ j ≠ i → ‖inner 𝕜 (b i) (t j)‖ ≤ ε) := by
  have he : ‖inner 𝕜 (b i) (δ j)‖ ≤ ε := by
    calc ‖inner 𝕜 (b i) (δ j)‖ ≤ ‖b i‖ * ‖δ j‖ := norm_inner_le_norm _ _
      _ = ‖δ j‖ := by rw [hnorm i hi, one_mul]
      _ ≤ ε := hδ j hj
  rw [ht j hj, inner_add_right, inner_smul_right]
  constructor
  · intro h
    have h1 : inner 𝕜 (b i) (b (σ j)) = 1 := by
      rw [h, inner_self_eq_norm_sq_to_K, hnorm i hi]; simp
    rw [h1, mul_one]
    have := norm_sub_le (c j + inner 𝕜 (b i) (δ j)) (inner 𝕜 (b i) (δ j))
    rw [add_sub_cancel_right, hc j hj] at this
    linarith
  · intro h
    rw [horth i hi (σ j) (hσ j hj) (Ne.symm h), mul_zero, zero_add]
    exact he

/-- … hence the matrix of overlap magnitudes satisfies the dominance hypothesis when ε < 1/2
(margin between a planted entry and any other entry of its row or column: ≥ 1 - 2ε) -/
theorem planted_of_perturbed (n : ℕ) (b t δ : ℕ → E) (c : ℕ → 𝕜) (σ π : ℕ → ℕ) (ε : ℝ)
    (hnorm : ∀ i < n, ‖b i‖ = 1) (horth : ∀ i < n, ∀ k < n, i ≠ k → inner 𝕜 (b i) (b k) = 0)
    (hc : ∀ j < n, ‖c j‖ = 1) (ht : ∀ j < n, t j = c j • b (σ j) + δ j) (hδ : ∀ j < n, ‖δ j‖ ≤ ε) (hε : ε < 1 / 2)
    (hσ : ∀ j < n, σ j < n) (hπ : ∀ i < n, π i < n) (hσπ : ∀ i < n, σ (π i) = i) (hπσ : ∀ j < n, π (σ j) = j) :
    Planted n (fun i j => ‖inner 𝕜 (b i) (t j)‖) π := by
  have hb := overlap_bounds n b t δ c σ ε hnorm horth hc ht hδ hσ
  refine ⟨hπ, ?_, ?_, ?_⟩
  · intro i hi j hj h
    rw [← hσπ i hi, ← hσπ j hj, h]
  · intro i hi
    have := (hb i (π i) hi (hπ i hi)).1 (hσπ i hi)
    linarith
  · intro i hi j hj hne
    have h1 := (hb i (π i) hi (hπ i hi)).1 (hσπ i hi)
    have h2 := (hb i j hi hj).2 (fun h => hne (by rw [← h, hπσ j hj]))
    linarith

end margin

/-! ### disp2eig over ℝ-pairs -/

noncomputable instance : HasSqrt ℝ := ⟨Real.sqrt⟩

theorem sqrt_real (x : ℝ) : HasSqrt.sqrt x = Real.sqrt x := rfl

section disp

theorem cx_ext {x y : Cx ℝ} (h1 : x.re = y.re) (h2 : x.im = y.im) : x = y := by
  cases x; cases y; simp_all

/-- Σ |z_k|² -/
def sumNormSq (l : List (Cx ℝ)) : ℝ := (l.map Cx.normSq).sum

@[simp] theorem sumNormSq_nil : sumNormSq [] = 0 := rfl

theorem sumNormSq_cons (z : Cx ℝ) (l : List (Cx ℝ)) : sumNormSq (z :: l) = Cx.normSq z + sumNormSq l := by
  simp [sumNormSq]

theorem normSq_nonneg (z : Cx ℝ) : 0 ≤ Cx.normSq z := by
  unfold Cx.normSq; nlinarith [mul_self_nonneg z.re, mul_self_nonneg z.im]

theorem sumNormSq_nonneg (l : List (Cx ℝ)) : 0 ≤ sumNormSq l := by
  induction l with
  | nil => simp
  | cons z l ih => rw [sumNormSq_cons]; linarith [normSq_nonneg z]

theorem foldl_normSq (l : List (Cx ℝ)) (acc : ℝ) :
    l.foldl (fun acc z => acc + Cx.normSq z) acc = acc + sumNormSq l := by
  induction l generalizing acc with
  | nil => simp
  | cons z l ih => rw [List.foldl_cons, ih, sumNormSq_cons]; ring

theorem normSq_divReal (z : Cx ℝ) (s : ℝ) : Cx.normSq (Cx.divReal z s) = Cx.normSq z / s ^ 2 := by
  simp only [Cx.normSq, Cx.divReal]
  rw [div_mul_div_comm, div_mul_div_comm, ← add_div, sq]

theorem sumNormSq_divReal (l : List (Cx ℝ)) (s : ℝ) :
    sumNormSq (l.map fun z => Cx.divReal z s) = sumNormSq l / s ^ 2 := by
  induction l with
  | nil => simp
  | cons z l ih => rw [List.map_cons, sumNormSq_cons, sumNormSq_cons, ih, normSq_divReal, add_div]

/-- the rows of `a *= sqrt(m)` -/
noncomputable def scaledRow (m3 : List ℝ) (row : List (Cx ℝ)) : List (Cx ℝ) :=
  List.zipWith (fun z m => Cx.smul (Real.sqrt m) z) row m3

theorem disp2eigRow_eq (m3 : List ℝ) (row : List (Cx ℝ)) :
    disp2eigRow m3 row = (scaledRow m3 row).map fun z => Cx.divReal z (Real.sqrt (sumNormSq (scaledRow m3 row))) := by
  unfold disp2eigRow scaledRow
  simp only [foldl_normSq, zero_add, sqrt_real]

theorem disp2eigRow_unit (m3 : List ℝ) (row : List (Cx ℝ)) (hN : 0 < sumNormSq (scaledRow m3 row)) :
    sumNormSq (disp2eigRow m3 row) = 1 := by
  rw [disp2eigRow_eq, sumNormSq_divReal, Real.sq_sqrt (le_of_lt hN)]
  exact div_self (ne_of_gt hN)

theorem normSq_smul_sqrt (m : ℝ) (hm : 0 ≤ m) (z : Cx ℝ) : Cx.normSq (Cx.smul (Real.sqrt m) z) = m * Cx.normSq z := by
  simp only [Cx.normSq, Cx.smul]
  calc _ = (Real.sqrt m * Real.sqrt m) * (z.re * z.re + z.im * z.im) := by ring
    _ = _ := by rw [Real.mul_self_sqrt hm]

theorem sumNormSq_scaled_pos (m3 : List ℝ) (row : List (Cx ℝ)) (hm : ∀ m ∈ m3, 0 < m) (hlen : row.length ≤ m3.length)
    (hz : ∃ z ∈ row, 0 < Cx.normSq z) : 0 < sumNormSq (scaledRow m3 row) := by
  induction row generalizing m3 with
  | nil => simp at hz
  | cons z row ih =>
    cases m3 with
    | nil => simp at hlen
    | cons m m3 =>
      have hmpos : 0 < m := hm m (by simp)
      have hrest : 0 ≤ sumNormSq (scaledRow m3 row) := sumNormSq_nonneg _
      have hfirst := normSq_smul_sqrt m (le_of_lt hmpos) z
      have hsplit : sumNormSq (scaledRow (m :: m3) (z :: row)) = m * Cx.normSq z + sumNormSq (scaledRow m3 row) := by
        rw [scaledRow, List.zipWith_cons_cons, sumNormSq_cons, hfirst]; rfl
      rw [hsplit]
      obtain ⟨w, hw, hwpos⟩ := hz
      rcases List.mem_cons.mp hw with rfl | hw
      · have : 0 < m * Cx.normSq w := mul_pos hmpos hwpos
        linarith
      · have h1 := ih m3 (fun m' h => hm m' (by simp [h])) (by simpa using hlen) ⟨w, hw, hwpos⟩
        have : 0 ≤ m * Cx.normSq z := mul_nonneg (le_of_lt hmpos) (normSq_nonneg z)
        linarith

theorem mem_repeat3 {ρ : Type} (mass : List ρ) (m : ρ) (h : m ∈ repeat3 mass) : m ∈ mass := by
  simp only [repeat3, List.mem_flatMap] at h
  obtain ⟨x, hx, hm⟩ := h
  simp at hm
  rw [hm]; exact hx

theorem length_repeat3 {ρ : Type} (mass : List ρ) : (repeat3 mass).length = 3 * mass.length := by
  induction mass with
  | nil => rfl
  | cons x l ih => simp only [repeat3, List.flatMap_cons, List.length_append, List.length_cons, List.length_nil] at ih ⊢; omega

/-! #### complex algebra on pairs -/

theorem mul_zero_cx (w : Cx ℝ) : Cx.mul w Cx.zero = Cx.zero := by
  apply cx_ext <;> simp [Cx.mul, Cx.zero]

theorem overlap_scaled (u v : Cx ℝ) (x y : List (Cx ℝ)) :
    overlap (x.map (Cx.mul u)) (y.map (Cx.mul v)) = Cx.mul (Cx.mul (Cx.conj u) v) (overlap x y) := by
  unfold overlap
  have key : ∀ (l : List (Cx ℝ × Cx ℝ)) (acc : Cx ℝ),
      (l.map fun p => (Cx.mul u p.1, Cx.mul v p.2)).foldl (fun acc p => Cx.add acc (Cx.mul (Cx.conj p.1) p.2))
          (Cx.mul (Cx.mul (Cx.conj u) v) acc)
        = Cx.mul (Cx.mul (Cx.conj u) v) (l.foldl (fun acc p => Cx.add acc (Cx.mul (Cx.conj p.1) p.2)) acc) := by
    intro l
    induction l with
    | nil => intro acc; rfl
    | cons p l ih =>
      intro acc
      simp only [List.map_cons, List.foldl_cons]
      rw [← ih]
      congr 1
      apply cx_ext <;> simp [Cx.mul, Cx.add, Cx.conj] <;> ring
  have hz : List.zip (x.map (Cx.mul u)) (y.map (Cx.mul v)) = (x.zip y).map fun p => (Cx.mul u p.1, Cx.mul v p.2) := by
    rw [List.zip_map]; rfl
  rw [hz, ← mul_zero_cx (Cx.mul (Cx.conj u) v), key]
  rw [mul_zero_cx]

theorem overlap_self (x : List (Cx ℝ)) : overlap x x = ⟨sumNormSq x, 0⟩ := by
  unfold overlap
  have key : ∀ (l : List (Cx ℝ)) (acc : Cx ℝ),
      (l.zip l).foldl (fun acc p => Cx.add acc (Cx.mul (Cx.conj p.1) p.2)) acc = ⟨acc.re + sumNormSq l, acc.im⟩ := by
    intro l
    induction l with
    | nil => intro acc; simp [sumNormSq]
    | cons z l ih =>
      intro acc
      simp only [List.zip_cons_cons, List.foldl_cons, ih]
      apply cx_ext <;> simp [Cx.mul, Cx.add, Cx.conj, sumNormSq, Cx.normSq] <;> ring
  rw [key]
  simp [Cx.zero]

/-- the displacement row `c · M^{-1/2} e`: component k of `c e` divided by sqrt(m_k) -/
noncomputable def displace (m3 : List ℝ) (c : Cx ℝ) (e : List (Cx ℝ)) : List (Cx ℝ) :=
  List.zipWith (fun z m => Cx.smul (1 / Real.sqrt m) (Cx.mul c z)) e m3

/-- the phase `c / |c|` -/
noncomputable def unitOf (c : Cx ℝ) : Cx ℝ := Cx.divReal c (Cx.abs c)

theorem scaledRow_displace (m3 : List ℝ) (hm : ∀ m ∈ m3, 0 < m) (c : Cx ℝ) (e : List (Cx ℝ)) (hlen : e.length ≤ m3.length) :
    scaledRow m3 (displace m3 c e) = e.map (Cx.mul c) := by
  induction e generalizing m3 with
  | nil => simp [scaledRow, displace]
  | cons z e ih =>
    cases m3 with
    | nil => simp at hlen
    | cons m m3 =>
      have hmpos : 0 < m := hm m (by simp)
      have hs : Real.sqrt m ≠ 0 := ne_of_gt (Real.sqrt_pos.mpr hmpos)
      have ih' := ih m3 (fun m' h => hm m' (by simp [h])) (by simpa using hlen)
      simp only [scaledRow, displace, List.zipWith_cons_cons, List.map_cons] at ih' ⊢
      rw [ih']
      congr 1
      apply cx_ext <;> simp only [Cx.smul] <;> field_simp

theorem length_displace (m3 : List ℝ) (c : Cx ℝ) (e : List (Cx ℝ)) (hlen : e.length = m3.length) :
    (displace m3 c e).length = m3.length := by
  simp [displace, hlen]

theorem zipWith_displace_props (m3 : List ℝ) (cs : List (Cx ℝ)) (es : List (List (Cx ℝ)))
    (hlen : cs.length = es.length) (hdim : ∀ e ∈ es, e.length = m3.length) :
    (List.zipWith (displace m3) cs es).length = es.length ∧
      ∀ r ∈ List.zipWith (displace m3) cs es, r.length = m3.length := by
  induction cs generalizing es with
  | nil => cases es with
    | nil => simp
    | cons e es => simp at hlen
  | cons c cs ih =>
    cases es with
    | nil => simp at hlen
    | cons e es =>
      obtain ⟨h1, h2⟩ := ih es (by simpa using hlen) (fun e' h => hdim e' (by simp [h]))
      refine ⟨by simp [h1], ?_⟩
      intro r hr
      simp only [List.zipWith_cons_cons, List.mem_cons] at hr
      rcases hr with rfl | hr
      · exact length_displace m3 c e (hdim e (by simp))
      · exact h2 r hr

theorem normSq_mul (c z : Cx ℝ) : Cx.normSq (Cx.mul c z) = Cx.normSq c * Cx.normSq z := by
  simp only [Cx.normSq, Cx.mul]; ring

theorem sumNormSq_map_mul (c : Cx ℝ) (e : List (Cx ℝ)) : sumNormSq (e.map (Cx.mul c)) = Cx.normSq c * sumNormSq e := by
  induction e with
  | nil => simp
  | cons z e ih => rw [List.map_cons, sumNormSq_cons, sumNormSq_cons, ih, normSq_mul]; ring

theorem normSq_unitOf (c : Cx ℝ) (hc : 0 < Cx.normSq c) : Cx.normSq (unitOf c) = 1 := by
  rw [unitOf, normSq_divReal, Cx.abs, sqrt_real, Real.sq_sqrt hc.le, div_self hc.ne']

/-- a unit row scaled by `c ≠ 0` and by `M^{-1/2}` comes back as the row times the phase of `c` -/
theorem disp2eigRow_displace (m3 : List ℝ) (hm : ∀ m ∈ m3, 0 < m) (c : Cx ℝ)
    (e : List (Cx ℝ)) (hlen : e.length ≤ m3.length) (hunit : sumNormSq e = 1) :
    disp2eigRow m3 (displace m3 c e) = e.map (Cx.mul (unitOf c)) := by
  rw [disp2eigRow_eq, scaledRow_displace m3 hm c e hlen, sumNormSq_map_mul, hunit, mul_one, List.map_map]
  apply List.map_congr_left
  intro z _
  apply cx_ext <;> simp only [Function.comp, unitOf, Cx.abs, sqrt_real, Cx.divReal, Cx.mul] <;> ring

theorem conj_mul_self (u : Cx ℝ) : Cx.mul (Cx.conj u) u = ⟨Cx.normSq u, 0⟩ := by
  apply cx_ext <;> simp [Cx.mul, Cx.conj, Cx.normSq]
  ring

theorem disp2eig_some (a : List (List (Cx ℝ))) (mass : List ℝ) (hne : a ≠ [])
    (hdim : ∀ r ∈ a, r.length = 3 * mass.length) :
    disp2eig a mass = some (a.map (disp2eigRow (repeat3 mass))) := by
  unfold disp2eig
  have h1 : a.isEmpty = false := by cases a with
    | nil => exact absurd rfl hne
    | cons _ _ => rfl
  have h2 : a.all (fun r => r.length == 3 * mass.length) = true := by
    rw [List.all_eq_true]; intro r hr; simpa using hdim r hr
  simp [h1, h2]

end disp

/-! ### loader: block structure and column slices -/

section load
variable {Num : Type}

/-- one mode as it stands in the file: the `freq` line with what it denotes, the vector lines with what they denote -/
structure ModeBlock (Num : Type) where
  freqLine : List Char
  head : Nat × Num × Num
  vecLines : List (List Char × List (Num × Num))

def ModeBlock.lines (m : ModeBlock Num) : List (List Char) := m.freqLine :: m.vecLines.map Prod.fst
def ModeBlock.value (m : ModeBlock Num) : (Nat × Num × Num) × List (Num × Num) := (m.head, m.vecLines.flatMap Prod.snd)
def ModeBlock.ok (R : LineReaders Num) (np : Nat) (m : ModeBlock Num) : Prop :=
  R.readFreq (strip m.freqLine) = some m.head ∧ (∀ lv ∈ m.vecLines, R.readVec lv.1 = some lv.2) ∧
    m.vecLines.length = np / 3

/-- one q-point block: two lines that are skipped, the q line, a separator, the modes, a closing separator -/
structure QBlock (Num : Type) where
  h1 : List Char
  h2 : List Char
  qLine : List Char
  sep1 : List Char
  sep2 : List Char
  q : List Num
  modes : List (ModeBlock Num)

def QBlock.lines (b : QBlock Num) : List (List Char) :=
  [b.h1, b.h2, b.qLine, b.sep1] ++ b.modes.flatMap ModeBlock.lines ++ [b.sep2]
def QBlock.value (b : QBlock Num) : List Num × List ((Nat × Num × Num) × List (Num × Num)) :=
  (b.q, b.modes.map ModeBlock.value)
def QBlock.ok (R : LineReaders Num) (np : Nat) (b : QBlock Num) : Prop :=
  R.readQ (strip b.qLine) = some b.q ∧ b.modes.length = np ∧ ∀ m ∈ b.modes, m.ok R np

theorem readVecs_block (R : LineReaders Num) (vl : List (List Char × List (Num × Num)))
    (h : ∀ lv ∈ vl, R.readVec lv.1 = some lv.2) (rest : List (List Char)) :
    readVecs R vl.length (vl.map Prod.fst ++ rest) = some (vl.flatMap Prod.snd, rest) := by
  induction vl with
  | nil => simp [readVecs]
  | cons lv vl ih =>
    have ih' := ih (fun lv' h' => h lv' (by simp [h']))
    simp [readVecs, h lv (by simp), ih']

theorem readModes_block (R : LineReaders Num) (np : Nat) (ms : List (ModeBlock Num)) (h : ∀ m ∈ ms, m.ok R np)
    (rest : List (List Char)) :
    readModes R np ms.length (ms.flatMap ModeBlock.lines ++ rest) = some (ms.map ModeBlock.value, rest) := by
  induction ms with
  | nil => simp [readModes]
  | cons m ms ih =>
    have ih' := ih (fun m' h' => h m' (by simp [h']))
    obtain ⟨h1, h2, h3⟩ := h m (by simp)
    have hv := readVecs_block R m.vecLines h2 (ms.flatMap ModeBlock.lines ++ rest)
    rw [h3] at hv
    simp only [List.flatMap_cons, ModeBlock.lines, List.cons_append, List.append_assoc, List.length_cons, readModes]
    simp [h1, hv, ih', ModeBlock.value]

theorem readQPoints_blocks (R : LineReaders Num) (np : Nat) (bs : List (QBlock Num)) (h : ∀ b ∈ bs, b.ok R np)
    (rest : List (List Char)) :
    readQPoints R np bs.length (bs.flatMap QBlock.lines ++ rest) = some (bs.map QBlock.value) := by
  induction bs with
  | nil => simp [readQPoints]
  | cons b bs ih =>
    have ih' := ih (fun b' h' => h b' (by simp [h']))
    obtain ⟨h1, h2, h3⟩ := h b (by simp)
    have hm := readModes_block R np b.modes h3 (b.sep2 :: (bs.flatMap QBlock.lines ++ rest))
    rw [h2] at hm
    simp only [List.flatMap_cons, QBlock.lines, List.cons_append, List.nil_append, List.append_assoc, List.length_cons,
      readQPoints]
    simp [h1, hm, ih', QBlock.value]

theorem strip_vecline (body : List Char) :
    strip (' ' :: '(' :: (body ++ [')'])) = '(' :: (body ++ [')']) := by
  have h1 : isSpace ' ' = true := by decide
  have h2 : isSpace '(' = false := by decide
  have h3 : isSpace ')' = false := by decide
  simp [strip, List.dropWhile, h1, h2, h3]

theorem slice_cons_succ (c : Char) (l : List Char) (a b : Nat) : slice (c :: l) (a + 1) (b + 1) = slice l a b := rfl

theorem slice_append_skip (T l : List Char) (a b : Nat) (ha : T.length ≤ a) (hb : T.length ≤ b) :
    slice (T ++ l) a b = slice l (a - T.length) (b - T.length) := by
  unfold slice
  rw [List.take_append, List.drop_append, List.take_of_length_le hb, List.drop_eq_nil_of_le ha, List.nil_append]

theorem slice_append_take (T l : List Char) (c : Char) (n : Nat) (h : T.length = n) :
    slice (T ++ c :: l) 0 (n + 1) = T ++ [c] := by
  simp [slice, ← h, List.take_append]

/-- the Fortran record `(1x,'(',3(f10.6,1x,f10.6,3x),')')` with six 10-character fields `c_i :: T_i` -/
def vecLine (c1 : Char) (T1 : List Char) (c2 : Char) (T2 : List Char) (c3 : Char) (T3 : List Char)
    (c4 : Char) (T4 : List Char) (c5 : Char) (T5 : List Char) (c6 : Char) (T6 : List Char) : List Char :=
  [' ', '('] ++ (c1 :: T1) ++ [' '] ++ (c2 :: T2) ++ [' ', ' ', ' '] ++ (c3 :: T3) ++ [' '] ++ (c4 :: T4)
    ++ [' ', ' ', ' '] ++ (c5 :: T5) ++ [' '] ++ (c6 :: T6) ++ [' ', ' ', ' ', ')']

/-- the six slices `[2:12] [13:23] [26:36] [37:47] [50:60] [61:71]` of the STRIPPED line are the six fields WITHOUT
their first character, each followed by one separator blank (stripping moved everything one column left) -/
theorem slices_vecLine (c1 c2 c3 c4 c5 c6 : Char) (T1 T2 T3 T4 T5 T6 : List Char)
    (h1 : T1.length = 9) (h2 : T2.length = 9) (h3 : T3.length = 9) (h4 : T4.length = 9) (h5 : T5.length = 9)
    (h6 : T6.length = 9) :
    let line := strip (vecLine c1 T1 c2 T2 c3 T3 c4 T4 c5 T5 c6 T6)
    slice line 2 12 = T1 ++ [' '] ∧ slice line 13 23 = T2 ++ [' '] ∧ slice line 26 36 = T3 ++ [' '] ∧
    slice line 37 47 = T4 ++ [' '] ∧ slice line 50 60 = T5 ++ [' '] ∧ slice line 61 71 = T6 ++ [' '] := by
  have hv : vecLine c1 T1 c2 T2 c3 T3 c4 T4 c5 T5 c6 T6 = ' ' :: '(' :: ((c1 :: T1 ++ [' '] ++ c2 :: T2 ++ [' ', ' ', ' '] ++
      c3 :: T3 ++ [' '] ++ c4 :: T4 ++ [' ', ' ', ' '] ++ c5 :: T5 ++ [' '] ++ c6 :: T6 ++ [' ', ' ', ' ']) ++ [')']) := by
    simp [vecLine]
  rw [hv, strip_vecline]
  -- every slice starts at a field boundary: skip the fields and separators in front of it, take nine characters and a blank
  simp [slice_cons_succ, slice_append_skip, slice_append_take, h1, h2, h3, h4, h5, h6]

end load

/-- instance search gives up on the full nesting depth of the loader's result type; one intermediate step suffices -/
instance instDecEqQBlockValue : DecidableEq (List Rat × List ((Nat × Rat × Rat) × List (Rat × Rat))) := inferInstance

end Cij.Evec
