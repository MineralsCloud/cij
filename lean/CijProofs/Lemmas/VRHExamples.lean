/-
  Concrete instances of the VRH model (no property statements here):
   * `exInp`/`exS`  — a cubic stiffness (c11 = 3, c12 = 1, c44 = 1) on a 1×1 grid with its exact inverse:
                      all hypotheses of the C07 theorems hold (non-vacuity);
   * `wInp`/`wS`    — regression instance: an orthorhombic positive-definite stiffness whose inverse has
                      s12 = 0 exactly (before repo commit 1b22ce6 the code dropped the key `s12` and reported no
                      Reuss modulus for it).
-/
import CijProofs.Lemmas.VRH

namespace Cij.VRH
open Cij Matrix

/-- orthotropic dictionary on a 1×1 grid from nine numbers -/
noncomputable def orthoDict (c11 c22 c33 c12 c23 c13 c44 c55 c66 : ℝ) : Dict ℝ :=
  [(keyOfVoigt (1, 1), [[c11]]), (keyOfVoigt (2, 2), [[c22]]), (keyOfVoigt (3, 3), [[c33]]),
   (keyOfVoigt (1, 2), [[c12]]), (keyOfVoigt (2, 3), [[c23]]), (keyOfVoigt (1, 3), [[c13]]),
   (keyOfVoigt (4, 4), [[c44]]), (keyOfVoigt (5, 5), [[c55]]), (keyOfVoigt (6, 6), [[c66]])]

/-- the 6×6 such a dictionary assembles to -/
noncomputable def orthoMat (c11 c22 c33 c12 c23 c13 c44 c55 c66 : ℝ) (i j : Int) : ℝ :=
  if i = 1 ∧ j = 1 then c11 else if i = 2 ∧ j = 2 then c22 else if i = 3 ∧ j = 3 then c33
  else if (i = 1 ∧ j = 2) ∨ (i = 2 ∧ j = 1) then c12
  else if (i = 2 ∧ j = 3) ∨ (i = 3 ∧ j = 2) then c23
  else if (i = 1 ∧ j = 3) ∨ (i = 3 ∧ j = 1) then c13
  else if i = 4 ∧ j = 4 then c44 else if i = 5 ∧ j = 5 then c55 else if i = 6 ∧ j = 6 then c66 else 0

theorem orthoDict_keys (c11 c22 c33 c12 c23 c13 c44 c55 c66 : ℝ) :
    ValidKeys ((orthoDict c11 c22 c33 c12 c23 c13 c44 c55 c66).map (·.1)) := by
  have : (orthoDict c11 c22 c33 c12 c23 c13 c44 c55 c66).map (·.1) = ortho9.map keyOfVoigt := rfl
  rw [this]
  exact ⟨by decide +kernel, by decide +kernel, fun p hp => List.mem_map.2 ⟨p, hp, rfl⟩⟩

theorem orthoDict_assemble (c11 c22 c33 c12 c23 c13 c44 c55 c66 : ℝ) :
    ∀ i j, (i, j) ∈ allPairs →
      assembleEntry (kvAt (orthoDict c11 c22 c33 c12 c23 c13 c44 c55 c66) 0 0) i j
        = orthoMat c11 c22 c33 c12 c23 c13 c44 c55 c66 i j := by
  have w := fun p hp => writes_keyOfVoigt p (ortho9_sub p hp)
  refine of_fin _ fun a b => ?_
  -- the positions each key writes are computed once, for all 36 entries
  simp only [assembleEntry, kvAt, orthoDict, List.map_cons, List.map_nil, List.foldl_cons, List.foldl_nil,
    w (1, 1) (by decide), w (2, 2) (by decide), w (3, 3) (by decide), w (1, 2) (by decide), w (2, 3) (by decide),
    w (1, 3) (by decide), w (4, 4) (by decide), w (5, 5) (by decide), w (6, 6) (by decide), nat_real, Nat.cast_zero]
  fin_cases a <;> fin_cases b <;> rfl

theorem cv_orthoDict (c11 c22 c33 c12 c23 c13 c44 c55 c66 : ℝ) :
    ∀ p ∈ ortho9, cv (orthoDict c11 c22 c33 c12 c23 c13 c44 c55 c66) 0 0 p.1 p.2
      = orthoMat c11 c22 c33 c12 c23 c13 c44 c55 c66 p.1 p.2 := by
  intro p hp
  have hk : Keys ⟨orthoDict c11 c22 c33 c12 c23 c13 c44 c55 c66, 1, 1, [], 0, 0, 0⟩ := orthoDict_keys _ _ _ _ _ _ _ _ _
  obtain ⟨h1, h2, h3⟩ := (by decide : ∀ p ∈ ortho9, 1 ≤ p.1 ∧ p.1 ≤ p.2 ∧ p.2 ≤ 6) p hp
  rw [cv_eq_Cmat _ hk 0 0 h1 h2 h3]
  exact orthoDict_assemble _ _ _ _ _ _ _ _ _ _ _ (keys21_sub p (ortho9_sub p hp)).1

theorem toMat_orthoMat (c11 c22 c33 c12 c23 c13 c44 c55 c66 : ℝ) :
    toMat (orthoMat c11 c22 c33 c12 c23 c13 c44 c55 c66) =
      !![c11, c12, c13, 0, 0, 0; c12, c22, c23, 0, 0, 0; c13, c23, c33, 0, 0, 0;
         0, 0, 0, c44, 0, 0; 0, 0, 0, 0, c55, 0; 0, 0, 0, 0, 0, c66] := by
  ext a b
  fin_cases a <;> fin_cases b <;> rfl

theorem orthoMat_quad (c11 c22 c33 c12 c23 c13 c44 c55 c66 : ℝ) (x : Fin 6 → ℝ) :
    x ⬝ᵥ toMat (orthoMat c11 c22 c33 c12 c23 c13 c44 c55 c66) *ᵥ x =
      c11 * x 0 ^ 2 + c22 * x 1 ^ 2 + c33 * x 2 ^ 2 + 2 * c12 * x 0 * x 1 + 2 * c23 * x 1 * x 2
        + 2 * c13 * x 0 * x 2 + c44 * x 3 ^ 2 + c55 * x 4 ^ 2 + c66 * x 5 ^ 2 := by
  rw [toMat_orthoMat]
  simp [dotProduct, Matrix.mulVec, Fin.sum_univ_six]; ring

theorem orthoMat_mul (c11 c22 c33 c12 c23 c13 c44 c55 c66 s11 s22 s33 s12 s23 s13 s44 s55 s66 : ℝ)
    (h11 : c11 * s11 + c12 * s12 + c13 * s13 = 1) (h12 : c11 * s12 + c12 * s22 + c13 * s23 = 0)
    (h13 : c11 * s13 + c12 * s23 + c13 * s33 = 0) (h21 : c12 * s11 + c22 * s12 + c23 * s13 = 0)
    (h22 : c12 * s12 + c22 * s22 + c23 * s23 = 1) (h23 : c12 * s13 + c22 * s23 + c23 * s33 = 0)
    (h31 : c13 * s11 + c23 * s12 + c33 * s13 = 0) (h32 : c13 * s12 + c23 * s22 + c33 * s23 = 0)
    (h33 : c13 * s13 + c23 * s23 + c33 * s33 = 1) (h44 : c44 * s44 = 1) (h55 : c55 * s55 = 1)
    (h66 : c66 * s66 = 1) :
    toMat (orthoMat c11 c22 c33 c12 c23 c13 c44 c55 c66) * toMat (orthoMat s11 s22 s33 s12 s23 s13 s44 s55 s66)
      = 1 := by
  rw [toMat_orthoMat, toMat_orthoMat]
  ext a b
  rw [Matrix.mul_apply, Fin.sum_univ_six]
  fin_cases a <;> fin_cases b <;>
    simp only [Matrix.of_apply, Matrix.cons_val, Fin.zero_eta, Fin.mk_one, Fin.reduceFinMk, Fin.isValue, mul_zero,
      zero_mul, add_zero, zero_add, h11, h12, h13, h21, h22, h23, h31, h32, h33, h44, h55, h66, Matrix.one_apply_eq,
      ne_eq, not_false_eq_true, Matrix.one_apply_ne, Fin.reduceEq]

/-! #### the cubic instance -/

noncomputable def exInp : Inputs ℝ :=
  { modAd := orthoDict 3 3 3 1 1 1 1 1 1, nt := 1, nv := 1, vArray := [500],
    cellmass := 100, avogadro := 6.02214076e23, ryFactor := 2.1798723611e-24 }

noncomputable def exS : Nat → Nat → Int → Int → ℝ :=
  fun _ _ => orthoMat (2 / 5) (2 / 5) (2 / 5) (-1 / 10) (-1 / 10) (-1 / 10) 1 1 1

theorem ex_toMat : toMat (assembleEntry (kvAt exInp.modAd 0 0)) = toMat (orthoMat 3 3 3 1 1 1 1 1 1) :=
  toMat_congr _ _ (orthoDict_assemble 3 3 3 1 1 1 1 1 1)

theorem ex_posDef : PosDef6 (assembleEntry (kvAt exInp.modAd 0 0)) := by
  intro x hx
  rw [ex_toMat, orthoMat_quad]
  have := sq_sum_pos x hx
  linarith [sq_nonneg (x 0 + x 1 + x 2), sq_nonneg (x 0), sq_nonneg (x 1), sq_nonneg (x 2)]

theorem ex_inv : toMat (assembleEntry (kvAt exInp.modAd 0 0)) * toMat (exS 0 0) = 1 := by
  rw [ex_toMat]
  exact orthoMat_mul _ _ _ _ _ _ _ _ _ _ _ _ _ _ _ _ _ _ (by norm_num) (by norm_num) (by norm_num)
    (by norm_num) (by norm_num) (by norm_num) (by norm_num) (by norm_num) (by norm_num) (by norm_num)
    (by norm_num) (by norm_num)

/-! #### the regression instance: positive definite, s12 = 0 -/

noncomputable def wInp : Inputs ℝ :=
  { modAd := orthoDict 10 10 4 1 2 2 1 1 1, nt := 1, nv := 1, vArray := [500],
    cellmass := 100, avogadro := 6.02214076e23, ryFactor := 2.1798723611e-24 }

noncomputable def wS : Nat → Nat → Int → Int → ℝ :=
  fun _ _ => orthoMat (1 / 9) (1 / 9) (11 / 36) 0 (-1 / 18) (-1 / 18) 1 1 1

theorem w_toMat : toMat (assembleEntry (kvAt wInp.modAd 0 0)) = toMat (orthoMat 10 10 4 1 2 2 1 1 1) :=
  toMat_congr _ _ (orthoDict_assemble 10 10 4 1 2 2 1 1 1)

theorem w_posDef : PosDef6 (assembleEntry (kvAt wInp.modAd 0 0)) := by
  intro x hx
  rw [w_toMat, orthoMat_quad]
  have := sq_sum_pos x hx
  linarith [sq_nonneg (2 * x 0 + x 2), sq_nonneg (2 * x 1 + x 2), sq_nonneg (x 0 + x 1), sq_nonneg (x 0),
    sq_nonneg (x 1), sq_nonneg (x 2)]

theorem w_inv : toMat (assembleEntry (kvAt wInp.modAd 0 0)) * toMat (wS 0 0) = 1 := by
  rw [w_toMat]
  exact orthoMat_mul _ _ _ _ _ _ _ _ _ _ _ _ _ _ _ _ _ _ (by norm_num) (by norm_num) (by norm_num)
    (by norm_num) (by norm_num) (by norm_num) (by norm_num) (by norm_num) (by norm_num) (by norm_num)
    (by norm_num) (by norm_num)

end Cij.VRH
