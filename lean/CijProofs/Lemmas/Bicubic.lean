/-
  Cubic / bicubic polynomials and the 4-node Lagrange form (`CijModel/ExtractSrc.lean: lag4, bicubic44`), over any field:
  interpolation at the nodes, exact reproduction of cubics / bicubics, uniqueness of the (bi)cubic through 4 (4×4)
  distinct nodes.  Helper lemmas for C19 (no property statements here).
-/
import CijModel.ExtractSrc
import Mathlib.Algebra.Field.Basic
import Mathlib.Tactic.FieldSimp
import Mathlib.Tactic.Ring
import Mathlib.Tactic.LinearCombination

namespace Cij.ExtractSrc

variable {α : Type} [Field α]

/-- `a₀ + a₁ t + a₂ t² + a₃ t³` -/
def cubic (a : Fin 4 → α) (t : α) : α := a 0 + a 1 * t + a 2 * t ^ 2 + a 3 * t ^ 3

/-- `Σ_{i,j<4} c i j · xⁱ yʲ` (degree ≤ 3 in each variable) -/
def bicubicPoly (c : Fin 4 → Fin 4 → α) (x y : α) : α := cubic (fun i => cubic (c i) y) x

/-- the same polynomial read as a cubic in `y` whose coefficients are cubics in `x` -/
theorem bicubicPoly_swap (c : Fin 4 → Fin 4 → α) (x y : α) :
    bicubicPoly c x y = cubic (fun j => cubic (fun i => c i j) x) y := by
  simp only [bicubicPoly, cubic]; ring

/-- four pairwise different nodes -/
structure Distinct4 (x0 x1 x2 x3 : α) : Prop where
  h01 : x0 ≠ x1
  h02 : x0 ≠ x2
  h03 : x0 ≠ x3
  h12 : x1 ≠ x2
  h13 : x1 ≠ x3
  h23 : x2 ≠ x3

omit [Field α] in
theorem Distinct4.of_injective {X : Fin 4 → α} (h : Function.Injective X) : Distinct4 (X 0) (X 1) (X 2) (X 3) :=
  ⟨h.ne (by decide), h.ne (by decide), h.ne (by decide), h.ne (by decide), h.ne (by decide), h.ne (by decide)⟩

section lag
variable {x0 x1 x2 x3 : α}

/-- `lag4` written with the six differences `x_i - x_j`, i < j (keeps `field_simp; ring` small) -/
theorem lag4_canon (x0 x1 x2 x3 f0 f1 f2 f3 x : α) :
    lag4 x0 x1 x2 x3 f0 f1 f2 f3 x =
      f0 * ((x - x1) * (x - x2) * (x - x3)) / ((x0 - x1) * (x0 - x2) * (x0 - x3)) -
      f1 * ((x - x0) * (x - x2) * (x - x3)) / ((x0 - x1) * (x1 - x2) * (x1 - x3)) +
      f2 * ((x - x0) * (x - x1) * (x - x3)) / ((x0 - x2) * (x1 - x2) * (x2 - x3)) -
      f3 * ((x - x0) * (x - x1) * (x - x2)) / ((x0 - x3) * (x1 - x3) * (x2 - x3)) := by
  unfold lag4
  have e10 : x1 - x0 = -(x0 - x1) := by ring
  have e20 : x2 - x0 = -(x0 - x2) := by ring
  have e21 : x2 - x1 = -(x1 - x2) := by ring
  have e30 : x3 - x0 = -(x0 - x3) := by ring
  have e31 : x3 - x1 = -(x1 - x3) := by ring
  have e32 : x3 - x2 = -(x2 - x3) := by ring
  rw [e10, e20, e21, e30, e31, e32]
  simp only [neg_mul, mul_neg, neg_neg, div_neg]
  ring

/-- at node `X i` the Lagrange form returns `f i` -/
theorem lag4_nodeFin {X : Fin 4 → α} (h : Distinct4 (X 0) (X 1) (X 2) (X 3)) (f : Fin 4 → α) (i : Fin 4) :
    lag4 (X 0) (X 1) (X 2) (X 3) (f 0) (f 1) (f 2) (f 3) (X i) = f i := by
  have := sub_ne_zero.2 h.h01; have := sub_ne_zero.2 h.h02; have := sub_ne_zero.2 h.h03
  have := sub_ne_zero.2 h.h12; have := sub_ne_zero.2 h.h13; have := sub_ne_zero.2 h.h23
  rw [lag4_canon]
  -- at a node three of the four numerators vanish
  match i with
  | 0 => simp only [sub_self, zero_mul, mul_zero, zero_div, sub_zero, add_zero]; field_simp
  | 1 => simp only [sub_self, zero_mul, mul_zero, zero_div, sub_zero, add_zero, zero_sub]; field_simp; ring
  | 2 => simp only [sub_self, zero_mul, mul_zero, zero_div, sub_zero, zero_add]; field_simp; ring
  | 3 => simp only [sub_self, mul_zero, zero_div, add_zero, zero_sub]; field_simp; ring

/-- Lagrange interpolation through four nodes reproduces every cubic EVERYWHERE -/
theorem lag4_cubic (h : Distinct4 x0 x1 x2 x3) (a : Fin 4 → α) (x : α) :
    lag4 x0 x1 x2 x3 (cubic a x0) (cubic a x1) (cubic a x2) (cubic a x3) x = cubic a x := by
  have := sub_ne_zero.2 h.h01; have := sub_ne_zero.2 h.h02; have := sub_ne_zero.2 h.h03
  have := sub_ne_zero.2 h.h12; have := sub_ne_zero.2 h.h13; have := sub_ne_zero.2 h.h23
  rw [lag4_canon]
  unfold cubic
  field_simp
  ring

/-- a cubic that vanishes at four different points is the zero polynomial (divided differences) -/
theorem cubic_eq_zero (h : Distinct4 x0 x1 x2 x3) (a : Fin 4 → α)
    (e0 : cubic a x0 = 0) (e1 : cubic a x1 = 0) (e2 : cubic a x2 = 0) (e3 : cubic a x3 = 0) : ∀ k, a k = 0 := by
  unfold cubic at e0 e1 e2 e3
  -- first divided differences
  have d01 : a 1 + a 2 * (x0 + x1) + a 3 * (x0 ^ 2 + x0 * x1 + x1 ^ 2) = 0 :=
    mul_left_cancel₀ (sub_ne_zero.2 h.h01) (by linear_combination e0 - e1)
  have d12 : a 1 + a 2 * (x1 + x2) + a 3 * (x1 ^ 2 + x1 * x2 + x2 ^ 2) = 0 :=
    mul_left_cancel₀ (sub_ne_zero.2 h.h12) (by linear_combination e1 - e2)
  have d23 : a 1 + a 2 * (x2 + x3) + a 3 * (x2 ^ 2 + x2 * x3 + x3 ^ 2) = 0 :=
    mul_left_cancel₀ (sub_ne_zero.2 h.h23) (by linear_combination e2 - e3)
  -- second
  have s012 : a 2 + a 3 * (x0 + x1 + x2) = 0 :=
    mul_left_cancel₀ (sub_ne_zero.2 h.h02) (by linear_combination d01 - d12)
  have s123 : a 2 + a 3 * (x1 + x2 + x3) = 0 :=
    mul_left_cancel₀ (sub_ne_zero.2 h.h13) (by linear_combination d12 - d23)
  -- third
  have a3 : a 3 = 0 := mul_left_cancel₀ (sub_ne_zero.2 h.h03) (by linear_combination s012 - s123)
  have a2 : a 2 = 0 := by rw [a3] at s012; linear_combination s012
  have a1 : a 1 = 0 := by rw [a3, a2] at d01; linear_combination d01
  have a0 : a 0 = 0 := by rw [a3, a2, a1] at e0; linear_combination e0
  intro k
  match k with
  | 0 => exact a0
  | 1 => exact a1
  | 2 => exact a2
  | 3 => exact a3

/-- two cubics that agree at four different points have the same coefficients -/
theorem cubic_unique (h : Distinct4 x0 x1 x2 x3) (a b : Fin 4 → α)
    (e0 : cubic a x0 = cubic b x0) (e1 : cubic a x1 = cubic b x1) (e2 : cubic a x2 = cubic b x2)
    (e3 : cubic a x3 = cubic b x3) : a = b := by
  have hsub : ∀ t, cubic (fun k => a k - b k) t = cubic a t - cubic b t := fun t => by simp only [cubic]; ring
  funext k
  have := cubic_eq_zero h (fun k => a k - b k) (by rw [hsub, e0, sub_self]) (by rw [hsub, e1, sub_self])
    (by rw [hsub, e2, sub_self]) (by rw [hsub, e3, sub_self]) k
  exact sub_eq_zero.1 this

end lag

/-- a 4×4 table as the model stores it -/
def tab44 (X Y : Fin 4 → α) (Z : Fin 4 → Fin 4 → α) : Cij.Extract.Tab α :=
  { rows := [X 0, X 1, X 2, X 3], cols := [Y 0, Y 1, Y 2, Y 3],
    vals := [[Z 0 0, Z 0 1, Z 0 2, Z 0 3], [Z 1 0, Z 1 1, Z 1 2, Z 1 3],
             [Z 2 0, Z 2 1, Z 2 2, Z 2 3], [Z 3 0, Z 3 1, Z 3 2, Z 3 3]] }

omit [Field α] in
theorem tab44_ofFn (X Y : Fin 4 → α) (Z : Fin 4 → Fin 4 → α) :
    tab44 X Y Z = { rows := List.ofFn X, cols := List.ofFn Y, vals := List.ofFn fun i => List.ofFn (Z i) } := by
  simp [tab44, List.ofFn_succ]

theorem bicubic44_tab44 (X Y : Fin 4 → α) (Z : Fin 4 → Fin 4 → α) (x y : α) :
    bicubic44 (tab44 X Y Z).rows (tab44 X Y Z).cols (tab44 X Y Z).vals x y =
      lag4 (X 0) (X 1) (X 2) (X 3)
        (lag4 (Y 0) (Y 1) (Y 2) (Y 3) (Z 0 0) (Z 0 1) (Z 0 2) (Z 0 3) y)
        (lag4 (Y 0) (Y 1) (Y 2) (Y 3) (Z 1 0) (Z 1 1) (Z 1 2) (Z 1 3) y)
        (lag4 (Y 0) (Y 1) (Y 2) (Y 3) (Z 2 0) (Z 2 1) (Z 2 2) (Z 2 3) y)
        (lag4 (Y 0) (Y 1) (Y 2) (Y 3) (Z 3 0) (Z 3 1) (Z 3 2) (Z 3 3) y) x := rfl

/-- the tensor-product Lagrange form returns the table entry at every node -/
theorem bicubic44_node (X Y : Fin 4 → α) (Z : Fin 4 → Fin 4 → α)
    (hX : Function.Injective X) (hY : Function.Injective Y) (i j : Fin 4) :
    bicubic44 (tab44 X Y Z).rows (tab44 X Y Z).cols (tab44 X Y Z).vals (X i) (Y j) = Z i j := by
  have dx := Distinct4.of_injective hX
  have dy := Distinct4.of_injective hY
  rw [bicubic44_tab44, lag4_nodeFin dy (Z 0) j, lag4_nodeFin dy (Z 1) j, lag4_nodeFin dy (Z 2) j, lag4_nodeFin dy (Z 3) j]
  exact lag4_nodeFin dx (fun r => Z r j) i

/-- … and reproduces every bicubic polynomial it was sampled from, at EVERY (x, y) -/
theorem bicubic44_reproduces (X Y : Fin 4 → α) (c : Fin 4 → Fin 4 → α)
    (hX : Function.Injective X) (hY : Function.Injective Y) (x y : α) :
    bicubic44 (tab44 X Y fun i j => bicubicPoly c (X i) (Y j)).rows (tab44 X Y fun i j => bicubicPoly c (X i) (Y j)).cols
      (tab44 X Y fun i j => bicubicPoly c (X i) (Y j)).vals x y = bicubicPoly c x y := by
  have dx := Distinct4.of_injective hX
  have dy := Distinct4.of_injective hY
  rw [bicubic44_tab44]
  -- inner: along y, each row is the cubic `y ↦ p(X i, y)`
  have inner : ∀ i : Fin 4,
      lag4 (Y 0) (Y 1) (Y 2) (Y 3) (bicubicPoly c (X i) (Y 0)) (bicubicPoly c (X i) (Y 1)) (bicubicPoly c (X i) (Y 2))
        (bicubicPoly c (X i) (Y 3)) y = bicubicPoly c (X i) y := by
    intro i
    simp only [bicubicPoly_swap]
    exact lag4_cubic dy _ y
  rw [inner 0, inner 1, inner 2, inner 3]
  -- outer: along x, `x ↦ p(x, y)` is a cubic
  exact lag4_cubic dx (fun i => cubic (c i) y) x

/-- two bicubic polynomials that agree on a 4×4 grid of distinct nodes have the same 16 coefficients -/
theorem bicubic_unique (X Y : Fin 4 → α) (c d : Fin 4 → Fin 4 → α)
    (hX : Function.Injective X) (hY : Function.Injective Y)
    (h : ∀ i j, bicubicPoly c (X i) (Y j) = bicubicPoly d (X i) (Y j)) : c = d := by
  have dx := Distinct4.of_injective hX
  have dy := Distinct4.of_injective hY
  -- for each node Y j the cubics in x agree at the four X i: their coefficients (cubics in y) agree at Y j
  have hcoef : ∀ j : Fin 4, (fun i => cubic (c i) (Y j)) = fun i => cubic (d i) (Y j) := fun j =>
    cubic_unique dx _ _ (h 0 j) (h 1 j) (h 2 j) (h 3 j)
  funext i
  exact cubic_unique dy (c i) (d i) (congrFun (hcoef 0) i) (congrFun (hcoef 1) i) (congrFun (hcoef 2) i)
    (congrFun (hcoef 3) i)

end Cij.ExtractSrc
