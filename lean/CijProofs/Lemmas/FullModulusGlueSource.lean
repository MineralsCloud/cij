/-
  C05 — `cij/core/full_modulus.py` and `Calculator._calculate_pressure_static` as translated on this run
  (`Generated/FullModulusGlue.lean`, by tools/gens/fullmodulus_src.py) against the hand-written model `CijModel/FullModulus.lean`:
  the model functions ARE the interpretation (`CijModel/FullModulusGlue.lean`) of the translated statements, for every field of
  scalars and all inputs.  Helper lemmas only; the property-level statements are the `c05_glue_is_source_*` theorems of
  Properties/C05.lean.
-/
import CijModel.FullModulusGlue
import Generated.FullModulusGlue
import Generated.StaticSpec
import CijProofs.Lemmas.FullModulus

namespace Cij.FMGlue
open Cij Cij.LeastSq Cij.FullModulus Generated.FullModulusGlue

section
variable {α : Type}

/-- `[volume.volume for volume in elast_data.volumes]`: the static table's own volume column, in file order -/
def vols (C : Ctx α) : List α := C.calculator.elastData.volumes.map (·.volume)

/-- `[volume.static_elastic_modulus[key] for volume in elast_data.volumes]`: the values of one key per volume, in file order
(`none`: some volume has no such key — KeyError) -/
def columnOf (C : Ctx α) (k : Key) : Option (List α) :=
  allSomeL (C.calculator.elastData.volumes.map fun v => dictLookup v.moduli k)

/-- the instance attributes `__init__` assigns before it calls `calculate_phonon_contribution` are present -/
def Wired (attrs : Env α) : Prop :=
  lookup attrs "calculator" = some .calcObj ∧ lookup attrs "elast_data" = some .edata

end

section
variable {α : Type} [Add α] [Sub α] [Mul α] [Div α] [Neg α] [OfNat α 0] [OfNat α 1]

/-- what the model of `CijModel/FullModulus.lean` is run on, built from what the class reads: the Eulerian strains are those of
the static table's OWN volume column and of the grid, both referred to the table's first row -/
def inputsOf (C : Ctx α) (table : List (String × List α)) : Inputs α :=
  { strains := (vols C).map (C.strain (nth (vols C) 0)),
    strainArray := C.calculator.vArray.map (C.strain (nth (vols C) 0)),
    volumes := vols C,
    vArray := C.calculator.vArray,
    table := table,
    lattice := C.calculator.elastData.lattice,
    gpaFactor := C.gpa }

end

section
variable {β γ : Type}

theorem allSomeL_map_some (f : β → γ) (l : List β) : allSomeL (l.map fun x => some (f x)) = some (l.map f) := by
  induction l with
  | nil => rfl
  | cons a t ih => simp [allSomeL, ih]

theorem allSomeL_length : ∀ (l : List (Option β)) (r : List β), allSomeL l = some r → r.length = l.length
  | [], r, h => by simp [allSomeL] at h; subst h; rfl
  | none :: _, r, h => by simp [allSomeL] at h
  | some x :: t, r, h => by
      simp only [allSomeL, Option.map_eq_some_iff] at h
      obtain ⟨r', hr', rfl⟩ := h
      simp [allSomeL_length t r' hr']

theorem allSomeL_congr (f g : β → Option γ) (l : List β) (h : ∀ x ∈ l, f x = g x) : allSomeL (l.map f) = allSomeL (l.map g) := by
  induction l with
  | nil => rfl
  | cons a t ih =>
      simp only [List.map_cons]
      rw [h a (by simp)]
      cases g a with
      | none => rfl
      | some y => simp only [allSomeL]; rw [ih fun x hx => h x (by simp [hx])]

end


/-! ### the three accessors -/

section
variable {α : Type} [Field α] [BEq α]

theorem findMethod_cons (m : Method) (r : List Method) (n : String) :
    findMethod (m :: r) n = if m.name = n then some m else findMethod r n := by
  by_cases h : m.name = n <;> simp [findMethod, h]

theorem findMethod_nil (n : String) : findMethod [] n = none := rfl

/-- walk down `cls` comparing names (literal strings: `simp` decides each comparison) -/
macro "find_method" : tactic => `(tactic| simp [cls, findMethod_cons, findMethod_nil, m_init, m_modulus_keys, m_volumes, m_v_array,
  m_fit_modulus, m_get_static_modulus, m_get_init_strain, m_get_axial_strains, m_calculate_phonon_contribution, m_modulus_adiabatic,
  m_modulus_isothermal])

theorem find_volumes : findMethod cls "volumes" = some m_volumes := by find_method
theorem find_v_array : findMethod cls "v_array" = some m_v_array := by find_method
theorem find_modulus_keys : findMethod cls "modulus_keys" = some m_modulus_keys := by find_method
theorem find_fit : findMethod cls "fit_modulus" = some m_fit_modulus := by find_method
theorem find_static : findMethod cls "get_static_modulus" = some m_get_static_modulus := by find_method
theorem find_init_strain : findMethod cls "_get_init_strain" = some m_get_init_strain := by find_method
theorem find_axial : findMethod cls "get_axial_strains" = some m_get_axial_strains := by find_method
theorem find_phonon : findMethod cls "calculate_phonon_contribution" = some m_calculate_phonon_contribution := by find_method
theorem find_adiabatic : findMethod cls "modulus_adiabatic" = some m_modulus_adiabatic := by find_method
theorem find_isothermal : findMethod cls "modulus_isothermal" = some m_modulus_isothermal := by find_method
theorem find_init : findMethod cls "__init__" = some m_init := by find_method

theorem isProp_of_not_found {n : String} (h : findMethod cls n = none) : isProp cls n = false := by rw [isProp, h]

@[simp] theorem isProp_elast_data : isProp cls "elast_data" = false := isProp_of_not_found (by find_method)
@[simp] theorem isProp_calculator : isProp cls "calculator" = false := isProp_of_not_found (by find_method)
@[simp] theorem isProp_task_list : isProp cls "_phonon_contribution_task_list" = false := isProp_of_not_found (by find_method)
@[simp] theorem isProp_adiabatic_store : isProp cls "_adiabatic_phonon_contribution" = false := isProp_of_not_found (by find_method)
@[simp] theorem isProp_isothermal_store : isProp cls "_isothermal_phonon_contribution" = false := isProp_of_not_found (by find_method)
@[simp] theorem isProp_volumes : isProp cls "volumes" = true := by rw [isProp, find_volumes]; rfl
@[simp] theorem isProp_v_array : isProp cls "v_array" = true := by rw [isProp, find_v_array]; rfl
@[simp] theorem isProp_modulus_keys : isProp cls "modulus_keys" = true := by rw [isProp, find_modulus_keys]; rfl
@[simp] theorem isPure_fit : isPure cls "fit_modulus" = true := by rw [isPure, find_fit]; rfl
@[simp] theorem isPure_static : isPure cls "get_static_modulus" = true := by rw [isPure, find_static]; rfl
@[simp] theorem isPure_axial : isPure cls "get_axial_strains" = true := by rw [isPure, find_axial]; rfl
@[simp] theorem isPure_init_strain : isPure cls "_get_init_strain" = true := by rw [isPure, find_init_strain]; rfl

/- from here on the name look-ups are used through the lemmas above / their equation lemmas only: `simp` must not evaluate string
comparisons by `whnf` when it inspects the discriminant of a `match` (String = ByteArray: tens of thousands of unfoldings each) -/
attribute [local irreducible] lookup isProp isPure findMethod

theorem runStmts_step {C : Ctx α} {K : Kernel α} {st st' : St α} {s : Stmt} {r : List Stmt}
    (h : execStmt C K st s = some (.cont st')) : runStmts C K st (s :: r) = runStmts C K st' r := by
  rw [runStmts, h]

theorem runStmts_fail {C : Ctx α} {K : Kernel α} {st : St α} {s : Stmt} {r : List Stmt}
    (h : execStmt C K st s = none) : runStmts C K st (s :: r) = none := by
  rw [runStmts, h]

theorem execLs_step {C : Ctx α} {K : Kernel α} {st st' : St α} {s : LStmt} {r : List LStmt}
    (h : execL C K st s = some st') : execLs C K (s :: r) st = execLs C K r st' := by
  rw [execLs, h]
  rfl

omit [Field α] [BEq α] in
theorem allSomeL_volAttr (l : List (ElastDat.ElastVolume α)) :
    allSomeL (l.map (volAttr "volume")) = some (l.map (·.volume)) := by
  have : (volAttr "volume" : ElastDat.ElastVolume α → Option α) = fun v => some v.volume := by
    funext v; simp [volAttr]
  rw [this]; exact allSomeL_map_some _ l

/-- `self.volumes` = the volume column of the static table, in file order -/
theorem volumes_src (C : Ctx α) (n : Nat) (attrs : Env α) (hw : Wired attrs) :
    callM cls C (n + 1) attrs "volumes" [] = some (attrs, .ar (vols C)) := by
  obtain ⟨_, h2⟩ := hw
  simp [callM, find_volumes, m_volumes, bindParams, runStmts, execStmt, evalX, X.eval, Kernel.hooks, h2, getPath, getattr,
    allSomeL_volAttr, fun1, vols]

/-- `self.v_array` = the calculator's grid -/
theorem v_array_src (C : Ctx α) (n : Nat) (attrs : Env α) (hw : Wired attrs) :
    callM cls C (n + 1) attrs "v_array" [] = some (attrs, .ar C.calculator.vArray) := by
  obtain ⟨h1, _⟩ := hw
  simp [callM, find_v_array, m_v_array, bindParams, runStmts, execStmt, evalX, X.eval, Kernel.hooks, h1, getPath, getattr]

/-- `self.modulus_keys` = the calculator's key list -/
theorem modulus_keys_src (C : Ctx α) (n : Nat) (attrs : Env α) (hw : Wired attrs) :
    callM cls C (n + 1) attrs "modulus_keys" [] = some (attrs, .keys C.calculator.modulusKeys) := by
  obtain ⟨h1, _⟩ := hw
  simp [callM, find_modulus_keys, m_modulus_keys, bindParams, runStmts, execStmt, evalX, X.eval, Kernel.hooks, h1, getPath, getattr]

/-! ### `fit_modulus` -/

omit [BEq α] in
theorem pyIndex_zero (l : List α) (h : l ≠ []) : pyIndex l 0 = some (nth l 0) := by
  cases l with
  | nil => exact absurd rfl h
  | cons a t => simp [pyIndex, nth]

theorem fit_body (C : Ctx α) (n : Nat) (attrs : Env α) (hw : Wired attrs) (table : List (String × List α)) (m : List α) (k : Nat)
    (hv : vols C ≠ []) (hm : m.length = (vols C).length) :
    runStmts C ⟨isProp cls, isPure cls, callM cls C (n + 1)⟩ ⟨attrs, [("moduli", .ar m), ("order", .nat k)]⟩ m_fit_modulus.body
      = (fitModulus (inputsOf C table) m k).map fun r => (attrs, .ar r) := by
  have hzip : zipSame (fun p q : α => p * q) (vols C) m = some (List.zipWith (fun v c => v * c) (vols C) m) := by
    simp [zipSame, hm]
  cases hp : polyfit ((vols C).map (C.strain (nth (vols C) 0))) (List.zipWith (fun v c => v * c) (vols C) m) (k + 1) with
  | none =>
      simp [m_fit_modulus, runStmts, execStmt, evalX, X.eval, Kernel.hooks, volumes_src C n attrs hw, v_array_src C n attrs hw,
        pyIndex_zero _ hv, fun2, fun3, bin, hzip, lookup, fitModulus, inputsOf, hp, getPath]
  | some p =>
      simp [m_fit_modulus, runStmts, execStmt, evalX, X.eval, Kernel.hooks, volumes_src C n attrs hw, v_array_src C n attrs hw,
        pyIndex_zero _ hv, fun2, fun3, bin, lookup, fitModulus, inputsOf, hp, zipSame, hm.symm, List.zipWith_map_left, getPath]

/-- **`fit_modulus(moduli, order)`** as translated = the model's `fitModulus` on the inputs the class reads -/
theorem fit_src (C : Ctx α) (n : Nat) (attrs : Env α) (hw : Wired attrs) (table : List (String × List α)) (m : List α) (k : Nat)
    (hv : vols C ≠ []) (hm : m.length = (vols C).length) :
    callM cls C (n + 2) attrs "fit_modulus" [.ar m, .nat k]
      = (fitModulus (inputsOf C table) m k).map fun r => (attrs, .ar r) := by
  rw [callM, find_fit]
  exact fit_body C n attrs hw table m k hv hm

/-- … with the default order of the source = the model's default -/
theorem fit_default_src (C : Ctx α) (n : Nat) (attrs : Env α) (hw : Wired attrs) (table : List (String × List α)) (m : List α)
    (hv : vols C ≠ []) (hm : m.length = (vols C).length) :
    callM cls C (n + 2) attrs "fit_modulus" [.ar m]
      = (fitModulus (inputsOf C table) m).map fun r => (attrs, .ar r) := by
  rw [callM, find_fit]
  -- `bindParams` fills in the default recorded in `m_fit_modulus.params`; with another default there this line fails
  exact fit_body C n attrs hw table m 2 hv hm

/-! ### `get_static_modulus` -/

omit [Field α] [BEq α] in
theorem columnOf_length (C : Ctx α) (key : Key) (col : List α) (h : columnOf C key = some col) : col.length = (vols C).length := by
  have := allSomeL_length _ _ h
  simpa [vols] using this

/-- **`get_static_modulus(key)`** as translated: the values of `key` per volume in file order, times the GPa factor, through
`fit_modulus` with its default order -/
theorem static_src (C : Ctx α) (n : Nat) (attrs : Env α) (hw : Wired attrs) (table : List (String × List α)) (key : Key)
    (hv : vols C ≠ []) :
    callM cls C (n + 3) attrs "get_static_modulus" [.key key]
      = ((columnOf C key).bind fun col => fitModulus (inputsOf C table) (fromGpa C.gpa col)).map fun r => (attrs, .ar r) := by
  obtain ⟨h1, h2⟩ := hw
  rw [callM, find_static]
  cases hc : columnOf C key with
  | none =>
      unfold columnOf at hc
      simp [m_get_static_modulus, bindParams, runStmts, execStmt, evalX, X.eval, Kernel.hooks, h2, getPath, getattr, lookup, hc]
  | some col =>
      have hl : (fromGpa C.gpa col).length = (vols C).length := by
        simp [fromGpa, columnOf_length C key col hc]
      have hfit := fit_default_src C n attrs ⟨h1, h2⟩ table (fromGpa C.gpa col) hv hl
      unfold columnOf at hc
      unfold fromGpa at hfit ⊢
      simp only [m_get_static_modulus, bindParams, runStmts, execStmt, evalX, X.eval, Kernel.hooks, h2, getPath, getattr, lookup, hc,
        fun1, hfit, isProp_elast_data, isPure_fit, Option.map_some, Option.bind_some, ↓reduceIte, Option.map_map]
      cases fitModulus (inputsOf C table) (col.map (· * C.gpa)) with
      | none => rfl
      | some r => simp [lookup]

/-! ### `_get_init_strain` -/

/-- the configuration has the two nested mappings `elast` / `settings` -/
def HasElastSettings (C : Ctx α) : Prop :=
  C.calculator.cfgLeaf ["elast"] = none ∧ C.calculator.cfgSection ["elast"] = true ∧
  C.calculator.cfgLeaf ["elast", "settings"] = none ∧ C.calculator.cfgSection ["elast", "settings"] = true

/-- without an `init_strain` entry (the schema of settings files allows none: `additionalProperties: false`): equal thirds -/
theorem init_strain_absent_src (C : Ctx α) (n : Nat) (attrs : Env α) (hw : Wired attrs) (hc : HasElastSettings C)
    (h1 : C.calculator.cfgLeaf ["elast", "settings", "init_strain"] = none)
    (h2 : C.calculator.cfgSection ["elast", "settings", "init_strain"] = false) :
    callM cls C (n + 1) attrs "_get_init_strain" [] = some (attrs, .ar [1 / 3, 1 / 3, 1 / 3]) := by
  obtain ⟨hcalc, _⟩ := hw
  obtain ⟨a, b, c, d⟩ := hc
  simp [callM, find_init_strain, m_get_init_strain, bindParams, runStmts, execStmt, evalX, X.eval, Kernel.hooks, hcalc, getPath,
    getattr, a, b, c, d, h1, h2, bin]

/-- with an entry: the entry divided by its sum (ZeroDivisionError when the sum is 0) -/
theorem init_strain_present_src (C : Ctx α) (n : Nat) (attrs : Env α) (hw : Wired attrs) (hc : HasElastSettings C) (l : List α)
    (h1 : C.calculator.cfgLeaf ["elast", "settings", "init_strain"] = some l) :
    callM cls C (n + 1) attrs "_get_init_strain" []
      = if pySum l == 0 then none else some (attrs, .ar (l.map fun x => x / pySum l)) := by
  obtain ⟨hcalc, _⟩ := hw
  obtain ⟨a, b, c, d⟩ := hc
  by_cases hz : (pySum l == 0) = true <;>
  simp [callM, find_init_strain, m_get_init_strain, bindParams, runStmts, execStmt, evalX, X.eval, Kernel.hooks, hcalc, getPath,
    getattr, a, b, c, d, h1, fun1, hz]

/-! ### `get_axial_strains` -/

/-- one column of the raw strain matrix in the model's `getAxialStrains` (axis `i`) -/
def axCol (inp : Inputs α) (i : Nat) : Option (List α) :=
  (fitModulus inp (inp.lattice.map fun row => nth row i)).map fun params =>
    let tmp := nth params 0 :: (params ++ [nth params (params.length - 1)])
    (List.range inp.vArray.length).map fun k => (nth tmp (k + 2) - nth tmp k) / (nth tmp (k + 2) + nth tmp k)

omit [BEq α] in
theorem nth_eq_getElem (l : List α) (i : Nat) (h : i < l.length) : nth l i = l[i] := by
  unfold nth
  rw [List.getD_eq_getElem _ _ h]

omit [BEq α] in
/-- `(tmp[2:] - tmp[:-2]) / (tmp[2:] + tmp[:-2])` entry by entry -/
theorem edge_lists (t : List α) (n : Nat) (ht : t.length = n + 2) :
    List.zipWith (fun p q => p / q) (List.zipWith (fun p q => p - q) (t.drop 2) (t.take (t.length - 2)))
        (List.zipWith (fun p q => p + q) (t.drop 2) (t.take (t.length - 2)))
      = (List.range n).map fun k => (nth t (k + 2) - nth t k) / (nth t (k + 2) + nth t k) := by
  apply List.ext_getElem
  · simp [ht]
  · intro i h1 h2
    have hi : i < n := by simpa using h2
    simp [nth_eq_getElem t (i + 2) (by omega), nth_eq_getElem t i (by omega), Nat.add_comm]

omit [BEq α] in
theorem head_getLast (p : List α) (h : p ≠ []) : p.head? = some (nth p 0) ∧ p.getLast? = some (nth p (p.length - 1)) := by
  constructor
  · cases p with
    | nil => exact absurd rfl h
    | cons a t => simp [nth]
  · rw [List.getLast?_eq_getElem?]
    have : p.length - 1 < p.length := by
      cases p with
      | nil => exact absurd rfl h
      | cons a t => simp
    rw [List.getElem?_eq_getElem this, nth_eq_getElem p _ this]

theorem fitModulus_length (inp : Inputs α) (m r : List α) (k : Nat) (h : fitModulus inp m k = some r) :
    r.length = min inp.strainArray.length inp.vArray.length := by
  unfold fitModulus at h
  simp only [bind, Option.bind_eq_some_iff, pure, Option.some.injEq] at h
  obtain ⟨p, _, rfl⟩ := h
  simp

omit [BEq α] in
theorem setCol_rows (f : Nat → List α) (n i : Nat) (col : List α) (hcol : col.length = n) (hi : ∀ k, i < (f k).length) :
    setCol ((List.range n).map f) i col = some ((List.range n).map fun k => (f k).set i (nth col k)) := by
  unfold setCol
  rw [if_pos]
  · congr 1
    apply List.ext_getElem
    · simp [hcol]
    · intro k h1 h2
      have hk : k < n := by simpa using h2
      simp [nth_eq_getElem col k (by omega)]
  · constructor
    · simp [hcol]
    · simp [hi]

omit [Field α] [BEq α] in
theorem replicate_eq_range_map (n : Nat) (row : List α) : List.replicate n row = (List.range n).map fun _ => row := by
  apply List.ext_getElem <;> simp

end

end Cij.FMGlue
