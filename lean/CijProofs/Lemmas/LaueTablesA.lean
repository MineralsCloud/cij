/- Kernel check (part A) of the literal action tables: see LaueCertDefs.lean. -/
import CijProofs.Lemmas.LaueCertDefs
namespace Cij.Laue
open Cij.Certs

theorem fiber_table : ∀ b : Fin 21, fiber b = fiberLit.getD b.val [] := by decide +kernel

theorem ZS.zero_mul (b : ZS) : (0 : ZS) * b = 0 := by
  show ZS.mk (0 * b.re + 3 * (0 * b.im)) (0 * b.im + 0 * b.re) = ZS.mk 0 0
  simp

theorem ZS.mul_zero (a : ZS) : a * (0 : ZS) = 0 := by
  show ZS.mk (a.re * 0 + 3 * (a.im * 0)) (a.re * 0 + a.im * 0) = ZS.mk 0 0
  simp

/-- `coef`, without forming the product when a factor vanishes: the generators are sparse, and the kernel spends
    most of its time in the arithmetic of ℤ[√3] -/
def coefSparse (G : Mat3 ZS) (t x : Idx4) : ZS :=
  if G t.1 x.1 = 0 ∨ G t.2.1 x.2.1 = 0 ∨ G t.2.2.1 x.2.2.1 = 0 ∨ G t.2.2.2 x.2.2.2 = 0 then 0 else coef G t x

theorem coefSparse_eq (G : Mat3 ZS) (t : Idx4) : coefSparse G t = coef G t := by
  funext x
  unfold coefSparse
  split
  · next h => rcases h with h | h | h | h <;> simp only [coef, h, ZS.zero_mul, ZS.mul_zero]
  · rfl

/-- `defectZ` with the literal fibres and sparse products -/
def defectFast (g : Gen) (a b : Fin 21) : ZS :=
  sumList ((fiberLit.getD b.val []).map (coefSparse (gen2 ZS.sqrt3 g) (stdOfKey a))) - (if a = b then 16 else 0)

theorem defectFast_eq (g : Gen) (a b : Fin 21) : defectZ g a b = defectFast g a b := by
  simp only [defectZ, defectFast, actZ, fiber_table, coefSparse_eq]

theorem defect_partA : ∀ g ∈ [Gen.twoX, .twoY, .twoZ], ∀ a b : Fin 21,
    defectFast g a b = look (defectLit g) a.val b.val := by decide +kernel

end Cij.Laue
