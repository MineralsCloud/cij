/- Facts about the model `CijModel/FullModulus.lean` taken by itself (C05). -/
import CijModel.FullModulus
import CijProofs.Lemmas.LeastSq
import Mathlib.Tactic.FieldSimp

namespace Cij.FullModulus
open Cij.LeastSq

section
variable {α : Type} [Field α]

/-- 1 GPa expressed in Ry/bohr³, from the Rydberg energy `ry` (= R∞hc, in J) and the Bohr radius `a0` (in m):
    1 Ry/bohr³ = ry / a0³ Pa, hence 1 GPa = 10⁹ / (ry / a0³) Ry/bohr³. -/
def gpaInAtomicUnits (ry a0 : α) : α := 10 ^ 9 / (ry / a0 ^ 3)

theorem addStatic_getElem? (st : List α) (p : List (List α)) (t v : Nat) (row : List α) (sv ptv : α)
    (ht : p[t]? = some row) (hv : row[v]? = some ptv) (hs : st[v]? = some sv) :
    ∃ mrow, (addStatic st p)[t]? = some mrow ∧ mrow[v]? = some (sv + ptv) := by
  unfold addStatic
  refine ⟨List.zipWith (fun s p => s + p) st row, ?_, ?_⟩
  · simp [ht]
  · simp [List.getElem?_zipWith, hs, hv]

theorem nth_map_lt (f : α → α) (l : List α) (i : Nat) (hi : i < l.length) :
    nth (l.map f) i = f (nth l i) :=
  V2P.nth_map f l i hi

/-- `numpy.gradient` is compatible with affine maps of the ordinate: gradient(a − P0·v) = −P0·gradient(v) -/
theorem gradient_affine (a P0 : α) (v gv : List α) (h2 : (1 + 1 : α) ≠ 0) (hgv : gradient v = some gv) :
    gradient (v.map fun x => a - P0 * x) = some (gv.map fun g => -P0 * g) := by
  unfold gradient at hgv ⊢
  simp only [List.length_map] at hgv ⊢
  split_ifs at hgv with hn
  rw [if_neg hn]
  simp only [Option.some.injEq] at hgv ⊢
  subst hgv
  rw [List.map_map]
  apply List.map_congr_left
  intro i hi
  have hi' : i < v.length := List.mem_range.mp hi
  simp only [Function.comp]
  split_ifs with h0 h1
  · rw [nth_map_lt _ _ _ (by omega), nth_map_lt _ _ _ (by omega)]; ring
  · rw [nth_map_lt _ _ _ (by omega), nth_map_lt _ _ _ (by omega)]; ring
  · rw [nth_map_lt _ _ _ (by omega), nth_map_lt _ _ _ (by omega)]; field_simp; ring

theorem neg_grad_ratio_affine (P0 : α) (gv : List α) (hnz : ∀ g ∈ gv, g ≠ 0) :
    List.zipWith (fun a b => -a / b) (gv.map fun g => -P0 * g) gv = gv.map fun _ => P0 := by
  rw [List.zipWith_map_left, List.zipWith_self]
  apply List.map_congr_left
  intro g hg
  have := hnz g hg
  field_simp
theorem sumL_map_div (l : List α) (s : α) : sumL (l.map (· / s)) = sumL l / s := by
  induction l with
  | nil => simp [sumL]
  | cons a t ih => simp [sumL, ih, add_div]

theorem sumL_normaliseBySum (raw : List α) (h : sumL raw ≠ 0) : sumL (normaliseBySum raw) = 1 := by
  unfold normaliseBySum
  rw [sumL_map_div, div_self h]

end

section
variable {α : Type} [Field α] [BEq α]

/-- `fit_modulus` reads the volumes, the strains and the grid — not the table, not the lattice block -/
theorem fitModulus_congr (i1 i2 : Inputs α) (m : List α) (order : Nat)
    (h1 : i1.strains = i2.strains) (h2 : i1.strainArray = i2.strainArray) (h3 : i1.volumes = i2.volumes)
    (h4 : i1.vArray = i2.vArray) : fitModulus i1 m order = fitModulus i2 m order := by
  unfold fitModulus
  rw [h1, h2, h3, h4]

theorem getAxialStrains_congr (i1 i2 : Inputs α)
    (h1 : i1.strains = i2.strains) (h2 : i1.strainArray = i2.strainArray) (h3 : i1.volumes = i2.volumes)
    (h4 : i1.vArray = i2.vArray) (h5 : i1.lattice = i2.lattice) : getAxialStrains i1 = getAxialStrains i2 := by
  unfold getAxialStrains
  have : ∀ m, fitModulus i1 m = fitModulus i2 m := fun m => fitModulus_congr i1 i2 m 2 h1 h2 h3 h4
  simp only [this, h4, h5]

theorem getAxialStrains_nil (inp : Inputs α) (h : inp.lattice = []) :
    getAxialStrains inp = some (List.replicate inp.vArray.length [1, 1, 1]) := by
  unfold getAxialStrains
  simp [h]

end

end Cij.FullModulus
