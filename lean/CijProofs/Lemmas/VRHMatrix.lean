/-
  Linear algebra behind the Reuss ≤ Voigt bounds (no property statements here): symmetric inverse, and the
  Cauchy–Schwarz inequality between a positive-semidefinite symmetric matrix `C` and a right inverse `S`,
  in the "energy" form used for the Reuss ≤ Voigt bounds:

      for strain-like vectors e_a and stress-like vectors s_a :
      0 ≤ (e − t S s)ᵀ C (e − t S s) = sᵀSs · t² − 2 (e·s) · t + eᵀCe     for every real t.
-/
import Mathlib.Algebra.QuadraticDiscriminant
import Mathlib.LinearAlgebra.Matrix.NonsingularInverse
import Mathlib.Analysis.Real.Sqrt
import Mathlib.Tactic.Linarith
import Mathlib.Tactic.Ring

namespace Cij.VRH
open Matrix

variable {n : Type*} [Fintype n] [DecidableEq n]

theorem inv_symm (C S : Matrix n n ℝ) (hC : Cᵀ = C) (h : C * S = 1) : Sᵀ = S := by
  have h1 : Sᵀ * C = 1 := by
    have := congrArg Matrix.transpose h
    rw [Matrix.transpose_mul, hC, Matrix.transpose_one] at this; exact this
  calc Sᵀ = Sᵀ * (C * S) := by rw [h, Matrix.mul_one]
    _ = (Sᵀ * C) * S := by rw [Matrix.mul_assoc]
    _ = S := by rw [h1, Matrix.one_mul]

/-- expansion of the stored energy of the strain `e − t·S s` -/
theorem energy_expand (C S : Matrix n n ℝ) (hC : Cᵀ = C) (h : C * S = 1) (e s : n → ℝ) (t : ℝ) :
    (e - t • (S *ᵥ s)) ⬝ᵥ C *ᵥ (e - t • (S *ᵥ s))
      = (s ⬝ᵥ S *ᵥ s) * (t * t) + (-2 * (e ⬝ᵥ s)) * t + e ⬝ᵥ C *ᵥ e := by
  have hCw : C *ᵥ (S *ᵥ s) = s := by rw [mulVec_mulVec, h, one_mulVec]
  have hwC : (S *ᵥ s) ᵥ* C = s := by
    have := vecMul_transpose Cᵀ (S *ᵥ s)
    rw [transpose_transpose, hC] at this
    rw [this, hCw]
  have h1 : (S *ᵥ s) ⬝ᵥ C *ᵥ e = e ⬝ᵥ s := by rw [dotProduct_mulVec, hwC, dotProduct_comm]
  have h2 : (S *ᵥ s) ⬝ᵥ s = s ⬝ᵥ S *ᵥ s := dotProduct_comm _ _
  simp only [mulVec_sub, mulVec_smul, hCw, sub_dotProduct, dotProduct_sub, smul_dotProduct,
    dotProduct_smul, smul_eq_mul, h1, h2]
  ring

theorem energy_nonneg (C S : Matrix n n ℝ) (hC : Cᵀ = C) (hpsd : ∀ x : n → ℝ, 0 ≤ x ⬝ᵥ C *ᵥ x)
    (h : C * S = 1) (e s : n → ℝ) (t : ℝ) :
    0 ≤ (s ⬝ᵥ S *ᵥ s) * (t * t) + (-2 * (e ⬝ᵥ s)) * t + e ⬝ᵥ C *ᵥ e := by
  rw [← energy_expand C S hC h e s t]; exact hpsd _

theorem sq_le_mul_of_quadratic_nonneg {X Y P : ℝ} (h : ∀ t : ℝ, 0 ≤ Y * (t * t) + (-2 * P) * t + X) :
    P ^ 2 ≤ X * Y := by
  have := discrim_le_zero h
  unfold discrim at this
  linarith

theorem cauchy_schwarz_inv (C S : Matrix n n ℝ) (hC : Cᵀ = C) (hpsd : ∀ x : n → ℝ, 0 ≤ x ⬝ᵥ C *ᵥ x)
    (h : C * S = 1) (e s : n → ℝ) :
    (e ⬝ᵥ s) ^ 2 ≤ (e ⬝ᵥ C *ᵥ e) * (s ⬝ᵥ S *ᵥ s) :=
  sq_le_mul_of_quadratic_nonneg (energy_nonneg C S hC hpsd h e s)

/-- the weighted sum of the energies is again a quadratic in `t` that is negative nowhere -/
theorem cauchy_schwarz_inv_sum (C S : Matrix n n ℝ) (hC : Cᵀ = C) (hpsd : ∀ x : n → ℝ, 0 ≤ x ⬝ᵥ C *ᵥ x)
    (h : C * S = 1) {ι : Type*} (I : Finset ι) (w : ι → ℝ) (hw : ∀ a ∈ I, 0 ≤ w a) (e s : ι → n → ℝ) :
    (∑ a ∈ I, w a * (e a ⬝ᵥ s a)) ^ 2 ≤
      (∑ a ∈ I, w a * (e a ⬝ᵥ C *ᵥ e a)) * (∑ a ∈ I, w a * (s a ⬝ᵥ S *ᵥ s a)) := by
  refine sq_le_mul_of_quadratic_nonneg fun t => ?_
  rw [Finset.sum_mul, Finset.mul_sum, Finset.sum_mul, ← Finset.sum_add_distrib, ← Finset.sum_add_distrib]
  refine Finset.sum_nonneg fun a ha => ?_
  have := mul_nonneg (hw a ha) (energy_nonneg C S hC hpsd h (e a) (s a) t)
  linarith

theorem div_le_div_of_mul_le_mul {X Y a b : ℝ} (hX : 0 < X) (ha : 0 < a) (hb : 0 < b) (h : a * b ≤ X * Y) :
    0 < a / Y ∧ a / Y ≤ X / b := by
  have hY : 0 < Y := (mul_pos_iff_of_pos_left hX).1 ((mul_pos ha hb).trans_le h)
  exact ⟨div_pos ha hY, (div_le_div_iff₀ hY hb).2 h⟩

end Cij.VRH
