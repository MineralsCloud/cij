/-
  C02 — what `cij/core/qha_adapter.py` and `cij/util/units.py` say on this run (Generated/QhaGlue.lean, translated by
  tools/gens/qha_src.py), and what it means (CijModel/QhaGlue.lean):

    * INVENTORY: every def of both modules is translated as data; no statement outside the grammar; module-level statements by kind
    * OBJECT GRAPH: every field cij reads through the adapter is an attribute of ONE qha calculator object — the one
      `_load_qha_calculator` built — and the (T,V) fields, the volume grid and the temperature grid of the gap formula are
      `cv_tv_au`, `p_tv_au`, `finer_volumes_bohr3`, `temperature_array` of that object
    * `read_input`: the five fields are stored unchanged; a volume list that is not non-increasing is rejected with RuntimeError
    * `convert_unit`: value form and curried form; argument order
    * UNITS: every helper converts between like dimensions; `_from_x` undoes `_to_x`; dimensional analysis of the bodies of
      nonshear.py with the units of the fields handed over: every body is a pressure in Ry/bohr³, `Q` is dimensionless
-/
import CijModel.QhaGlue
import Generated.QhaGlue
import Generated.AdapterSpec
import Generated.AdapterGuard
import Generated.CalcGlueSpec
import Generated.NonShearGlue
import Generated.NonShearExprs
import Generated.StaticSpec
import CijProofs.Lemmas.StaticUnits
import CijProofs.Lemmas.NonShearCalculus
import Mathlib.Algebra.Order.Group.Defs
import Mathlib.Algebra.Order.Group.Unbundled.Basic
import Mathlib.Tactic.Ring
import Mathlib.Tactic.FieldSimp

namespace Cij.QhaGlue
open Generated.QhaGlue Cij.StaticSrc

/-- the qualified names of the defs of qha_adapter.py -/
def adapterDefNames : List String := adapterDefs.map qualName

/-- **inventory of qha_adapter.py**: 38 defs, none defined twice; each is translated as data with every statement inside the grammar,
except `QHACalculator.desired_pressure_status`, which is the subject of tools/gens/adapter_guard.py; no class has class-level statements;
the only class with a base is `QHACalculator(qha.calculator.Calculator)`; the module level consists of imports, the logger and the four
classes -/
def AdapterInventory : Prop :=
  adapterDefs.length = 38 ∧ adapterDefNames.Nodup ∧
  (∀ d ∈ adapterDefs, d.how = .data → d.body.all (fun s => !s.isOther) = true) ∧
  (adapterDefs.filter (fun d => d.how != .data)).map qualName = ["QHACalculator.desired_pressure_status"] ∧
  (∀ d ∈ adapterDefs, d.kind ∈ ["method", "property", "staticmethod"]) ∧
  adapterClasses = [⟨"QHACalculator", ["qha.calculator.Calculator"], []⟩, ⟨"QHACalculatorAdapter", [], []⟩,
    ⟨"QHAVolumeBaseInterface", [], []⟩, ⟨"QHAPressureBaseInterface", [], []⟩] ∧
  (∀ d ∈ adapterDefs, adapterModule.isClass d.cls = true) ∧
  (adapterModuleStmts.filter (fun s => s.kind != "import")).map (fun s => (s.kind, s.name)) =
    [("assign", "logger"), ("class", "QHACalculator"), ("class", "QHACalculatorAdapter"), ("class", "QHAVolumeBaseInterface"),
     ("class", "QHAPressureBaseInterface")] ∧
  (adapterModuleStmts.filter (fun s => s.kind == "assign")).map (·.detail) = ["call:logging.getLogger(__name__)"]

instance : Decidable AdapterInventory := by unfold AdapterInventory; infer_instance

theorem adapter_inventory : AdapterInventory := by decide +kernel

/-- **inventory of units.py**: ten defs — `convert_unit` and nine helpers, every one translated as data (`convertUnit`, `unitHelpers`);
module level: docstring, two imports, `_T`, the default registry `units = pint.UnitRegistry()`, `__all__`, the defs — nothing else;
`__all__` lists `units` and defs of the module only, each once; the one def it does not export is `_to_kms` -/
def UnitsInventory : Prop :=
  unitsDefs = "convert_unit" :: unitHelpers.map (·.name) ∧ unitsDefs.Nodup ∧ unitsDefs.length = 10 ∧
  unitsModuleStmts.map (fun s => (s.kind, s.name)) =
    [("docstring", ""), ("import", "TypeVar"), ("import", "pint"), ("assign", "_T"), ("assign", "units"), ("assign", "__all__")]
      ++ unitsDefs.map (fun n => ("def", n)) ∧
  (unitsModuleStmts.filter (fun s => s.kind == "assign")).map (·.detail) = ["call:TypeVar('_T')", "call:pint.UnitRegistry()", "list"] ∧
  (∀ n ∈ unitsAll, n = "units" ∨ n ∈ unitsDefs) ∧ unitsAll.Nodup ∧
  unitsDefs.filter (fun n => !unitsAll.contains n) = ["_to_kms"]

instance : Decidable UnitsInventory := by unfold UnitsInventory; infer_instance

theorem units_inventory : UnitsInventory := by decide +kernel

/-- a `QHACalculatorAdapter(settings, qha_input)` -/
def adapterObj : Val := .new "QHACalculatorAdapter" (ofList [.opaque "settings", .opaque "qha_input"])

/-- the qha calculator `_load_qha_calculator` builds: `QHACalculator(copy.copy(DEFAULT_SETTINGS) …)` -/
def qhaObj : Val := .new "QHACalculator" (ofList [.ext ["copy", "copy"] (ofList [.opaque "DEFAULT_SETTINGS"])])

/-- the attribute of the qha calculator a chain of reads on the adapter ends in; `none` if it ends anywhere else -/
def fieldOf (chain : List String) : Option String :=
  match readChain adapterModule adapterObj chain with
  | some (.attr v a) => if v = qhaObj then some a else none
  | _ => none

/-- **the fields of the gap formula**: the adapter's own grid `v_array` and the volume interface's `v_array` are the SAME attribute
`finer_volumes_bohr3` of the same qha calculator object; `volume_base.heat_capacity` is its `cv_tv_au`, `volume_base.pressures` its
`p_tv_au`, `t_array` (both spellings) its `temperature_array`, `t_sample_array` its `temperature_sample_array`; `ntv` is the length of
`v_array`; `calculator` is the object `_load_qha_calculator` returned; `volume_base` / `pressure_base` are the interface objects made
once in `__init__` around that same object -/
def GapFields : Prop :=
  readChain adapterModule adapterObj ["calculator"] = some qhaObj ∧
  readChain adapterModule adapterObj ["v_array"] = some (.attr qhaObj "finer_volumes_bohr3") ∧
  readChain adapterModule adapterObj ["volume_base", "v_array"] = some (.attr qhaObj "finer_volumes_bohr3") ∧
  readChain adapterModule adapterObj ["volume_base", "heat_capacity"] = some (.attr qhaObj "cv_tv_au") ∧
  readChain adapterModule adapterObj ["volume_base", "pressures"] = some (.attr qhaObj "p_tv_au") ∧
  readChain adapterModule adapterObj ["t_array"] = some (.attr qhaObj "temperature_array") ∧
  readChain adapterModule adapterObj ["volume_base", "t_array"] = some (.attr qhaObj "temperature_array") ∧
  readChain adapterModule adapterObj ["pressure_base", "t_array"] = some (.attr qhaObj "temperature_array") ∧
  readChain adapterModule adapterObj ["t_sample_array"] = some (.attr qhaObj "temperature_sample_array") ∧
  readChain adapterModule adapterObj ["ntv"] = some (.len (.attr qhaObj "finer_volumes_bohr3")) ∧
  readChain adapterModule adapterObj ["volume_base"] = some (.new "QHAVolumeBaseInterface" (ofList [qhaObj])) ∧
  readChain adapterModule adapterObj ["pressure_base"] = some (.new "QHAPressureBaseInterface" (ofList [qhaObj]))

instance : Decidable GapFields := by unfold GapFields; infer_instance

/-- how often an attribute of `self` is assigned in all defs of a class -/
def assignCount (cls attr : String) : Nat :=
  ((adapterDefs.filter (·.cls == cls)).map fun d => (d.body.filter fun s => match s with
    | .assign t _ => t == ["self", attr] | _ => false).length).foldl (· + ·) 0

/-- **one object per adapter**: `calculator`, `volume_base_results`, `pressure_base_results` are assigned exactly once (in `__init__`),
and the interface classes assign their `calculator` once: every read returns the object made at construction (no fresh interface,
no second qha calculator); `v2p` is an empty method (`pass`) -/
def ObjectsStable : Prop :=
  assignCount "QHACalculatorAdapter" "calculator" = 1 ∧ assignCount "QHACalculatorAdapter" "volume_base_results" = 1 ∧
  assignCount "QHACalculatorAdapter" "pressure_base_results" = 1 ∧
  assignCount "QHAVolumeBaseInterface" "calculator" = 1 ∧ assignCount "QHAPressureBaseInterface" "calculator" = 1 ∧
  (adapterModule.find "QHACalculatorAdapter" "v2p").map (fun d => (d.kind, d.params, d.body)) = some ("method", ["self"], [.pass]) ∧
  (adapterModule.find "QHACalculator" "__init__").map (·.body) = some [.expr (.call ["super()", "__init__"] [["settings"]])]

instance : Decidable ObjectsStable := by unfold ObjectsStable; infer_instance

theorem objects_stable : ObjectsStable := by decide +kernel

/-- **the two translations of the interfaces agree**: for every row (property, attribute) of the tables `gen_adapter_spec` extracts,
the object-graph reading of `adapter.volume_base.<property>` / `adapter.pressure_base.<property>` is that attribute of the one qha
calculator (`""` = the property raises: no value) -/
def TablesAgree : Prop :=
  (∀ e ∈ Generated.qhaVolumeBaseAttrs, fieldOf ["volume_base", e.1] = if e.2 = "" then none else some e.2) ∧
  (∀ e ∈ Generated.qhaPressureBaseAttrs, fieldOf ["pressure_base", e.1] = if e.2 = "" then none else some e.2) ∧
  Generated.qhaVolumeBaseAttrs.length = 12 ∧ Generated.qhaPressureBaseAttrs.length = 12

instance : Decidable TablesAgree := by unfold TablesAgree; infer_instance

/-- the calls `_load_qha_calculator` makes on the calculator it is about to return, in order, as THIS translation reads them -/
def loadCalls : List (String × String) :=
  match adapterModule.find "QHACalculatorAdapter" "_load_qha_calculator" with
  | none => []
  | some d => d.body.filterMap fun s => match s with
    | .expr (.call ["calculator", m] args) => some (m, ",".intercalate (args.map fun a => ".".intercalate a))
    | _ => none

/-- the calls read here are the ones `adapter_guard.py` reads: `read_input(qha_input)` → `refine_grid()` → `desired_pressure_status()`; so the grid the
fields live on is the refined grid, and the volume-order guard of `read_input` runs before anything is computed -/
theorem load_calls_agree :
    loadCalls = Generated.adapterLoadCalls ∧
    loadCalls = [("read_input", "qha_input"), ("refine_grid", ""), ("desired_pressure_status", "")] := by decide +kernel

/-- **delegation**: cij's `Calculator` defines neither `v_array` nor `t_array`; its `__getattr__` hands unknown names to
`self.qha_calculator` (Generated.CalcGlue.calcDelegate), which `_load` assigns; the non-shear classes read `self.calculator.v_array`,
`self.calculator.t_array` and `self.calculator.qha_calculator` (Generated.NonShearGlue) — so the `V`, `T` of the gap are the adapter's
`v_array`, `t_array` above -/
def Delegation : Prop :=
  Generated.CalcGlue.calcDelegate = "qha_calculator" ∧
  (∀ c ∈ Generated.CalcGlue.classNames, c.1 = "Calculator" → "v_array" ∉ c.2 ∧ "t_array" ∉ c.2 ∧ "__getattr__" ∈ c.2) ∧
  (Generated.CalcGlue.classNames.filter (·.1 == "Calculator")).length = 1 ∧
  (∃ m ∈ Generated.CalcGlue.calcMethods, m.1 = "_load" ∧ "qha_calculator" ∈ m.2.2.1) ∧
  (Generated.NonShearGlue.accessors.filter (·.name == "v_array")).map (·.path) = [["calculator", "v_array"]] ∧
  (Generated.NonShearGlue.accessors.filter (·.name == "t_array")).map (·.path) = [["calculator", "t_array"]] ∧
  Generated.NonShearGlue.initStores.lookup "qha_calculator" = some (.selfPath ["calculator", "qha_calculator"])

instance : Decidable Delegation := by unfold Delegation; infer_instance

theorem delegation : Delegation := by decide +kernel

/-- the translated statements of `QHACalculator.read_input` -/
def readInputBody : List Stmt := ((adapterModule.find "QHACalculator" "read_input").map (·.body)).getD []

/-- the five fields handed to qha, in order, each the file's field unchanged -/
def fiveFields : List (Path × Rhs) :=
  [(["self", "_formula_unit_number"], .path ["qha_input", "nm"]),
   (["self", "_volumes"], .arrayOfField "volume" ["qha_input", "volumes"]),
   (["self", "_static_energies"], .arrayOfField "energy" ["qha_input", "volumes"]),
   (["self", "_frequencies"], .arrayOfNestedPick 1 2 "q_points" ["qha_input", "volumes"]),
   (["self", "_q_weights"], .arrayOfPick 1 2 ["qha_input", "weights"])]

theorem readInputBody_eq : readInputBody =
    [.assign ["self", "_formula_unit_number"] (.path ["qha_input", "nm"]),
     .assign ["self", "_volumes"] (.arrayOfField "volume" ["qha_input", "volumes"]),
     .guardRaise true ["qha", "tools", "is_monotonic_decreasing"] [["self", "_volumes"]] "RuntimeError",
     .assign ["self", "_static_energies"] (.arrayOfField "energy" ["qha_input", "volumes"]),
     .assign ["self", "_frequencies"] (.arrayOfNestedPick 1 2 "q_points" ["qha_input", "volumes"]),
     .assign ["self", "_q_weights"] (.arrayOfPick 1 2 ["qha_input", "weights"])] := by decide +kernel

section
variable {α : Type} [Sub α] [LE α] [DecidableLE α] [OfNat α 0]

/-- **`read_input` is the source**: for every list of volumes (any ordered scalar type — also `Float`, where a NaN difference
rejects), the translated statements store exactly the five fields when `is_monotonic_decreasing(volumes)` and raise RuntimeError
otherwise; nothing else happens -/
theorem read_input_is_source (vols : List α) :
    runReadInput vols readInputBody [] =
      some (if isMonotonicDecreasing vols then .ok fiveFields else .error "RuntimeError") := by
  rw [readInputBody_eq]
  cases h : isMonotonicDecreasing vols <;>
    simp [runReadInput, predMeaning, List.lookup, fiveFields, h]

end

section
variable {α : Type} [AddCommGroup α] [LinearOrder α] [IsOrderedAddMonoid α]

theorem isMonotonicDecreasing_iff_isChain (xs : List α) :
    isMonotonicDecreasing xs = true ↔ xs.IsChain fun a b => b ≤ a := by
  induction xs with
  | nil => simp [isMonotonicDecreasing, diff]
  | cons a t ih =>
    cases t with
    | nil => simp [isMonotonicDecreasing, diff]
    | cons b t' =>
      rw [List.isChain_cons_cons, ← ih]
      simp only [isMonotonicDecreasing, diff, List.all_cons, Bool.and_eq_true, decide_eq_true_eq, sub_nonpos]

theorem diff_all_nonpos_iff (xs : List α) :
    isMonotonicDecreasing xs = true ↔ ∀ i (h : i + 1 < xs.length), xs[i + 1] ≤ xs[i] := by
  rw [isMonotonicDecreasing_iff_isChain, List.isChain_iff_getElem]

/-- **volume blocks not in decreasing order are rejected**: over any linearly ordered additive group (ℝ, ℚ, ℤ) the translated
`read_input` accepts a list of volumes iff it is non-increasing (every next volume ≤ the previous one; equal neighbours pass, as in
`np.all(np.diff(v) <= 0)`), and raises RuntimeError as soon as one volume is larger than its predecessor -/
theorem read_input_accepts_iff (vols : List α) :
    (runReadInput vols readInputBody [] = some (.ok fiveFields) ↔ ∀ i (h : i + 1 < vols.length), vols[i + 1] ≤ vols[i]) ∧
    ((∃ i, ∃ h : i + 1 < vols.length, vols[i] < vols[i + 1]) → runReadInput vols readInputBody [] = some (.error "RuntimeError")) := by
  rw [read_input_is_source]
  constructor
  · rw [← diff_all_nonpos_iff]
    cases isMonotonicDecreasing vols <;> simp
  · rintro ⟨i, h, hlt⟩
    have : isMonotonicDecreasing vols = false := by
      by_contra hc
      have ht : isMonotonicDecreasing vols = true := by simpa using hc
      exact absurd ((diff_all_nonpos_iff vols).1 ht i h) (not_le.2 hlt)
    simp [this]

end

/-- **`convert_unit` is the source**: for any type of units and any conversion `conv u u' x` (= pint's
`units.Quantity(x, u).to(u').magnitude`), `convert_unit(uFrom, uTo, v)` is `conv uFrom uTo v` — first argument the source unit, second
the target — and `convert_unit(uFrom, uTo)` is the function `conv uFrom uTo` -/
theorem convert_unit_is_source {U α : Type} (conv : U → U → α → α) (uFrom uTo : U) :
    (∀ v : α, convertUnit.meaning conv uFrom uTo (some v) = some (.value (conv uFrom uTo v))) ∧
    convertUnit.meaning conv uFrom uTo none = some (.function (conv uFrom uTo)) := by
  constructor
  · intro v; rfl
  · rfl

/-- the helper of that name in units.py -/
def helper? (n : String) : Option UnitHelper := unitHelpers.find? fun h => h.name = n

/-- dimension (in halves) of a pint unit expression -/
def uDim (e : UExpr) : Option Dim := (UExpr.mono2 e).bind Mono2.dim

/-- **every helper converts between units of one dimension** (ℤ-exponent vectors over length, mass, time, temperature, amount; unit
expressions → monomials → dimension), and the nine helpers are these -/
def HelpersDimensional : Prop :=
  unitHelpers.map (·.name) = ["_to_gpa", "_from_gpa", "_to_ang3", "_from_ang3", "_to_ev", "_from_ev", "_from_gcm3", "_to_gcm3", "_to_kms"] ∧
  (∀ h ∈ unitHelpers, (uDim h.src).isSome = true ∧ uDim h.src = uDim h.dst) ∧
  (helper? "_to_gpa").map (fun h => uDim h.dst) = some (some ⟨-2, 2, -4, 0, 0⟩) ∧
  (helper? "_to_ang3").map (fun h => uDim h.dst) = some (some ⟨6, 0, 0, 0, 0⟩) ∧
  (helper? "_to_ev").map (fun h => uDim h.dst) = some (some ⟨4, 2, -4, 0, 0⟩) ∧
  (helper? "_to_gcm3").map (fun h => uDim h.dst) = some (some ⟨-6, 2, 0, 0, 0⟩) ∧
  (helper? "_to_kms").map (fun h => uDim h.dst) = some (some ⟨2, 0, -2, 0, 0⟩)

instance : Decidable HelpersDimensional := by unfold HelpersDimensional uDim; infer_instance

theorem helpers_dimensional : HelpersDimensional := by decide +kernel

/-- the `_to_x` / `_from_x` pairs -/
def helperPairs : List (String × String) :=
  [("_to_gpa", "_from_gpa"), ("_to_ang3", "_from_ang3"), ("_to_ev", "_from_ev"), ("_to_gcm3", "_from_gcm3")]

/-- `_from_x` is `_to_x` with source and target exchanged, as unit expressions -/
def pairInverse (p : String × String) : Bool :=
  match helper? p.1, helper? p.2 with
  | some a, some b => a.src == b.dst && a.dst == b.src
  | _, _ => false

/-- **`_from_x` is `_to_x` with source and target exchanged**, for the four pairs -/
theorem pairs_inverse : helperPairs.all pairInverse = true := by decide +kernel

/-- hence `_from_x(_to_x(v)) = v` and `_to_x(_from_x(v)) = v` for every value, whatever non-zero values the unit names have
(`factor` = one source unit in target units, Lemmas/StaticUnits.lean) -/
theorem pair_roundtrip (base : String → ℝ) (p : String × String) (hp : p ∈ helperPairs) (a b : UnitHelper)
    (ha : helper? p.1 = some a) (hb : helper? p.2 = some b) (h1 : a.src.val base ≠ 0) (h2 : a.dst.val base ≠ 0) (v : ℝ) :
    v * a.factor base * b.factor base = v ∧ v * b.factor base * a.factor base = v := by
  have hpi := List.all_eq_true.1 pairs_inverse p hp
  simp only [pairInverse, ha, hb, Bool.and_eq_true, beq_iff_eq] at hpi
  obtain ⟨e1, e2⟩ := hpi
  unfold UnitHelper.factor
  rw [← e1, ← e2]
  constructor <;> field_simp

/-- C18's table of helpers (Generated.staticUnitHelpers) is a sub-table of this one: one reading of units.py -/
theorem helpers_agree_with_static : ∀ h ∈ Generated.staticUnitHelpers, h ∈ unitHelpers := by decide +kernel

/-! ### units of the fields and dimensional analysis of the gap -/

/-- Ry/bohr³, exponents in halves -/
def pressureAu : Mono2 := [("rydberg", 2), ("bohr", -6)]

/-- the unit of the qha field a chain of reads on the adapter ends in -/
def chainUnit (chain : List String) : Option Mono2 := (fieldOf chain).bind qhaFieldUnit

/-- the target unit of the conversion bound to `name` in `method` of the longitudinal class of nonshear.py (Generated.NonShearGlue) -/
def convUnit (method name : String) : Option Mono2 :=
  (Generated.NonShearGlue.unitConvs.find? fun c => c.cls == "LongitudinalElasticModulusPhononContribution" && c.method == method
    && c.name == name).map fun c => ofMono c.to

open Cij.NSExpr in
/-- unit of every symbol of the translated bodies, READ OFF the translated sources: `T`, `V`, `C_V`, `P` from the qha field the
adapter hands over (through the object graph), `k`, `h` from the `.to(…)` unit of their `units.Quantity` conversion in the method;
the static pressure and the partial results are pressures in Ry/bohr³; `na` is a number -/
def symUnit (method : String) : SSym → Option Mono2
  | .T => chainUnit ["t_array"]
  | .V => chainUnit ["v_array"]
  | .cv => chainUnit ["volume_base", "heat_capacity"]
  | .P => chainUnit ["volume_base", "pressures"]
  | .k => convUnit method "k"
  | .h => convUnit method "h"
  | .na => some Mono2.one
  | .pst | .zp | .th | .iso | .gap => some pressureAu

/-- phonon frequencies are wavenumbers in cm⁻¹ -/
def freqUnit : Mono2 := [("cm", -2)]

def isPressureAu (m : Option Mono2) : Bool :=
  match m with
  | some x => Mono2.eqv x pressureAu && (Mono2.dim x == some ⟨-2, 2, -4, 0, 0⟩)
  | none => false

/-- **dimension bookkeeping of the gap** (monomials over unit names, ℤ exponents; then SI dimension vectors).  With `T` in K, `V` in
bohr³, `C_V` in Ry/K (the units of the qha fields the translated adapter hands over) and `k_B` converted to Ry/K (the `.to(…)` of the
translated conversion), the translated body of `isothermal_to_adiabatic` — both classes — is a pressure in Ry/bohr³ exactly: the same
monomial as the `pressures` field, as the source unit of `_to_gpa`, and as the statement's `T·V·(∂P/∂T)²/C_V` with `P` in the unit of
`pressures`; `value_adiabatic = value_isothermal + gap` adds like units -/
def GapUnits : Prop :=
  chainUnit ["t_array"] = some [("K", 2)] ∧ chainUnit ["v_array"] = some [("bohr", 6)] ∧
  chainUnit ["volume_base", "heat_capacity"] = some [("rydberg", 2), ("K", -2)] ∧
  isPressureAu (chainUnit ["volume_base", "pressures"]) = true ∧
  convUnit "isothermal_to_adiabatic" "k" = some [("K", -2), ("rydberg", 2)] ∧
  isPressureAu (unitOfS (symUnit "isothermal_to_adiabatic") freqUnit Generated.nsGapLong.expr) = true ∧
  isPressureAu (unitOfS (symUnit "isothermal_to_adiabatic") freqUnit Generated.nsGapOff.expr) = true ∧
  isPressureAu (unitOfS (symUnit "value_adiabatic") freqUnit Generated.nsAdiaLong.expr) = true ∧
  isPressureAu (unitOfS (symUnit "value_adiabatic") freqUnit Generated.nsAdiaOff.expr) = true ∧
  isPressureAu ((helper? "_to_gpa").bind fun h => UExpr.mono2 h.src) = true ∧
  isPressureAu (do
    let t ← chainUnit ["t_array"]; let v ← chainUnit ["v_array"]; let c ← chainUnit ["volume_base", "heat_capacity"]
    let p ← chainUnit ["volume_base", "pressures"]
    let dpdt := Mono2.div p t
    pure (Mono2.div (Mono2.mul t (Mono2.mul v (Mono2.mul dpdt dpdt))) c)) = true

instance : Decidable GapUnits := by unfold GapUnits; infer_instance

/-- **every body of the non-shear classes is a pressure in Ry/bohr³** with the same assignments (`h` in Ry·cm, frequencies in cm⁻¹):
zero-point, thermal and isothermal value of both classes — so the isothermal value the gap is added to carries the gap's unit -/
def BodiesUnits : Prop :=
  isPressureAu (unitOfS (symUnit "zero_point_contribution") freqUnit Generated.nsZpLong.expr) = true ∧
  isPressureAu (unitOfS (symUnit "zero_point_contribution") freqUnit Generated.nsZpOff.expr) = true ∧
  isPressureAu (unitOfS (symUnit "thermal_contribution") freqUnit Generated.nsThLong.expr) = true ∧
  isPressureAu (unitOfS (symUnit "thermal_contribution") freqUnit Generated.nsThOff.expr) = true ∧
  isPressureAu (unitOfS (symUnit "value_isothermal") freqUnit Generated.nsIsoLong.expr) = true ∧
  isPressureAu (unitOfS (symUnit "value_isothermal") freqUnit Generated.nsIsoOff.expr) = true

instance : Decidable BodiesUnits := by unfold BodiesUnits; infer_instance

/-- the `h_div_k` of nonshear.py: target unit of its conversion -/
def hdkUnit : Option Mono2 :=
  (Generated.NonShearGlue.unitConvs.find? fun c => c.name == "h_div_k").map fun c => ofMono c.to

/-- **`Q = ħω/k_BT` is dimensionless**: the translated `Q` with `h_div_k` in the unit its conversion targets (K·cm), ω in cm⁻¹ and `T`
in the unit of the adapter's `t_array` has the empty monomial; the conversion's source unit is that of `_h / _k` with `_h` in J·m
(= (molar Planck constant × c)/Avogadro constant of scipy's table) and `_k` in eV/K, of the same dimension as K·cm; `k_B` is converted
from eV/K to Ry/K and `h` from J·m to Ry·cm, like to like -/
def QUnits : Prop :=
  hdkUnit = some [("K", 2), ("cm", 2)] ∧
  (match hdkUnit, chainUnit ["t_array"] with
   | some hk, some t => (unitOfQ hk freqUnit t Generated.NonShearGlue.qDef).map (Mono2.eqv Mono2.one) = some true
   | _, _ => False) ∧
  (∀ c ∈ Generated.NonShearGlue.unitConvs, (Mono2.dim (ofMono c.frm)).isSome = true ∧ Mono2.dim (ofMono c.frm) = Mono2.dim (ofMono c.to)) ∧
  (∀ c ∈ Generated.NonShearGlue.unitConvs, c.name = "k" → c.value = "_k" ∧ ofMono c.frm = [("K", -2), ("eV", 2)] ∧
    ofMono c.to = [("K", -2), ("rydberg", 2)]) ∧
  (∀ c ∈ Generated.NonShearGlue.unitConvs, c.name = "h" → c.value = "_h" ∧ ofMono c.frm = [("J", 2), ("m", 2)] ∧
    ofMono c.to = [("cm", 2), ("rydberg", 2)]) ∧
  (∀ c ∈ Generated.NonShearGlue.unitConvs, c.name = "h" ∨ c.name = "k" ∨ c.name = "h_div_k") ∧
  Generated.NonShearGlue.constDefs = [("_h", .div (.phys "molar Planck constant times c" 0) (.phys "Avogadro constant" 0)),
    ("_k", .phys "Boltzmann constant in eV/K" 0)]

instance : Decidable QUnits := by
  unfold QUnits
  refine @instDecidableAnd _ _ _ (@instDecidableAnd _ _ ?_ _)
  cases hdkUnit <;> cases chainUnit ["t_array"] <;> infer_instance

/-- the five statements read the adapter through the same object graph (`readChain adapterModule adapterObj`): ONE evaluation, in which
the kernel unfolds the translated classes once -/
theorem object_graph_facts : GapFields ∧ TablesAgree ∧ GapUnits ∧ BodiesUnits ∧ QUnits := by decide +kernel

theorem gap_units : GapUnits := object_graph_facts.2.2.1
theorem q_units : QUnits := object_graph_facts.2.2.2.2

/-! ### the same bookkeeping as a statement about NUMBERS: covariance under a change of units -/

/-- value of a monomial with whole exponents (every halves-exponent even) when one unit `u` is worth `lam u` -/
noncomputable def Mono2.val (lam : String → ℝ) (m : Mono2) : ℝ := (m.map fun p => lam p.1 ^ (p.2 / 2)).prod

open Cij.NSExpr in
/-- the environment of a body after a change of units: every symbol is multiplied by the value of its unit -/
noncomputable def rescale (lam : String → ℝ) (method : String) (e : SEnv ℝ) : SEnv ℝ :=
  let f := fun s => Mono2.val lam ((symUnit method s).getD [])
  { e with h := f .h * e.h, k := f .k * e.k, T := f .T * e.T, V := f .V * e.V, cv := f .cv * e.cv, P := f .P * e.P,
           pst := f .pst * e.pst, zp := f .zp * e.zp, th := f .th * e.th, iso := f .iso * e.iso, gap := f .gap * e.gap }

theorem Mono2.val_nil (lam : String → ℝ) : Mono2.val lam [] = 1 := rfl

theorem Mono2.val_cons (lam : String → ℝ) (u : String) (n : ℤ) (m : Mono2) :
    Mono2.val lam ((u, n) :: m) = lam u ^ (n / 2) * Mono2.val lam m := rfl

theorem chainUnit_T : chainUnit ["t_array"] = some [("K", 2)] := gap_units.1

/-- the gap `T/V/C_V · A₁ · A₂ · (c k n)²` is homogeneous: scaling `T`, `V`, `C_V`, `k` by `x`, `y`, `z`, `u` scales it by
`x u²/(y z)`, whatever the two mode averages are -/
theorem gap_homogeneous (x y z u p : ℝ) (hp : p = x / (y * z) * u * u) (T V cv k A₁ A₂ c n : ℝ) :
    x * T / (y * V) / (z * cv) * A₁ * A₂ * (c * (u * k) * n * (c * (u * k) * n))
      = p * (T / V / cv * A₁ * A₂ * (c * k * n * (c * k * n))) := by
  rw [hp]; ring

open Cij.NSExpr in
/-- **the translated gap is covariant**: measure temperature, length and energy in other units (K → lam K, bohr → lam bohr, rydberg →
lam rydberg, all non-zero), i.e. multiply `T`, `V`, `C_V`, `k_B` by the values of the units the sources give them; the translated body
of `isothermal_to_adiabatic` is multiplied by the value of Ry/bohr³ — it is a pressure in the atomic units of its inputs, for every
spectrum, weights and grid point -/
theorem gap_covariant (lam : String → ℝ) (hK : lam "K" ≠ 0) (hb : lam "bohr" ≠ 0) (hr : lam "rydberg" ≠ 0) (e : SEnv ℝ) :
    evalS (rescale lam "isothermal_to_adiabatic" e) Generated.nsGapLong.expr
      = Mono2.val lam pressureAu * evalS e Generated.nsGapLong.expr ∧
    evalS (rescale lam "isothermal_to_adiabatic" e) Generated.nsGapOff.expr
      = Mono2.val lam pressureAu * evalS e Generated.nsGapOff.expr := by
  have hT : symUnit "isothermal_to_adiabatic" .T = some [("K", 2)] := chainUnit_T
  have hV : symUnit "isothermal_to_adiabatic" .V = some [("bohr", 6)] := gap_units.2.1
  have hc : symUnit "isothermal_to_adiabatic" .cv = some [("rydberg", 2), ("K", -2)] := gap_units.2.2.1
  have hk : symUnit "isothermal_to_adiabatic" .k = some [("K", -2), ("rydberg", 2)] := gap_units.2.2.2.2.1
  have long : evalS (rescale lam "isothermal_to_adiabatic" e) Generated.nsGapLong.expr
      = Mono2.val lam pressureAu * evalS e Generated.nsGapLong.expr := by
    simp only [Generated.nsGapLong, evalS, SEnv.get, rescale, hT, hV, hc, hk, Option.getD_some]
    -- the averages are left as they stand; what remains is [T]·[k]²/([V]·[C_V]) = Ry/bohr³ for the values of the units
    refine gap_homogeneous _ _ _ _ _ ?_ ..
    simp only [Mono2.val_cons, Mono2.val_nil, pressureAu]
    norm_num [zpow_ofNat, zpow_neg]
    field_simp
  -- the off-diagonal class inherits the method: the same expression
  exact ⟨long, long⟩

open Cij.NSGlue in
/-- **the translated `Q` is invariant** under the same change of units: `h_div_k` in K·cm, ω in cm⁻¹, `T` in K -/
theorem q_invariant (lam : String → ℝ) (hK : lam "K" ≠ 0) (hc : lam "cm" ≠ 0) (hdk T f : ℝ) :
    evalQDef (Mono2.val lam (hdkUnit.getD []) * hdk) (Mono2.val lam ((chainUnit ["t_array"]).getD []) * T)
        (Mono2.val lam freqUnit * f) Generated.NonShearGlue.qDef
      = evalQDef hdk T f Generated.NonShearGlue.qDef := by
  have h1 : hdkUnit = some [("K", 2), ("cm", 2)] := q_units.1
  simp only [h1, chainUnit_T, Option.getD_some, Mono2.val_cons, Mono2.val_nil, freqUnit, Generated.NonShearGlue.qDef, evalQDef]
  norm_num [zpow_ofNat, zpow_neg]
  field_simp

end Cij.QhaGlue
