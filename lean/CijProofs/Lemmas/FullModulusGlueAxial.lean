/-
  C05 — continuation of Lemmas/FullModulusGlueSource.lean: the remaining methods of `full_modulus.py` and
  `Calculator._calculate_pressure_static` as translated on this run, each run statement by statement (a `calc` over the states) onto
  the model function; the sibling `fit_modulus` of `cij/cli/static.py`.
-/
import CijProofs.Lemmas.FullModulusGlueSource

namespace Cij.FMGlue
open Cij Cij.LeastSq Cij.FullModulus Generated.FullModulusGlue

section
variable {α : Type} [Field α] [BEq α]

/- see Lemmas/FullModulusGlueSource.lean: string comparisons only through lemmas, never by `whnf` inside `simp` -/
attribute [local irreducible] lookup isProp isPure findMethod

/-- the class as a method with `n` levels of calls left sees it -/
def Kn (C : Ctx α) (n : Nat) : Kernel α := ⟨isProp cls, isPure cls, callM cls C n⟩

/-- `tmp = params[[0, *range(len(params)), -1]]` -/
def tmpOf (p : List α) : List α := nth p 0 :: (p ++ [nth p (p.length - 1)])

/-- `(tmp[2:] - tmp[:-2]) / (tmp[2:] + tmp[:-2])` on `n` grid points -/
def colF (n : Nat) (p : List α) : List α :=
  (List.range n).map fun k => (nth (tmpOf p) (k + 2) - nth (tmpOf p) k) / (nth (tmpOf p) (k + 2) + nth (tmpOf p) k)

/-- the body of `for i in range(3)` in `get_axial_strains`, as translated -/
def axBody : List LStmt :=
  match m_get_axial_strains.body with
  | [_, _, _, _, .forRange _ _ b, _, _] => b
  | _ => []

omit [BEq α] in
theorem colOf_lattice (lat : List (List α)) (i : Nat) (hi : i < 3) (hrow : ∀ row ∈ lat, row.length = 3) :
    allSomeL (lat.map fun row => row[i]?) = some (lat.map fun row => nth row i) := by
  rw [allSomeL_congr (fun row => row[i]?) (fun row => some (nth row i)) lat]
  · exact allSomeL_map_some _ lat
  · intro row hr
    have := hrow row hr
    rw [List.getElem?_eq_getElem (by omega), nth_eq_getElem row i (by omega)]

theorem axBody_eq : axBody =
    [.assign "_l4" (.callSelf1 "fit_modulus" (.colOf (.loc "_l1") (.loc "_l3"))),
     .assign "_l5" (.edgeRep (.loc "_l4")),
     .setCol "_l2" (.loc "_l3") (.div (.sub (.dropFirst (.loc "_l5") 2) (.dropLast (.loc "_l5") 2))
        (.add (.dropFirst (.loc "_l5") 2) (.dropLast (.loc "_l5") 2)))] := rfl

theorem axial_iter (C : Ctx α) (n : Nat) (attrs : Env α) (hw : Wired attrs) (table : List (String × List α)) (loc : Env α)
    (i : Nat) (hi : i < 3) (f : Nat → List α) (hf : ∀ k, (f k).length = 3)
    (hv : vols C ≠ []) (hg : C.calculator.vArray ≠ [])
    (hlat : C.calculator.elastData.lattice.length = (vols C).length)
    (hrow : ∀ row ∈ C.calculator.elastData.lattice, row.length = 3)
    (h1 : lookup loc "_l1" = some (.mat C.calculator.elastData.lattice))
    (h2 : lookup loc "_l2" = some (.mat ((List.range C.calculator.vArray.length).map f))) :
    execLs C (Kn C (n + 2)) axBody ⟨attrs, ("_l3", .nat i) :: loc⟩
      = (fitModulus (inputsOf C table) (C.calculator.elastData.lattice.map fun row => nth row i)).map fun p =>
          ⟨attrs, ("_l2", .mat ((List.range C.calculator.vArray.length).map fun k =>
                      (f k).set i (nth (colF C.calculator.vArray.length p) k)))
                  :: ("_l5", .ar (tmpOf p)) :: ("_l4", .ar p) :: ("_l3", .nat i) :: loc⟩ := by
  have hcol := colOf_lattice C.calculator.elastData.lattice i hi hrow
  have hl : (C.calculator.elastData.lattice.map fun row => nth row i).length = (vols C).length := by simp [hlat]
  have hfit := fit_default_src C n attrs hw table _ hv hl
  have s1 : execL C (Kn C (n + 2)) ⟨attrs, ("_l3", .nat i) :: loc⟩
        (.assign "_l4" (.callSelf1 "fit_modulus" (.colOf (.loc "_l1") (.loc "_l3"))))
      = (fitModulus (inputsOf C table) (C.calculator.elastData.lattice.map fun row => nth row i)).map fun p =>
          ⟨attrs, ("_l4", .ar p) :: ("_l3", .nat i) :: loc⟩ := by
    simp [execL, evalX, X.eval, Kn, Kernel.hooks, lookup, h1, hcol, hfit]
    rfl
  rw [axBody_eq, execLs, s1]
  cases hp : fitModulus (inputsOf C table) (C.calculator.elastData.lattice.map fun row => nth row i) with
  | none => rfl
  | some p =>
      have hlen : p.length = C.calculator.vArray.length := by
        have := fitModulus_length _ _ _ _ hp
        simpa [inputsOf] using this
      have hne : p ≠ [] := by
        intro h; rw [h] at hlen; exact hg (List.length_eq_zero_iff.mp hlen.symm)
      obtain ⟨hh, hl'⟩ := head_getLast p hne
      have ht : (tmpOf p).length = C.calculator.vArray.length + 2 := by simp [tmpOf, hlen]
      have hedge : List.zipWith (fun p q => p / q)
            (List.zipWith (fun p q => p - q) ((tmpOf p).drop 2) ((tmpOf p).take ((tmpOf p).length - 2)))
            (List.zipWith (fun p q => p + q) ((tmpOf p).drop 2) ((tmpOf p).take ((tmpOf p).length - 2)))
          = colF C.calculator.vArray.length p := edge_lists (tmpOf p) _ ht
      have hset := setCol_rows f C.calculator.vArray.length i (colF C.calculator.vArray.length p) (by simp [colF])
        (fun k => by rw [hf k]; exact hi)
      simp only [Option.map_some, Option.bind_some]
      refine (execLs_step (st' := ⟨attrs, ("_l5", .ar (tmpOf p)) :: ("_l4", .ar p) :: ("_l3", .nat i) :: loc⟩) ?_).trans
        ((execLs_step ?_).trans rfl)
      · simp [execL, evalX, X.eval, lookup, hh, hl', tmpOf]
      · have e1 : ((tmpOf p).drop 2).length = ((tmpOf p).take ((tmpOf p).length - 2)).length := by simp [ht]
        simp [execL, evalX, X.eval, lookup, h2, bin, zipSame, e1, hedge, hset]

/-- the raw strain matrix after the loop: row `k` = the three columns at grid point `k` -/
def rows3 (n : Nat) (c0 c1 c2 : List α) : List (List α) := (List.range n).map fun k => [nth c0 k, nth c1 k, nth c2 k]

/-- `L`: the locals underneath `_l2` -/
theorem axial_loop (C : Ctx α) (n : Nat) (attrs : Env α) (hw : Wired attrs) (table : List (String × List α)) (loc : Env α)
    (hv : vols C ≠ []) (hg : C.calculator.vArray ≠ [])
    (hlat : C.calculator.elastData.lattice.length = (vols C).length)
    (hrow : ∀ row ∈ C.calculator.elastData.lattice, row.length = 3)
    (h1 : lookup loc "_l1" = some (.mat C.calculator.elastData.lattice))
    (h2 : lookup loc "_l2" = some (.mat ((List.range C.calculator.vArray.length).map fun _ => [0, 0, 0]))) :
    ∃ L : List α → List α → List α → Env α,
      runLoop C (Kn C (n + 2)) "_l3" axBody [.nat 0, .nat 1, .nat 2] ⟨attrs, loc⟩
        = (fitModulus (inputsOf C table) (C.calculator.elastData.lattice.map fun row => nth row 0)).bind fun p0 =>
          (fitModulus (inputsOf C table) (C.calculator.elastData.lattice.map fun row => nth row 1)).bind fun p1 =>
          (fitModulus (inputsOf C table) (C.calculator.elastData.lattice.map fun row => nth row 2)).map fun p2 =>
            ⟨attrs, ("_l2", .mat (rows3 C.calculator.vArray.length (colF C.calculator.vArray.length p0)
                (colF C.calculator.vArray.length p1) (colF C.calculator.vArray.length p2))) :: L p0 p1 p2⟩ := by
  let N := C.calculator.vArray.length
  let f1 (p0 : List α) (k : Nat) : List α := [0, 0, 0].set 0 (nth (colF N p0) k)
  let f2 (p0 p1 : List α) (k : Nat) : List α := (f1 p0 k).set 1 (nth (colF N p1) k)
  let loc1 (p0 : List α) : Env α :=
    ("_l2", .mat ((List.range N).map (f1 p0))) :: ("_l5", .ar (tmpOf p0)) :: ("_l4", .ar p0) :: ("_l3", .nat 0) :: loc
  let loc2 (p0 p1 : List α) : Env α :=
    ("_l2", .mat ((List.range N).map (f2 p0 p1))) :: ("_l5", .ar (tmpOf p1)) :: ("_l4", .ar p1) :: ("_l3", .nat 1) :: loc1 p0
  refine ⟨fun p0 p1 p2 => ("_l5", .ar (tmpOf p2)) :: ("_l4", .ar p2) :: ("_l3", .nat 2) :: loc2 p0 p1, ?_⟩
  have i0 := axial_iter C n attrs hw table loc 0 (by omega) (fun _ => [0, 0, 0]) (fun _ => rfl) hv hg hlat hrow h1 h2
  simp only [runLoop]
  rw [i0]
  cases hp0 : fitModulus (inputsOf C table) (C.calculator.elastData.lattice.map fun row => nth row 0) with
  | none => simp
  | some p0 =>
    have i1 := axial_iter C n attrs hw table (loc1 p0) 1 (by omega) (f1 p0) (fun _ => by simp [f1]) hv hg hlat hrow
      (by simp [lookup, h1, loc1]) (by simp [lookup, loc1, N])
    simp only [Option.map_some, Option.bind_some]
    rw [i1]
    cases hp1 : fitModulus (inputsOf C table) (C.calculator.elastData.lattice.map fun row => nth row 1) with
    | none => simp
    | some p1 =>
      have i2 := axial_iter C n attrs hw table (loc2 p0 p1) 2 (by omega) (f2 p0 p1) (fun _ => by simp [f2, f1]) hv hg hlat hrow
        (by simp [lookup, h1, loc2, loc1]) (by simp [lookup, loc2, N])
      simp only [Option.map_some, Option.bind_some]
      rw [i2]
      cases hp2 : fitModulus (inputsOf C table) (C.calculator.elastData.lattice.map fun row => nth row 2) with
      | none => simp
      | some p2 => simp [rows3, N, f1, f2, loc1, loc2]

/-- the model's `getAxialStrains` with a lattice block, written out -/
theorem getAxialStrains_nonempty (inp : Inputs α) (h : inp.lattice ≠ []) :
    getAxialStrains inp
      = (fitModulus inp (inp.lattice.map fun row => nth row 0)).bind fun p0 =>
        (fitModulus inp (inp.lattice.map fun row => nth row 1)).bind fun p1 =>
        (fitModulus inp (inp.lattice.map fun row => nth row 2)).map fun p2 =>
          (rows3 inp.vArray.length (colF inp.vArray.length p0) (colF inp.vArray.length p1) (colF inp.vArray.length p2)).map
            normaliseBySum := by
  have hne : inp.lattice.isEmpty = false := by
    cases hl : inp.lattice with
    | nil => exact absurd hl h
    | cons a t => rfl
  unfold getAxialStrains
  simp only [hne, Bool.false_eq_true, if_false, List.mapM_cons, List.mapM_nil, bind, pure]
  cases fitModulus inp (inp.lattice.map fun row => nth row 0) with
  | none => rfl
  | some p0 =>
    cases fitModulus inp (inp.lattice.map fun row => nth row 1) with
    | none => rfl
    | some p1 =>
      cases fitModulus inp (inp.lattice.map fun row => nth row 2) with
      | none => rfl
      | some p2 => simp [rows3, colF, tmpOf]

theorem getAxialStrains_rows (inp : Inputs α) (e : List (List α)) (hl : inp.lattice ≠ [])
    (h : getAxialStrains inp = some e) :
    ∀ row ∈ e, ∃ raw : List α, raw.length = 3 ∧ row = normaliseBySum raw := by
  rw [getAxialStrains_nonempty inp hl] at h
  simp only [Option.bind_eq_some_iff, Option.map_eq_some_iff] at h
  obtain ⟨p0, -, p1, -, p2, -, rfl⟩ := h
  intro row hrow
  obtain ⟨raw, hraw, rfl⟩ := List.mem_map.mp hrow
  obtain ⟨k, -, rfl⟩ := List.mem_map.mp hraw
  exact ⟨_, rfl, rfl⟩

omit [BEq α] in
theorem fun1_array_rows (C : Ctx α) (l : List (List α)) (h : ∀ row ∈ l, row.length = 3) :
    fun1 C "numpy.array" (.rows l) = some (.mat l) := by
  cases l with
  | nil => simp [fun1]
  | cons r0 rest =>
      have hall : ((r0 :: rest).all fun x => x.length == r0.length) = true := by
        rw [List.all_eq_true]
        intro x hx
        simp [h x hx, h r0 (by simp)]
      simp only [fun1, hall, if_true]

omit [BEq α] in
theorem div_rowSum (M : List (List α)) :
    List.zipWith (fun row x => row.map fun y => y / x) M (M.map sumL) = M.map normaliseBySum := by
  rw [List.zipWith_map_right, List.zipWith_self]
  rfl

/-- **`get_axial_strains()`** as translated = the model's `getAxialStrains`: ones without a lattice block; otherwise per axis the
fitted axis length, the edge replication, the centred ratio, and every row divided by its own sum -/
theorem axial_src (C : Ctx α) (n : Nat) (attrs : Env α) (hw : Wired attrs) (table : List (String × List α))
    (hv : vols C ≠ []) (hg : C.calculator.vArray ≠ [])
    (hlat : C.calculator.elastData.lattice = [] ∨
      (C.calculator.elastData.lattice.length = (vols C).length ∧ ∀ row ∈ C.calculator.elastData.lattice, row.length = 3)) :
    callM cls C (n + 3) attrs "get_axial_strains" []
      = (getAxialStrains (inputsOf C table)).map fun e => (attrs, .mat e) := by
  have hva := v_array_src C (n + 1) attrs hw
  have hed := hw.2
  let body := m_get_axial_strains.body
  let K : Kernel α := Kn C (n + 2)
  let l0 : String × Val α := ("_l0", .nat C.calculator.vArray.length)
  have start : callM cls C (n + 3) attrs "get_axial_strains" [] = runStmts C K ⟨attrs, [l0]⟩ (body.drop 1) :=
    calc callM cls C (n + 3) attrs "get_axial_strains" []
        = runStmts C K ⟨attrs, []⟩ body := by rw [callM, find_axial]; rfl
      _ = _ := runStmts_step (by simp [execStmt, evalX, X.eval, Kernel.hooks, hva, getPath, K, Kn, l0])
  rw [start]
  by_cases hne : C.calculator.elastData.lattice = []
  · rw [getAxialStrains_nil (inputsOf C table) hne]
    simp [body, m_get_axial_strains, runStmts, execStmt, evalX, X.eval, Kernel.hooks, hed, getPath, getattr, hne, lookup, K, Kn, l0,
      inputsOf]
  · obtain ⟨hlen, hrow⟩ := hlat.resolve_left hne
    let l1 : String × Val α := ("_l1", .mat C.calculator.elastData.lattice)
    let l2 : String × Val α := ("_l2", .mat ((List.range C.calculator.vArray.length).map fun _ => [0, 0, 0]))
    obtain ⟨L, hL⟩ := axial_loop C n attrs hw table [l2, l1, l0] hv hg hlen hrow (by simp [lookup, l1, l2]) (by simp [lookup, l2])
    have hcond : (C.calculator.elastData.lattice.length == 0) = false := by simp [hne]
    rw [getAxialStrains_nonempty _ (by simpa [inputsOf] using hne)]
    calc runStmts C K ⟨attrs, [l0]⟩ (body.drop 1)
        = runStmts C K ⟨attrs, [l0]⟩ (body.drop 2) :=
          runStmts_step (by simp [execStmt, evalX, X.eval, Kernel.hooks, hed, getPath, getattr, hcond, K, Kn])
      _ = runStmts C K ⟨attrs, [l1, l0]⟩ (body.drop 3) :=
          runStmts_step (by simp [execStmt, evalX, X.eval, Kernel.hooks, hed, getPath, getattr, fun1_array_rows C _ hrow, K, Kn, l1])
      _ = runStmts C K ⟨attrs, [l2, l1, l0]⟩ (body.drop 4) :=
          runStmts_step (by simp [execStmt, evalX, X.eval, lookup, l0, l1, l2])
      _ = _ := by
        have hr : (List.range 3).map (Val.nat (α := α)) = [.nat 0, .nat 1, .nat 2] := rfl
        rw [axBody_eq] at hL
        simp only [body, m_get_axial_strains, List.drop, runStmts, execStmt, hr, K, hL, inputsOf]
        generalize fitModulus _ (C.calculator.elastData.lattice.map fun row => nth row 0) = o0
        generalize fitModulus _ (C.calculator.elastData.lattice.map fun row => nth row 1) = o1
        generalize fitModulus _ (C.calculator.elastData.lattice.map fun row => nth row 2) = o2
        cases o0 with
        | none => simp
        | some p0 =>
          cases o1 with
          | none => simp
          | some p1 =>
            cases o2 with
            | none => simp
            | some p2 => simp [evalX, X.eval, lookup, bin, div_rowSum]

/-! ### `calculate_phonon_contribution`, `__init__` -/

omit [Field α] [BEq α] in
theorem wired_cons (attrs : Env α) (a : String) (v : Val α) (hw : Wired attrs) (h1 : a ≠ "calculator") (h2 : a ≠ "elast_data") :
    Wired ((a, v) :: attrs) := by
  obtain ⟨x, y⟩ := hw
  exact ⟨by simp [lookup, h1, x], by simp [lookup, h2, y]⟩

/-- what the task list hands back for a list of keys (adiabatic / isothermal): `none` if it fails for one of them -/
def results (ph : List (List α) → Key → Option (List (List α))) (e : List (List α)) (ks : List Key) :
    Option (List (Key × List (List α))) :=
  allSomeL (ks.map fun k => (ph e k).map fun r => (k, r))

/-- **`calculate_phonon_contribution()`** as translated: the logged `_get_init_strain()` is evaluated and dropped; the axial strains
of `get_axial_strains()` and `self.modulus_keys` go to `resolve` of a fresh task list built on `self.calculator`; then `calculate()`;
the adiabatic results are stored under `_adiabatic_phonon_contribution`, the isothermal ones under `_isothermal_phonon_contribution` -/
theorem phonon_src (C : Ctx α) (n : Nat) (attrs : Env α) (hw : Wired attrs) (table : List (String × List α))
    (hv : vols C ≠ []) (hg : C.calculator.vArray ≠ [])
    (hlat : C.calculator.elastData.lattice = [] ∨
      (C.calculator.elastData.lattice.length = (vols C).length ∧ ∀ row ∈ C.calculator.elastData.lattice, row.length = 3))
    (hinit : ∃ v, callM cls C (n + 3) attrs "_get_init_strain" [] = some (attrs, v)) :
    callM cls C (n + 4) attrs "calculate_phonon_contribution" []
      = (getAxialStrains (inputsOf C table)).bind fun e =>
        (results C.phA e C.calculator.modulusKeys).bind fun dA =>
        (results C.phI e C.calculator.modulusKeys).map fun dI =>
          (("_isothermal_phonon_contribution", .dict dI) :: ("_adiabatic_phonon_contribution", .dict dA) ::
           ("_phonon_contribution_task_list", .tl (.calculated e C.calculator.modulusKeys)) ::
           ("_phonon_contribution_task_list", .tl (.resolved e C.calculator.modulusKeys)) ::
           ("_phonon_contribution_task_list", .tl .fresh) :: attrs, .unit) := by
  obtain ⟨v0, hinit⟩ := hinit
  have hax := axial_src C n attrs hw table hv hg hlat
  let body := m_calculate_phonon_contribution.body
  let K : Kernel α := ⟨isProp cls, isPure cls, callM cls C (n + 3)⟩
  let a1 : Env α := ("_phonon_contribution_task_list", .tl .fresh) :: attrs
  have hk : callM cls C (n + 3) a1 "modulus_keys" [] = some (a1, .keys C.calculator.modulusKeys) :=
    modulus_keys_src C (n + 2) _ (wired_cons _ _ _ hw (by decide) (by decide))
  obtain ⟨hcalc, _⟩ := hw
  calc callM cls C (n + 4) attrs "calculate_phonon_contribution" []
      = runStmts C K ⟨attrs, []⟩ body := by rw [callM, find_phonon]; rfl
    _ = runStmts C K ⟨attrs, []⟩ (body.drop 1) :=
        runStmts_step (by simp [execStmt, evalArgs, evalX, X.eval, Kernel.hooks, hinit, allSomeL, K])
    _ = _ := by
      cases he : getAxialStrains (inputsOf C table) with
      | none =>
          rw [he] at hax
          exact runStmts_fail (by simp [execStmt, evalX, X.eval, Kernel.hooks, hax, K])
      | some e =>
          rw [he] at hax
          let a2 : Env α := ("_phonon_contribution_task_list", .tl (.resolved e C.calculator.modulusKeys)) :: a1
          let a3 : Env α := ("_phonon_contribution_task_list", .tl (.calculated e C.calculator.modulusKeys)) :: a2
          have hA : execStmt C K ⟨a3, [("_l0", .mat e)]⟩ (.setSelf "_adiabatic_phonon_contribution"
                (.mcall0 (.self ["_phonon_contribution_task_list"]) "get_adiabatic_results"))
              = (results C.phA e C.calculator.modulusKeys).map fun dA => .cont ⟨("_adiabatic_phonon_contribution", .dict dA) :: a3, [("_l0", .mat e)]⟩ := by
            simp only [execStmt, isProp_adiabatic_store, evalX, X.eval, Kernel.hooks, isProp_task_list, lookup, K, a3]
            simp [getPath, results]
            rfl
          have hI : ∀ dA, execStmt C K ⟨("_adiabatic_phonon_contribution", .dict dA) :: a3, [("_l0", .mat e)]⟩
                (.setSelf "_isothermal_phonon_contribution"
                  (.mcall0 (.self ["_phonon_contribution_task_list"]) "get_isothermal_results"))
              = (results C.phI e C.calculator.modulusKeys).map fun dI => .cont
                  ⟨("_isothermal_phonon_contribution", .dict dI) :: ("_adiabatic_phonon_contribution", .dict dA) :: a3,
                   [("_l0", .mat e)]⟩ := by
            intro dA
            simp only [execStmt, isProp_isothermal_store, evalX, X.eval, Kernel.hooks, isProp_task_list, lookup, K, a3]
            simp [getPath, results]
            rfl
          calc runStmts C K ⟨attrs, []⟩ (body.drop 1)
              = runStmts C K ⟨attrs, [("_l0", .mat e)]⟩ (body.drop 2) :=
                runStmts_step (by simp [execStmt, evalX, X.eval, Kernel.hooks, hax, K])
            _ = runStmts C K ⟨a1, [("_l0", .mat e)]⟩ (body.drop 3) :=
                runStmts_step (by simp [execStmt, evalX, X.eval, Kernel.hooks, hcalc, getPath, fun1, K, a1])
            _ = runStmts C K ⟨a2, [("_l0", .mat e)]⟩ (body.drop 4) :=
                runStmts_step (by simp [execStmt, evalArgs, evalX, X.eval, Kernel.hooks, lookup, hk, getPath, allSomeL, tlCall, K, a1, a2])
            _ = runStmts C K ⟨a3, [("_l0", .mat e)]⟩ (body.drop 5) :=
                runStmts_step (by simp [execStmt, evalArgs, lookup, allSomeL, tlCall, a2, a3])
            _ = _ := by
              simp only [body, m_calculate_phonon_contribution, List.drop, runStmts, hA, Option.bind_some]
              cases results C.phA e C.calculator.modulusKeys with
              | none => rfl
              | some dA =>
                  simp only [Option.map_some, hI, Option.bind_some]
                  cases results C.phI e C.calculator.modulusKeys with
                  | none => rfl
                  | some dI => rfl
/-- the instance attributes `__init__` assigns itself -/
def baseAttrs : Env α := [("elast_data", .edata), ("calculator", .calcObj)]

omit [Field α] [BEq α] in
theorem wired_base : Wired (baseAttrs : Env α) := ⟨by simp [baseAttrs, lookup], by simp [baseAttrs, lookup]⟩

/-- **`__init__(calculator)`** as translated: `self.calculator = calculator`, `self.elast_data = self.calculator.elast_data` (the
calculator's own parsed table, no copy, no other source), then `calculate_phonon_contribution()` -/
theorem init_src (C : Ctx α) (n : Nat) :
    callM cls C (n + 5) [] "__init__" [.calcObj]
      = (callM cls C (n + 4) baseAttrs "calculate_phonon_contribution" []).map fun r => (r.1, .unit) := by
  let K : Kernel α := ⟨isProp cls, isPure cls, callM cls C (n + 4)⟩
  let loc : Env α := [("calculator", .calcObj)]
  calc callM cls C (n + 5) [] "__init__" [.calcObj]
      = runStmts C K ⟨[], loc⟩ m_init.body := by rw [callM, find_init]; rfl
    _ = runStmts C K ⟨[("calculator", .calcObj)], loc⟩ (m_init.body.drop 1) :=
        runStmts_step (by simp [execStmt, evalX, X.eval, lookup, K, loc])
    _ = runStmts C K ⟨baseAttrs, loc⟩ (m_init.body.drop 2) :=
        runStmts_step (by simp [execStmt, evalX, X.eval, Kernel.hooks, lookup, getPath, getattr, baseAttrs, K])
    _ = _ := by
      simp only [m_init, List.drop, runStmts, execStmt, K]
      cases callM cls C (n + 4) baseAttrs "calculate_phonon_contribution" [] with
      | none => rfl
      | some r => rfl

/-! ### `modulus_adiabatic` / `modulus_isothermal` -/

/-- `static[nax, :] + phonon` with numpy's shape check: every row of the phonon part must be as long as the static part -/
def addChecked (st : List α) (p : List (List α)) : Option (List (List α)) :=
  allSomeL (p.map fun row => zipSame (fun a b => a + b) st row)

omit [BEq α] in
theorem addChecked_eq (st : List α) (p : List (List α)) (h : ∀ row ∈ p, row.length = st.length) :
    addChecked st p = some (addStatic st p) := by
  unfold addChecked addStatic
  rw [allSomeL_congr (fun row => zipSame (fun a b => a + b) st row) (fun row => some (List.zipWith (fun s p => s + p) st row)) p]
  · exact allSomeL_map_some _ p
  · intro row hr
    simp [zipSame, h row hr]

/-- the static part of one key: its values per volume in file order, `_from_gpa`, `fit_modulus` with the default order -/
def staticOf (C : Ctx α) (table : List (String × List α)) (k : Key) : Option (List α) :=
  (columnOf C k).bind fun col => fitModulus (inputsOf C table) (fromGpa C.gpa col)

/-- one entry of `modulus_adiabatic` / `modulus_isothermal`: `get_static_modulus(key)[nax, :] + store[key]` -/
def totalEntry (C : Ctx α) (table : List (String × List α)) (d : List (Key × List (List α))) (k : Key) :
    Option (Key × List (List α)) :=
  (staticOf C table k).bind fun st => (dictLookup d k).bind fun p => (addChecked st p).map fun m => (k, m)

/-- the body of `for key in self.modulus_keys` reading the store `store` -/
def totalBody (store : String) : List LStmt :=
  [.setItem "_l0" (.loc "_l1")
    (.add (.nax (.callSelf1 "get_static_modulus" (.loc "_l1"))) (.item (.self [store]) (.loc "_l1")))]

theorem adiabatic_body : m_modulus_adiabatic.body
    = [.newDict "_l0", .forIn "_l1" (.self ["modulus_keys"]) (totalBody "_adiabatic_phonon_contribution"), .ret (.loc "_l0")] := rfl

theorem isothermal_body : m_modulus_isothermal.body
    = [.newDict "_l0", .forIn "_l1" (.self ["modulus_keys"]) (totalBody "_isothermal_phonon_contribution"), .ret (.loc "_l0")] := rfl

theorem total_iter (C : Ctx α) (n : Nat) (attrs : Env α) (hw : Wired attrs) (table : List (String × List α)) (hv : vols C ≠ [])
    (store : String) (hs : isProp cls store = false) (d : List (Key × List (List α))) (hd : lookup attrs store = some (.dict d))
    (loc : Env α) (k : Key) (acc : List (Key × List (List α))) (hacc : lookup loc "_l0" = some (.dict acc)) :
    execLs C (Kn C (n + 3)) (totalBody store) ⟨attrs, ("_l1", .key k) :: loc⟩
      = (totalEntry C table d k).map fun e => ⟨attrs, ("_l0", .dict (e :: acc)) :: ("_l1", .key k) :: loc⟩ := by
  have hst := static_src C n attrs hw table k hv
  unfold totalEntry
  change callM cls C (n + 3) attrs "get_static_modulus" [.key k] = (staticOf C table k).map fun r => (attrs, .ar r) at hst
  cases h1 : staticOf C table k with
  | none =>
      rw [h1] at hst
      simp [totalBody, execLs, execL, evalX, X.eval, Kn, Kernel.hooks, lookup, hacc, hst]
  | some st =>
      rw [h1] at hst
      cases h2 : dictLookup d k with
      | none =>
          simp [totalBody, execLs, execL, evalX, X.eval, Kn, Kernel.hooks, lookup, hacc, hst, hs, hd, getPath, h2]
      | some p =>
          unfold addChecked
          cases h3 : allSomeL (p.map fun row => zipSame (fun a b => a + b) st row) <;>
            simp [totalBody, execLs, execL, evalX, X.eval, Kn, Kernel.hooks, lookup, hacc, hst, hs, hd, getPath, h2, bin, h3]

theorem total_loop (C : Ctx α) (n : Nat) (attrs : Env α) (hw : Wired attrs) (table : List (String × List α)) (hv : vols C ≠ [])
    (store : String) (hs : isProp cls store = false) (d : List (Key × List (List α))) (hd : lookup attrs store = some (.dict d)) :
    ∀ (ks : List Key) (loc : Env α) (acc : List (Key × List (List α))), lookup loc "_l0" = some (.dict acc) →
      match allSomeL (ks.map (totalEntry C table d)) with
      | none => runLoop C (Kn C (n + 3)) "_l1" (totalBody store) (ks.map .key) ⟨attrs, loc⟩ = none
      | some l => ∃ loc', runLoop C (Kn C (n + 3)) "_l1" (totalBody store) (ks.map .key) ⟨attrs, loc⟩ = some ⟨attrs, loc'⟩ ∧
          lookup loc' "_l0" = some (.dict (l.reverse ++ acc)) := by
  intro ks
  induction ks with
  | nil =>
      intro loc acc hacc
      exact ⟨loc, rfl, by simpa using hacc⟩
  | cons k r ih =>
      intro loc acc hacc
      have hit := total_iter C n attrs hw table hv store hs d hd loc k acc hacc
      simp only [List.map_cons, runLoop, hit]
      cases he : totalEntry C table d k with
      | none => simp [allSomeL]
      | some e =>
          have := ih (("_l0", .dict (e :: acc)) :: ("_l1", .key k) :: loc) (e :: acc) (by simp [lookup])
          simp only [allSomeL, Option.map_some, Option.bind_some]
          cases hr : allSomeL (r.map (totalEntry C table d)) with
          | none => rw [hr] at this; simpa using this
          | some l =>
              rw [hr] at this
              obtain ⟨loc', h, hl⟩ := this
              exact ⟨loc', by simp [h], by simp [hl]⟩

/-- **`modulus_adiabatic` / `modulus_isothermal`** as translated, for the store `store` they read: a fresh dictionary with, for
every key of `self.modulus_keys`, `get_static_modulus(key)[nax, :] + store[key]` -/
theorem total_src (C : Ctx α) (n : Nat) (attrs : Env α) (hw : Wired attrs) (table : List (String × List α)) (hv : vols C ≠ [])
    (name store : String) (m : Method) (hfind : findMethod cls name = some m) (hpar : m.params = [])
    (hbody : m.body = [.newDict "_l0", .forIn "_l1" (.self ["modulus_keys"]) (totalBody store), .ret (.loc "_l0")])
    (hs : isProp cls store = false) (d : List (Key × List (List α))) (hd : lookup attrs store = some (.dict d)) :
    callV cls C (n + 4) attrs name []
      = (allSomeL (C.calculator.modulusKeys.map (totalEntry C table d))).map fun l => .dict l.reverse := by
  have hk := modulus_keys_src C (n + 2) attrs hw
  rw [callV, callM, hfind]
  simp only [hpar, hbody]
  have e0 : execStmt C ⟨isProp cls, isPure cls, callM cls C (n + 3)⟩ ⟨attrs, []⟩ (.newDict "_l0")
      = some (.cont ⟨attrs, [("_l0", .dict [])]⟩) := rfl
  have hloop := total_loop C n attrs hw table hv store hs d hd C.calculator.modulusKeys [("_l0", .dict [])] [] (by simp [lookup])
  simp only [bindParams, runStmts, e0]
  have e1 : execStmt C ⟨isProp cls, isPure cls, callM cls C (n + 3)⟩ ⟨attrs, [("_l0", .dict [])]⟩
        (.forIn "_l1" (.self ["modulus_keys"]) (totalBody store))
      = (runLoop C (Kn C (n + 3)) "_l1" (totalBody store) (C.calculator.modulusKeys.map .key) ⟨attrs, [("_l0", .dict [])]⟩).map .cont := by
    simp [execStmt, evalX, X.eval, Kernel.hooks, hk, getPath, Kn]
  rw [e1]
  cases hl : allSomeL (C.calculator.modulusKeys.map (totalEntry C table d)) with
  | none =>
      rw [hl] at hloop
      simp [hloop]
  | some l =>
      rw [hl] at hloop
      obtain ⟨loc', h, hl'⟩ := hloop
      simp [h, execStmt, evalX, X.eval, hl']

/-! ### `Calculator._calculate_pressure_static` -/

/-- the volumes of the PHONON file, in file order -/
def qvols (C : Ctx α) : List α := C.calculator.qhaVolumes.map (·.1)
/-- the static energies of the PHONON file, in file order -/
def qenergies (C : Ctx α) : List α := C.calculator.qhaVolumes.map (·.2)

omit [BEq α] in
theorem gradient_length (y g : List α) (h : gradient y = some g) : g.length = y.length := by
  unfold gradient at h
  simp only at h
  split_ifs at h
  simp only [Option.some.injEq] at h
  subst h
  simp

omit [Field α] [BEq α] in
theorem allSomeL_qvolAttr (l : List (α × α)) :
    allSomeL (l.map (qvolAttr "volume")) = some (l.map (·.1)) ∧ allSomeL (l.map (qvolAttr "energy")) = some (l.map (·.2)) := by
  have h1 : (qvolAttr "volume" : α × α → Option α) = fun v => some v.1 := by funext v; simp [qvolAttr]
  have h2 : (qvolAttr "energy" : α × α → Option α) = fun v => some v.2 := by funext v; simp [qvolAttr]
  rw [h1, h2]
  exact ⟨allSomeL_map_some _ l, allSomeL_map_some _ l⟩

/-- **`_calculate_pressure_static(order)`** as translated = the model's `staticPressure` on the Eulerian strains of the PHONON file's
volumes and of the grid (both referred to that file's first volume), the file's static energies and the grid -/
theorem pressure_src (C : Ctx α) (k : Nat) (hq : qvols C ≠ []) :
    runOnCalc C pressureStatic [.nat k]
      = (staticPressure ((qvols C).map (C.strain (nth (qvols C) 0))) (qenergies C)
            (C.calculator.vArray.map (C.strain (nth (qvols C) 0))) C.calculator.vArray k).map fun p =>
          ([("static_p_array", .ar p), ("v_array", .ar C.calculator.vArray), ("qha_input", .qha)], .unit) := by
  obtain ⟨hv, he⟩ := allSomeL_qvolAttr C.calculator.qhaVolumes
  let K : Kernel α := ⟨fun _ => false, fun _ => false, fun _ _ _ => none⟩
  let A : Env α := [("v_array", .ar C.calculator.vArray), ("qha_input", .qha)]
  let S := (qvols C).map (C.strain (nth (qvols C) 0))
  let SA := C.calculator.vArray.map (C.strain (nth (qvols C) 0))
  calc runOnCalc C pressureStatic [.nat k]
      = runStmts C K ⟨A, [("order", .nat k)]⟩ pressureStatic.body := rfl
    _ = runStmts C K ⟨A, [("_l0", .ar (qvols C)), ("order", .nat k)]⟩ (pressureStatic.body.drop 1) :=
        runStmts_step (by simp [execStmt, evalX, X.eval, Kernel.hooks, lookup, getPath, getattr, hv, fun1, qvols, K, A])
    _ = runStmts C K ⟨A, [("_l1", .ar (qenergies C)), ("_l0", .ar (qvols C)), ("order", .nat k)]⟩ (pressureStatic.body.drop 2) :=
        runStmts_step (by simp [execStmt, evalX, X.eval, Kernel.hooks, lookup, getPath, getattr, he, fun1, qenergies, K, A])
    _ = runStmts C K ⟨A, [("_l2", .ar S), ("_l1", .ar (qenergies C)), ("_l0", .ar (qvols C)), ("order", .nat k)]⟩
          (pressureStatic.body.drop 3) :=
        runStmts_step (by simp [execStmt, evalX, X.eval, lookup, pyIndex_zero _ hq, fun2, S])
    _ = runStmts C K ⟨A, [("_l3", .ar SA), ("_l2", .ar S), ("_l1", .ar (qenergies C)), ("_l0", .ar (qvols C)), ("order", .nat k)]⟩
          (pressureStatic.body.drop 4) :=
        runStmts_step (by simp [execStmt, evalX, X.eval, Kernel.hooks, lookup, getPath, pyIndex_zero _ hq, fun2, SA, K, A])
    _ = _ := by
      unfold staticPressure
      cases hfit : polynomialLeastSquareFitting S (qenergies C) SA k with
      | none => simp [pressureStatic, runStmts, execStmt, evalX, X.eval, lookup, fun4, hfit, S, SA]
      | some e =>
          have hlen : e.length = C.calculator.vArray.length := by
            unfold polynomialLeastSquareFitting at hfit
            simp only [Option.map_eq_some_iff] at hfit
            obtain ⟨p, _, rfl⟩ := hfit
            simp [SA]
          -- both gradients exist or both fail: they are taken of arrays of the same length
          by_cases h2 : C.calculator.vArray.length < 2
          · simp [pressureStatic, runStmts, execStmt, evalX, X.eval, Kernel.hooks, lookup, getPath, fun4, hfit, fun1, gradient, hlen, h2,
              S, SA, K, A]
          · simp [pressureStatic, runStmts, execStmt, evalX, X.eval, Kernel.hooks, lookup, getPath, fun4, hfit, fun1, gradient, hlen, h2,
              bin, zipSame, List.zipWith_map_left, S, SA, K, A]

theorem pressure_default_src (C : Ctx α) : runOnCalc C pressureStatic [] = runOnCalc C pressureStatic [.nat 3] := rfl

/-! ### what `fit_modulus` reads -/

/-- two calculators with the same strain function, the same volume column in their static tables and the same grid get the same
static fit — whatever their phonon files, table values, lattice blocks, key lists, settings and phonon parts are -/
theorem fit_reads_only (C C' : Ctx α) (n : Nat) (attrs attrs' : Env α) (hw : Wired attrs) (hw' : Wired attrs') (m : List α) (k : Nat)
    (hs : C.strain = C'.strain) (hvol : vols C = vols C') (hgrid : C.calculator.vArray = C'.calculator.vArray)
    (hv : vols C ≠ []) (hm : m.length = (vols C).length) :
    callV cls C (n + 2) attrs "fit_modulus" [.ar m, .nat k] = callV cls C' (n + 2) attrs' "fit_modulus" [.ar m, .nat k] := by
  unfold callV
  rw [fit_src C n attrs hw [] m k hv hm, fit_src C' n attrs' hw' [] m k (hvol ▸ hv) (hvol ▸ hm)]
  have : fitModulus (inputsOf C []) m k = fitModulus (inputsOf C' []) m k :=
    fitModulus_congr _ _ m k (by simp [inputsOf, hs, hvol]) (by simp [inputsOf, hs, hvol, hgrid]) (by simp [inputsOf, hvol])
      (by simp [inputsOf, hgrid])
  rw [this]
  cases fitModulus (inputsOf C' []) m k <;> rfl

end

/-! ### well-formed inputs; the constructed object -/

section
variable {α : Type} [Field α] [BEq α]

attribute [local irreducible] lookup isProp isPure findMethod

/-- the inputs the property quantifies over, as far as the class reads them: a non-empty static table, a non-empty grid, and either
no lattice block or one row of three axis lengths per volume of the table -/
structure WF (C : Ctx α) : Prop where
  vols_ne : vols C ≠ []
  grid_ne : C.calculator.vArray ≠ []
  lattice : C.calculator.elastData.lattice = [] ∨
    (C.calculator.elastData.lattice.length = (vols C).length ∧ ∀ row ∈ C.calculator.elastData.lattice, row.length = 3)

/-- the instance attributes of a constructed object, given the axial strains and the two result dictionaries -/
def builtAttrs (C : Ctx α) (e : List (List α)) (dA dI : List (Key × List (List α))) : Env α :=
  ("_isothermal_phonon_contribution", .dict dI) :: ("_adiabatic_phonon_contribution", .dict dA) ::
  ("_phonon_contribution_task_list", .tl (.calculated e C.calculator.modulusKeys)) ::
  ("_phonon_contribution_task_list", .tl (.resolved e C.calculator.modulusKeys)) ::
  ("_phonon_contribution_task_list", .tl .fresh) :: baseAttrs

omit [Field α] [BEq α] in
theorem builtAttrs_wired (C : Ctx α) (e : List (List α)) (dA dI : List (Key × List (List α))) : Wired (builtAttrs C e dA dI) :=
  ⟨by simp [builtAttrs, baseAttrs, lookup], by simp [builtAttrs, baseAttrs, lookup]⟩

omit [Field α] [BEq α] in
theorem builtAttrs_stores (C : Ctx α) (e : List (List α)) (dA dI : List (Key × List (List α))) :
    lookup (builtAttrs C e dA dI) "_adiabatic_phonon_contribution" = some (.dict dA) ∧
    lookup (builtAttrs C e dA dI) "_isothermal_phonon_contribution" = some (.dict dI) :=
  ⟨by simp [builtAttrs, lookup], by simp [builtAttrs, lookup]⟩

/-- **`FullThermalElasticModulus(calculator)`**: `__init__` and `calculate_phonon_contribution` together -/
theorem construct_src (C : Ctx α) (n : Nat) (table : List (String × List α)) (hwf : WF C)
    (hinit : ∃ v, callM cls C (n + 3) baseAttrs "_get_init_strain" [] = some (baseAttrs, v)) :
    construct cls C (n + 5)
      = (getAxialStrains (inputsOf C table)).bind fun e =>
        (results C.phA e C.calculator.modulusKeys).bind fun dA =>
        (results C.phI e C.calculator.modulusKeys).map fun dI => builtAttrs C e dA dI := by
  unfold construct
  rw [init_src, phonon_src C n baseAttrs wired_base table hwf.vols_ne hwf.grid_ne hwf.lattice hinit]
  cases getAxialStrains (inputsOf C table) with
  | none => rfl
  | some e =>
      simp only [Option.bind_some]
      cases results C.phA e C.calculator.modulusKeys with
      | none => rfl
      | some dA =>
          simp only [Option.bind_some]
          cases results C.phI e C.calculator.modulusKeys with
          | none => rfl
          | some dI => rfl

end

/-- a concrete calculator over ℚ for the non-vacuity examples of Properties/C05.lean -/
def glueExample : Ctx ℚ :=
  { strain := fun v0 v => (v0 / v) * (v0 / v) - 1, gpa := 1 / 100,
    calculator :=
      { vArray := [10, 19 / 2, 9, 17 / 2, 8, 7, 13 / 2],
        modulusKeys := [.raw "c11", .raw "c12"],
        elastData :=
          { vref := 0, nv := 5, cellmass := 1,
            volumes := [⟨10, [(.raw "c11", 100), (.raw "c12", 50)]⟩, ⟨9, [(.raw "c11", 120), (.raw "c12", 55)]⟩,
                        ⟨8, [(.raw "c11", 150), (.raw "c12", 61)]⟩, ⟨7, [(.raw "c11", 190), (.raw "c12", 70)]⟩,
                        ⟨6, [(.raw "c11", 250), (.raw "c12", 85)]⟩],
            lattice := [[2, 2, 3], [19 / 10, 39 / 20, 29 / 10], [9 / 5, 19 / 10, 14 / 5], [17 / 10, 37 / 20, 53 / 20],
                        [8 / 5, 9 / 5, 5 / 2]] },
        qhaVolumes := [(10, 1), (9, 2), (8, 4), (7, 9), (6, 20)],
        cfgLeaf := fun _ => none,
        cfgSection := fun p => p == ["elast"] || p == ["elast", "settings"] },
    phA := fun s _ => some [s.map fun r => r.getD 0 0, s.map fun r => r.getD 1 0],
    phI := fun s _ => some [s.map fun r => r.getD 2 0] }

/-! ### the strain-fraction formula at interior rows and at both ends -/

section
variable {α : Type} [Field α]

theorem nth_tmpOf (p : List α) (j : Nat) (hj : j ≤ p.length + 1) :
    nth (tmpOf p) j = nth p (min (j - 1) (p.length - 1)) := by
  cases j with
  | zero => simp [tmpOf, nth]
  | succ j =>
    by_cases hlt : j < p.length
    · simp [tmpOf, nth, List.getElem?_append_left hlt, Nat.min_eq_left (by omega : j ≤ p.length - 1)]
    · obtain rfl : j = p.length := by omega
      simp [tmpOf, nth]

/-- the clipping at the first grid point is the truncated `0 - 1 = 0` -/
theorem colF_entry (p : List α) (k : Nat) (hk : k < p.length) :
    nth (colF p.length p) k
      = (nth p (min (k + 1) (p.length - 1)) - nth p (k - 1)) / (nth p (min (k + 1) (p.length - 1)) + nth p (k - 1)) := by
  have hlow : min (k - 1) (p.length - 1) = k - 1 := by omega
  rw [nth_eq_getElem _ k (by simpa [colF] using hk)]
  simp only [colF, List.getElem_map, List.getElem_range]
  rw [nth_tmpOf p (k + 2) (by omega), nth_tmpOf p k (by omega), hlow]
  rfl

/-- the column `(tmp[2:] - tmp[:-2]) / (tmp[2:] + tmp[:-2])` of `tmp = params[[0, *range(n), -1]]`, entry by entry: a one-sided
ratio at the first and at the last grid point, the centred ratio in between -/
theorem colF_entries (p : List α) (h2 : 2 ≤ p.length) :
    nth (colF p.length p) 0 = (nth p 1 - nth p 0) / (nth p 1 + nth p 0) ∧
    (∀ k, 0 < k → k + 1 < p.length →
      nth (colF p.length p) k = (nth p (k + 1) - nth p (k - 1)) / (nth p (k + 1) + nth p (k - 1))) ∧
    nth (colF p.length p) (p.length - 1)
      = (nth p (p.length - 1) - nth p (p.length - 2)) / (nth p (p.length - 1) + nth p (p.length - 2)) := by
  refine ⟨?_, fun k _ h1 => ?_, ?_⟩
  · rw [colF_entry p 0 (by omega), Nat.min_eq_left (by omega)]
  · rw [colF_entry p k (by omega), Nat.min_eq_left (by omega)]
  · rw [colF_entry p (p.length - 1) (by omega), Nat.min_eq_right (by omega)]
    rfl

end

/-! ### the totals against the model's `modulusTotal` -/

section
variable {α : Type} [Field α] [BEq α]

attribute [local irreducible] lookup isProp isPure findMethod

omit [Field α] [BEq α] in
theorem results_lookup (ph : List (List α) → Key → Option (List (List α))) (e : List (List α)) :
    ∀ (ks : List Key) (d : List (Key × List (List α))), results ph e ks = some d → ∀ k ∈ ks, dictLookup d k = ph e k := by
  intro ks
  induction ks with
  | nil => intro d _ k hk; simp at hk
  | cons k0 r ih =>
      intro d hd k hk
      unfold results at hd
      simp only [List.map_cons] at hd
      cases h0 : ph e k0 with
      | none => simp [h0, allSomeL] at hd
      | some r0 =>
          simp only [h0, Option.map_some, allSomeL, Option.map_eq_some_iff] at hd
          obtain ⟨d', hd', rfl⟩ := hd
          by_cases hkk : k0 = k
          · subst hkk
            simp [dictLookup, h0]
          · have hk' : k ∈ r := by
              rcases List.mem_cons.mp hk with h | h
              · exact absurd h.symm hkk
              · exact h
            have := ih d' hd' k hk'
            simp only [dictLookup] at this ⊢
            rw [List.find?_cons_of_neg (by simpa using hkk)]
            exact this

omit [BEq α] in
theorem option_bind_comm {β γ δ : Type} (a : Option β) (b : Option γ) (f : β → γ → Option δ) :
    (a.bind fun x => b.bind fun y => f x y) = (b.bind fun y => a.bind fun x => f x y) := by
  cases a <;> cases b <;> rfl

theorem totalEntry_model (C : Ctx α) (table : List (String × List α)) (name : Key → String) (ph : Phonon α)
    (phK : List (List α) → Key → Option (List (List α))) (hph : ∀ e k, phK e k = ph e (name k))
    (e : List (List α)) (he : getAxialStrains (inputsOf C table) = some e)
    (d : List (Key × List (List α))) (k : Key) (hd : dictLookup d k = phK e k)
    (htab : table.lookup (name k) = columnOf C k)
    (hshape : ∀ p, phK e k = some p → ∀ row ∈ p, row.length = C.calculator.vArray.length) :
    totalEntry C table d k = (modulusTotal (inputsOf C table) ph (name k)).map fun m => (k, m) := by
  have hst : getStaticModulus (inputsOf C table) (name k) = staticOf C table k := by
    unfold getStaticModulus staticOf
    simp only [inputsOf, htab]
    rfl
  unfold totalEntry modulusTotal phononPart
  simp only [bind, pure, he, Option.bind_some, hst, hd, ← hph]
  cases hs : staticOf C table k with
  | none => cases phK e k <;> rfl
  | some st =>
      cases hp : phK e k with
      | none => rfl
      | some p =>
          have hlen : st.length = C.calculator.vArray.length := by
            unfold staticOf at hs
            simp only [Option.bind_eq_some_iff] at hs
            obtain ⟨col, _, hfit⟩ := hs
            have := fitModulus_length _ _ _ _ hfit
            simpa [inputsOf] using this
          have := addChecked_eq st p (fun row hr => by rw [hshape p hp row hr, hlen])
          simp [this]

end

/-! ### the sibling: `fit_modulus` of `cij/cli/static.py` -/

section Sibling
variable {α : Type} [Add α] [Sub α] [Mul α] [Div α] [Neg α] [OfNat α 0] [OfNat α 1] [NatCast α]
  [LE α] [DecidableLE α] [LT α] [DecidableLT α] [BEq α]

omit [BEq α] in
/-- the translated body is closed: the call evaluates by unfolding -/
theorem staticFit_call (I : StaticSrc.Inp α) (v0 : α) (rest vArray ys : List α) (k : Nat) :
    StaticSrc.callFun I Generated.staticFitModulus [.ar (v0 :: rest), .ar vArray, .ar ys, .nat k]
      = (I.fit ((v0 :: rest).map (I.E.strain v0)) ys (vArray.map (I.E.strain v0)) k).map .ar := by
  rfl

/-- **the two fit functions differ exactly where they should.**  `FullThermalElasticModulus.fit_modulus(c, order)` is
`run-static`'s `fit_modulus(volumes, v_array, ·, ·)` (as translated from static.py on this run, with qha's
`polynomial_least_square_fitting` = the model's least squares) applied to `volumes * c` instead of `c`, with degree `order + 1`
instead of `order`, and the result divided by `v_array`; the Eulerian strains are the same expressions of the same two arrays. -/
theorem fit_vs_static_fit (I : StaticSrc.Inp α) (hfit : I.fit = polynomialLeastSquareFitting) (v0 : α) (rest vArray m : List α) (k : Nat)
    (tbl : List (String × List α)) (lat : List (List α)) (gpa : α) :
    fitModulus ⟨(v0 :: rest).map (I.E.strain v0), vArray.map (I.E.strain v0), v0 :: rest, vArray, tbl, lat, gpa⟩ m k
      = ((StaticSrc.callFun I Generated.staticFitModulus
            [.ar (v0 :: rest), .ar vArray, .ar (List.zipWith (fun v c => v * c) (v0 :: rest) m), .nat (k + 1)]).bind
          StaticSrc.Val.toAr).map fun r => List.zipWith (fun a b => a / b) r vArray := by
  rw [staticFit_call, hfit, fitModulus, polynomialLeastSquareFitting]
  cases polyfit ((v0 :: rest).map (I.E.strain v0)) (List.zipWith (fun v c => v * c) (v0 :: rest) m) (k + 1) with
  | none => rfl
  | some p => simp [StaticSrc.Val.toAr, List.zipWith_map_left]

end Sibling

/-- the syntactic side: after substituting the locals, `fit_modulus` of full_modulus.py returns
`polyval(polyfit(S, self.volumes * moduli, order + 1), SA) / self.v_array`, and `fit_modulus` of static.py returns
`lsq(S', moduli, SA', order)`, where `S'`, `SA'` are `S`, `SA` with `self.volumes` ↦ `volumes`, `self.v_array` ↦ `v_array` -/
theorem fit_trees_differ_exactly :
    ∃ S SA : X,
      inlineRet [] m_fit_modulus.body
        = some (.div (.fn2 "numpy.polyval" (.fn3 "numpy.polyfit" S (.mul (.self ["volumes"]) (.param "moduli"))
            (.add (.param "order") (.lit 1))) SA) (.self ["v_array"])) ∧
      (do let s ← toStatic S; let sa ← toStatic SA; pure (StaticSrc.X.lsq s (.loc "moduli") sa (.loc "order")))
        = some Generated.staticFitModulus.ret ∧
      S.selfReads = [["volumes"], ["volumes"]] ∧ SA.selfReads = [["volumes"], ["v_array"]] :=
  ⟨_, _, rfl, rfl, rfl, rfl⟩

end Cij.FMGlue
