/- Helper lemmas for the degenerate keys c14, c25, c36 of the axis-permutation clause of C04. -/
import CijProofs.Lemmas.Permutation

set_option linter.unusedSectionVars false

namespace Cij.Tasks
open Cij Cij.Shear

/-- (axis p, other axes q < r): c14 ↔ (0,1,2), c25 ↔ (1,0,2), c36 ↔ (2,0,1) -/
def degTriples : List (Fin 3 × Fin 3 × Fin 3) := [(0, 1, 2), (1, 0, 2), (2, 0, 1)]

/-- the key with a doubly degenerate fictitious strain, its pure-shear partner and its longitudinal partner -/
def degKey (t : Fin 3 × Fin 3 × Fin 3) : Modulus := key4 t.1 t.1 t.2.1 t.2.2
def degShear (t : Fin 3 × Fin 3 × Fin 3) : Modulus := key4 t.2.1 t.2.2 t.2.1 t.2.2
def degLong (t : Fin 3 × Fin 3 × Fin 3) : Modulus := key4 t.1 t.1 t.1 t.1

theorem deg_facts : ∀ t ∈ degTriples,
    degKey t ∈ shearKeys ∧ degShear t ∈ shearKeys ∧ degLong t ∈ allKeys ∧
    (degKey t).multiplicity = 4 ∧ (degShear t).multiplicity = 4 ∧
    ((origPairs (degKey t)).map keyOfPairs).Perm [degLong t, degShear t, degShear t, degShear t, degShear t] ∧
    (origPairs (degShear t)).map keyOfPairs = [] ∧
    (degLong t).isShear = false ∧ (degLong t).calcType = .longitudinal ∧
    idx (degLong t).i.i = t.1 ∧ idx (degLong t).j.i = t.1 := by
  decide +kernel

/-- parameters of the rotated-frame keys -/
theorem key4_diag_params : ∀ a b : Fin 3,
    (key4 a a b b).isShear = false ∧
    (key4 a a b b).calcType = (if a = b then .longitudinal else .offDiagonal) ∧
    idx (key4 a a b b).i.i = (if a ≤ b then a else b) ∧ idx (key4 a a b b).j.i = (if a ≤ b then b else a) := by
  decide +kernel

section degen
variable {R : Type} [Field R] [CharZero R]

/-- mean of the two axial strains that are mixed by the fictitious strain -/
def mOf (t : Fin 3 × Fin 3 × Fin 3) (row : Vec3 R) : R := (row t.2.1 + row t.2.2) / 2

/-- the eigen-frames LAPACK returns for a degenerate key and for its pure-shear partner, described by what they do:
for `c_ppqr` (spectrum −1, 1, 1) the frame contains the coordinate axis `p` (third column) and the symmetric /
antisymmetric combinations of `q`, `r`; for `c_qrqr` (spectrum −1, 0, 1) the axis `p` is the middle column.
`rot*` state the squared entries of `T` through the rotated axial strains they produce. -/
structure DegFrames (eig : Eig R) (t : Fin 3 × Fin 3 × Fin 3) : Prop where
  lamD : (eig (degKey t)).2 0 = -1 ∧ (eig (degKey t)).2 1 = 1 ∧ (eig (degKey t)).2 2 = 1
  rotD : ∀ row : Vec3 R, strainRotated (eig (degKey t)).1 row 0 = mOf t row ∧
      strainRotated (eig (degKey t)).1 row 1 = mOf t row ∧ strainRotated (eig (degKey t)).1 row 2 = row t.1
  lamS : (eig (degShear t)).2 0 = -1 ∧ (eig (degShear t)).2 1 = 0 ∧ (eig (degShear t)).2 2 = 1
  rotS : ∀ row : Vec3 R, strainRotated (eig (degShear t)).1 row 0 = mOf t row ∧
      strainRotated (eig (degShear t)).1 row 1 = row t.1 ∧ strainRotated (eig (degShear t)).1 row 2 = mOf t row

theorem create_diag (F : SField R) (a b : Fin 3) :
    create F (key4 a a b b) = .nonshear (if a = b then .longitudinal else .offDiagonal)
      (component F (if a ≤ b then a else b)) (component F (if a ≤ b then b else a)) := by
  obtain ⟨h1, h2, h3, h4⟩ := key4_diag_params a b
  rw [create_nonshear F h1, h2, h3, h4]

/-- a normalised component of the rotated strain field, for a frame that preserves the trace and whose `i`-th rotated axial
strain is `g` of the row -/
theorem component_rotated_of {T : Mat3 R} {s : SField R} {i : Fin 3} {g : Vec3 R → R}
    (hsum : ∀ row, sum3 (strainRotated T row) = sum3 row) (hg : ∀ row, strainRotated T row i = g row) :
    component (rotatedField T s) i = s.map fun row => g row / sum3 row := by
  unfold component rotatedField
  rw [List.map_map]
  exact List.map_congr_left fun row _ => by rw [Function.comp_apply, hsum, hg]

/-- a sum over the three axes, taken in the order `p, q, r` -/
theorem sum3_triple {t : Fin 3 × Fin 3 × Fin 3} (ht : t ∈ degTriples) (f : Fin 3 → R) :
    sum3 f = f t.1 + f t.2.1 + f t.2.2 := by
  simp only [degTriples, List.mem_cons, List.mem_nil_iff, or_false] at ht
  rcases ht with rfl | rfl | rfl <;> simp only [sum3] <;> ring

theorem sum3_deg {t : Fin 3 × Fin 3 × Fin 3} (ht : t ∈ degTriples) (row : Vec3 R) :
    mOf t row + mOf t row + row t.1 = sum3 row := by
  rw [sum3_triple ht, mOf]; ring

end degen

/-- the twelve shear keys whose fictitious strain has a simple spectrum -/
def simpleShearKeys : List Modulus := shearKeys.filter fun k => !(degTriples.map degKey).contains k

theorem shearKeys_split : ∀ k ∈ shearKeys, (∃ t ∈ degTriples, k = degKey t) ∨ k ∈ simpleShearKeys := by
  decide +kernel

theorem permKey_deg : ∀ v ∈ permTriples, ∀ t ∈ degTriples, ∃ t' ∈ degTriples, permKey v (degKey t) = degKey t' := by
  decide +kernel

theorem simpleShearKeys_length : simpleShearKeys.length = 12 := by decide +kernel

theorem degKeys_voigt : (degTriples.map degKey).map Modulus.voigt = [some (1, 4), some (2, 5), some (3, 6)] := by
  decide +kernel

end Cij.Tasks
