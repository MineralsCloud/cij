/-
  The model's minimum-norm least squares `Fill.lstsq` always answers: the system `(G Gᵀ) z = G b`, `G = A Aᵀ`, it hands to its
  elimination has a solution, because `M b ∈ range (M Mᵀ)` over a linearly ordered field (Mathlib `Matrix.rank_self_mul_transpose`;
  bridge from lists to `Matrix`: `dot_eq_sum`).  Hence `lstsq` IS any vector that passes its checks, and `fillChecked` — `fill`
  with the solve stage replaced by such checks — is how the concrete tables of C09, C14 and C18 are evaluated.
-/
import CijProofs.Lemmas.FillPerm
import Mathlib.LinearAlgebra.Matrix.Rank
set_option linter.unusedSectionVars false
namespace Cij.Fill
open Matrix

/-- `M b` is in the range of `M Mᵀ` (linearly ordered field): the range of a Gram-type product is the range of the factor -/
theorem exists_mul_transpose_mulVec {m k K : Type} [Fintype m] [Fintype k] [Field K] [LinearOrder K]
    [IsStrictOrderedRing K] (M : Matrix m k K) (b : k → K) : ∃ z : m → K, (M * Mᵀ) *ᵥ z = M *ᵥ b := by
  have hle : LinearMap.range (M * Mᵀ).mulVecLin ≤ LinearMap.range M.mulVecLin := by
    rintro _ ⟨z, rfl⟩
    exact ⟨Mᵀ *ᵥ z, by simp only [Matrix.mulVecLin_apply, Matrix.mulVec_mulVec]⟩
  have hrk : Module.finrank K (LinearMap.range (M * Mᵀ).mulVecLin) = Module.finrank K (LinearMap.range M.mulVecLin) :=
    Matrix.rank_self_mul_transpose M
  have heq := Submodule.eq_of_le_of_finrank_eq hle hrk
  have hb : M *ᵥ b ∈ LinearMap.range M.mulVecLin := ⟨b, rfl⟩
  rw [← heq] at hb
  obtain ⟨z, hz⟩ := hb
  exact ⟨z, hz⟩

variable {α : Type} [Field α] [LinearOrder α] [IsStrictOrderedRing α]

theorem dot_eq_sum : ∀ (k : Nat) (u v : List α), u.length ≤ k →
    dot u v = ∑ j : Fin k, u.getD j 0 * v.getD j 0 := by
  intro k
  induction k with
  | zero =>
    intro u v hu
    have : u = [] := List.length_eq_zero_iff.mp (Nat.le_zero.mp hu)
    subst this
    simp [dot]
  | succ k ih =>
    intro u v hu
    cases u with
    | nil => simp [dot]
    | cons a u =>
      cases v with
      | nil => simp [dot]
      | cons c v =>
        have hu' : u.length ≤ k := by simpa using hu
        rw [Fin.sum_univ_succ]
        simp only [dot, Fin.val_zero, List.getD_cons_zero, Fin.val_succ, List.getD_cons_succ]
        rw [ih u v hu']

theorem getD_map_of_lt {β : Type} (f : β → α) (l : List β) (j : Nat) (hj : j < l.length) :
    (l.map f).getD j 0 = f l[j] := by
  rw [List.getD_eq_getElem?_getD, List.getElem?_map, List.getElem?_eq_getElem hj]
  rfl

theorem getD_ofFn {m : Nat} (z : Fin m → α) (j : Fin m) : (List.ofFn z).getD j 0 = z j := by
  rw [List.getD_eq_getElem?_getD, List.getElem?_ofFn]
  simp

theorem sys_solvable (G : List (List α)) (b : List α) (k : Nat) (hrows : ∀ g ∈ G, g.length = k) :
    ∃ z0 : List α, z0.length = G.length ∧
      ∀ p ∈ G.map (fun g => (G.map fun g' => dot g g', dot g b)), dot p.1 z0 = p.2 := by
  let M : Matrix (Fin G.length) (Fin k) α := Matrix.of fun i j => (G[i.val]).getD j 0
  have hM : ∀ i j, M i j = (G[i.val]).getD j 0 := fun _ _ => rfl
  obtain ⟨z, hz⟩ := exists_mul_transpose_mulVec M (fun j => b.getD j 0)
  refine ⟨List.ofFn z, by simp, ?_⟩
  intro p hp
  obtain ⟨g, hg, rfl⟩ := List.mem_map.mp hp
  obtain ⟨i, hi, rfl⟩ := List.getElem_of_mem hg
  have hzi := congrFun hz ⟨i, hi⟩
  simp only [Matrix.mulVec, dotProduct, Matrix.mul_apply, Matrix.transpose_apply, hM] at hzi
  simp only
  rw [dot_eq_sum G.length _ _ (by simp), dot_eq_sum k G[i] b (le_of_eq (hrows _ (List.getElem_mem hi)))]
  rw [← hzi]
  apply Finset.sum_congr rfl
  intro j _
  rw [getD_map_of_lt _ G j j.isLt, getD_ofFn, dot_eq_sum k G[i] G[j.val] (le_of_eq (hrows _ (List.getElem_mem hi)))]

/-- no rank assumption: the rank-deficient case is the minimum-norm solution -/
theorem lstsq_total' {n : Nat} {A : List (List α)} {b : List α} (hrows : ∀ a ∈ A, a.length ≤ n)
    (hb : b.length = A.length) : ∃ x, lstsq n A b = some x := by
  have hG : ∀ g ∈ gram A, g.length = A.length := by
    intro g hg
    obtain ⟨r, _, rfl⟩ := List.mem_map.mp hg
    simp
  obtain ⟨z0, hz0, hsol⟩ := sys_solvable (gram A) b A.length hG
  have hz0' : z0.length = A.length := by rw [hz0]; simp [gram]
  have hne : normalEqHold A b (padTo n (tmulVec A z0)) = true := by
    rw [normalEqHold_padTo n A b _ hrows]
    exact normalEq_of_sys_solved A b z0 hb hsol
  obtain ⟨z, _, hz, _⟩ := lstsq_isSome_of_exists hb hrows z0 hz0' hne
  exact ⟨_, hz⟩

theorem lstsq_total {n : Nat} {A : List (List α)} {b : List α} (hrows : ∀ r ∈ A, r.length = n)
    (hb : A.length = b.length) : ∃ x, lstsq n A b = some x :=
  lstsq_total' (fun a ha => le_of_eq (hrows a ha)) hb.symm

theorem mapM_option_total {β γ : Type} (f : β → Option γ) :
    ∀ l : List β, (∀ b ∈ l, ∃ x, f b = some x) → ∃ ys, l.mapM f = some ys
  | [], _ => ⟨[], rfl⟩
  | b :: l, h => by
    obtain ⟨x, hx⟩ := h b (by simp)
    obtain ⟨ys, hys⟩ := mapM_option_total f l (fun b' hb' => h b' (by simp [hb']))
    exact ⟨x :: ys, by rw [List.mapM_cons, hx, hys]; rfl⟩

theorem solveStage_total {A bs : List (List α)} (hrows : ∀ a ∈ A, a.length ≤ nsym)
    (hbs : ∀ b ∈ bs, b.length = A.length) : ∃ s, solveStage A bs = some s := by
  obtain ⟨xs, hxs⟩ := mapM_option_total (fun b => lstsq nsym A b) bs (fun b hb => lstsq_total' hrows (hbs b hb))
  unfold solveStage
  rw [hxs]
  exact ⟨_, rfl⟩

theorem length_selColsOf : ∀ (sel : List (Option Nat)) (t : Table α), sel.length ≤ t.length →
    (selColsOf sel t).length = (selIdxOf sel).length := by
  intro sel
  induction sel with
  | nil => intro t _; simp [selColsOf, selIdxOf]
  | cons o sel ih =>
    intro t ht
    cases t with
    | nil => simp at ht
    | cons c t =>
      have := ih t (by simpa using ht)
      simp only [selColsOf, selIdxOf] at this ⊢
      cases o <;> simp [this]

theorem solveStage_stack_total (rel : Rows) (sel : List (Option Nat)) (t : Table α)
    (hrel : ∀ r ∈ rel, r.coeffs.length ≤ nsym) (hlen : sel.length ≤ t.length) :
    ∃ s, solveStage (stackA (α := α) (selIdxOf sel) rel)
      ((List.range (nRows t)).map fun k => stackB (selColsOf sel t) rel k) = some s := by
  apply solveStage_total (stackA_rows_le _ rel hrel)
  intro b hb
  obtain ⟨k, _, rfl⟩ := List.mem_map.1 hb
  simp [stackA, stackB, length_selColsOf sel t hlen]

theorem fillXs_ne_solver (rel : Rows) (sel : List (Option Nat)) (P : Params α) (t : Table α)
    (hrel : ∀ r ∈ rel, r.coeffs.length ≤ nsym) (hlen : sel.length ≤ t.length) :
    fillXs rel sel P t ≠ .error .solver := by
  unfold fillXs
  split
  · split <;> simp
  · obtain ⟨s, hs⟩ := solveStage_stack_total rel sel t hrel hlen
    rw [hs]
    simp only
    rcases verdict_cases P s with hv | hv | hv <;> rw [hv] <;> simp

theorem fillWith_ne_solver (rel : Rows) (sel : List (Option Nat)) (P : Params α) (t : Table α)
    (hrel : ∀ r ∈ rel, r.coeffs.length ≤ nsym) (hlen : sel.length ≤ t.length) :
    fillWith rel sel P t ≠ .error .solver := by
  rw [fillWith_eq_fillXs]
  have := fillXs_ne_solver rel sel P t hrel hlen
  cases h : fillXs rel sel P t with
  | error e => rw [h] at this; simpa [Except.map] using this
  | ok xs => simp [Except.map]

theorem fill_ne_solver (env : Env) (system : Option String) (P : Params α) (t : Table α)
    (huser : ∀ sys rows, env.userFile sys = some rows → ∀ r ∈ rows, r.coeffs.length ≤ nsym) :
    fill env system P t ≠ .error .solver := by
  cases system with
  | none => simp [fill]
  | some sys =>
    unfold fill
    simp only
    cases hrec : recognise (t.map (·.1)) with
    | error e => simp [recognise_error hrec]
    | ok sel =>
      simp only
      cases hres : resolve env sys with
      | error e => simp [resolve_error hres]
      | ok rel =>
        simp only
        exact fillWith_ne_solver rel sel P t (resolve_coeffs_length env sys (huser sys) rel hres)
          (le_of_eq (by rw [recognise_length hrec]; simp))

/-! ### `fill` on a concrete table, its least squares checked instead of computed

The elimination on the 21 × 21 Gram matrix and its square is some 25 000 rational operations per volume row for the kernel;
checking a proposed solution is a few hundred. -/

theorem lstsq_eq_of_normalEq {n : Nat} {A : List (List α)} {b x : List α} (hrows : ∀ a ∈ A, a.length ≤ n)
    (hb : b.length = A.length) (hker : kerWitness n A = none) (hxl : x.length = n)
    (hx : normalEqHold A b x = true) : lstsq n A b = some x := by
  obtain ⟨x', h⟩ := lstsq_total' hrows hb
  rw [h, lstsq_unique hb hker (lstsq_some h).1 hx (lstsq_some h).2 hxl]

theorem lstsq_eq_of_rowspace {n : Nat} {A : List (List α)} {b z : List α} (hrows : ∀ a ∈ A, a.length ≤ n)
    (hb : b.length = A.length) (hz : normalEqHold A b (padTo n (tmulVec A z)) = true) :
    lstsq n A b = some (padTo n (tmulVec A z)) := by
  obtain ⟨x', h⟩ := lstsq_total' hrows hb
  obtain ⟨z', _, rfl, h1⟩ := lstsq_some_form h
  rw [h, rowspace_normalEq_unique hb hb (List.Perm.refl _) h1 hz]

/-- `A` has no kernel, seen without elimination: taken in the order `is`, every row has exactly one non-zero entry at an
unknown that no earlier row had (`done`: the unknowns met so far), and in the end every unknown has been met -/
def echelon (n : Nat) (A : List (List α)) : List Nat → List Nat → Bool
  | done, [] => (List.range n).all (· ∈ done)
  | done, i :: is =>
    match (List.range n).filter (fun k => (A.getD i []).getD k 0 ≠ 0 ∧ k ∉ done) with
    | [j] => echelon n A (j :: done) is
    | _ => false

/-- a kernel vector vanishes at the unknowns in the order they are met: row `i` says `r_j v_j + (terms already zero) = 0` -/
theorem echelon_zero {n : Nat} {A : List (List α)} (hrows : ∀ a ∈ A, a.length ≤ n) {v : List α}
    (hv : ∀ r ∈ A, dot r v = 0) : ∀ (is done : List Nat), echelon n A done is = true →
    (∀ k ∈ done, v.getD k 0 = 0) → ∀ k < n, v.getD k 0 = 0
  | [], done, h, hd, k, hk => by
    simp only [echelon, List.all_eq_true, List.mem_range, decide_eq_true_eq] at h
    exact hd k (h k hk)
  | i :: is, done, h, hd, k, hk => by
    unfold echelon at h
    split at h
    · rename_i j hf
      have hmem : ∀ b, (b < n ∧ (A.getD i []).getD b 0 ≠ 0 ∧ b ∉ done) ↔ b = j := by
        intro b
        have := congrArg (b ∈ ·) hf
        simpa using this
      obtain ⟨hjn, hj, _⟩ := (hmem j).2 rfl
      have hi : i < A.length := by
        by_contra hc
        exact hj (by rw [List.getD_eq_default A [] (Nat.le_of_not_lt hc)]; rfl)
      rw [List.getD_eq_getElem A [] hi] at hj hmem
      have hr := hrows _ (List.getElem_mem hi)
      have hdot := hv _ (List.getElem_mem hi)
      rw [dot_eq_sum n _ _ hr, Finset.sum_eq_single (⟨j, hjn⟩ : Fin n)] at hdot
      · apply echelon_zero hrows hv is (j :: done) h _ k hk
        intro k' hk'
        rcases List.mem_cons.1 hk' with rfl | hk'
        · exact (mul_eq_zero.1 hdot).resolve_left hj
        · exact hd k' hk'
      · intro b _ hb
        by_cases hz : A[i].getD b 0 = 0
        · rw [hz, zero_mul]
        · have hbd : b.val ∈ done := by
            by_contra hc
            exact hb (Fin.ext ((hmem b).1 ⟨b.isLt, hz, hc⟩))
          rw [hd _ hbd, mul_zero]
      · intro h; exact absurd (Finset.mem_univ _) h
    · simp at h

def kernelChecked (n : Nat) (A : List (List α)) : List α ⊕ List Nat → Bool
  | .inl v => v.length == n && v.any (· ≠ 0) && A.all fun r => dot r v = 0
  | .inr is => echelon n A [] is

theorem kernelChecked_isSome {n : Nat} {A : List (List α)} (hrows : ∀ a ∈ A, a.length ≤ n) {w : List α ⊕ List Nat}
    (h : kernelChecked n A w = true) : (kerWitness n A).isSome = w.isLeft := by
  cases w with
  | inl v =>
    simp only [kernelChecked, Bool.and_eq_true, beq_iff_eq, List.any_eq_true, decide_eq_true_eq, List.all_eq_true] at h
    exact kerWitness_isSome_iff.2 ⟨v, h.1.1, h.1.2, h.2⟩
  | inr is =>
    rw [Sum.isLeft_inr, Bool.eq_false_iff]
    intro hc
    obtain ⟨v, hl, ⟨x, hx, hx0⟩, hz⟩ := kerWitness_isSome_iff.1 hc
    obtain ⟨k, hk, rfl⟩ := List.getElem_of_mem hx
    apply hx0
    rw [← List.getD_eq_getElem v 0 hk]
    exact echelon_zero hrows hz is [] h (by simp) k (hl ▸ hk)

/-- `fill` with its solve stage checked.  `w`: a kernel vector of the stacked system `A` (`.inl`), or an order of its rows
that shows it has none (`.inr`, see `echelon`).  `cs`, one entry per volume row: without kernel the solution `x` itself; with
a kernel the coefficients `z` of the minimum-norm solution `x = Aᵀ z`.  The result is `none` when a check fails. -/
def fillChecked (env : Env) (sys : String) (P : Params α) (t : Table α) (w : List α ⊕ List Nat) (cs : List (List α)) :
    Option (Except Err (Table α)) :=
  match recognise (t.map (·.1)), resolve env sys with
  | .ok sel, .ok rel =>
    let A := stackA (α := α) (selIdxOf sel) rel
    let bs := (List.range (nRows t)).map fun k => stackB (selColsOf sel t) rel k
    let xs := if w.isLeft then cs.map fun z => padTo nsym (tmulVec A z) else cs
    if !(selIdxOf sel).isEmpty && rel.all (fun r => r.coeffs.length ≤ nsym) && kernelChecked nsym A w &&
        xs.length == bs.length && (List.zip bs xs).all (fun p => p.2.length == nsym && normalEqHold A p.1 p.2) then
      some (match verdict P ⟨w.isLeft, A.length, xs, List.zipWith (fun b x => sumSq (residualVec A b x)) bs xs⟩ with
        | .error e => .error e
        | .ok () => .ok (finish P t xs))
    else none
  | _, _ => none

theorem fill_eq_of_checked {env : Env} {sys : String} {P : Params α} {t : Table α} {w : List α ⊕ List Nat}
    {cs : List (List α)} {r : Except Err (Table α)} (h : fillChecked env sys P t w cs = some r) :
    fill env (some sys) P t = r := by
  unfold fillChecked at h
  split at h
  · rename_i sel rel hrec hres
    simp only at h
    set A := stackA (α := α) (selIdxOf sel) rel with hA
    set bs := (List.range (nRows t)).map fun k => stackB (selColsOf sel t) rel k with hbs
    set xs := if w.isLeft then cs.map fun z => padTo nsym (tmulVec A z) else cs with hxs
    split at h
    · rename_i hc
      simp only [Bool.and_eq_true, Bool.not_eq_true', List.all_eq_true, decide_eq_true_eq, beq_iff_eq] at hc
      obtain ⟨⟨⟨⟨hsel, hrel⟩, hrank⟩, hlen⟩, hsol⟩ := hc
      have hrows : ∀ a ∈ A, a.length ≤ nsym := stackA_rows_le _ rel hrel
      have hb : ∀ b ∈ bs, b.length = A.length := by
        intro b hb
        obtain ⟨k, _, rfl⟩ := List.mem_map.1 hb
        simp [hA, stackA, stackB, length_selColsOf sel t (le_of_eq (by rw [recognise_length hrec]; simp))]
      have hk := kernelChecked_isSome hrows hrank
      have hx : bs.mapM (fun b => lstsq nsym A b) = some xs := by
        refine mapM_eq_some_iff.2 (List.forall₂_iff_zip.2 ⟨hlen.symm, fun {b x} hp => ?_⟩)
        have hpb := hb b (List.of_mem_zip hp).1
        obtain ⟨hpl, hpn⟩ := hsol (b, x) hp
        cases hw : w.isLeft with
        | false => exact lstsq_eq_of_normalEq hrows hpb (by rw [hw] at hk; simpa using hk) hpl hpn
        | true =>
          have : x ∈ cs.map fun z => padTo nsym (tmulVec A z) := by
            have := (List.of_mem_zip hp).2
            rwa [hxs, hw, if_pos rfl] at this
          obtain ⟨z, _, rfl⟩ := List.mem_map.1 this
          exact lstsq_eq_of_rowspace hrows hpb hpn
      have hs : solveStage A bs = some ⟨w.isLeft, A.length, xs,
          List.zipWith (fun b x => sumSq (residualVec A b x)) bs xs⟩ := by
        unfold solveStage
        rw [hx, hk]
        rfl
      have hfill : fill env (some sys) P t = fillWith rel sel P t := by simp only [fill, hrec, hres]
      rw [hfill, fillWith_of_solved hsel hs]
      exact Option.some.inj h
    · simp at h
  · simp at h

theorem fill_of_checked {β : Type} (f : Except Err (Table α) → β) {env : Env} {sys : String} {P : Params α}
    {t : Table α} {w : List α ⊕ List Nat} {cs : List (List α)} {y : β}
    (h : (fillChecked env sys P t w cs).map f = some y) : f (fill env (some sys) P t) = y := by
  obtain ⟨r, hr, rfl⟩ := Option.map_eq_some_iff.1 h
  rw [fill_eq_of_checked hr]

end Cij.Fill
