/-
  Bridge between the list-vectors of the fill model (`CijModel/Fill.lean`) and the component functions
  `Fin 21 → ℝ` of the Laue theorems: the packaged relation rows are the generated integer rows (`packaged_rows`), and a
  list-tensor that satisfies them satisfies `relationsHold` (`relationsHold_of_rel`).
-/
import CijProofs.Lemmas.Laue
import CijProofs.Lemmas.FillTotal
namespace Cij.Laue
open Finset Cij.Fill

theorem wellFormed_of_cert {name : String} {rows : List (List Int × Int)} (h : certOK name rows = true) :
    wellFormed rows = true := by
  simp only [certOK, Bool.and_eq_true] at h
  exact h.1.1

theorem dot_castRow (r : Rel) (τ : List ℝ) :
    dot (castRow (α := ℝ) r) τ = dot (r.coeffs.map fun z => ((z : Int) : ℝ)) τ / ((Int.ofNat r.den : Int) : ℝ) := by
  unfold castRow
  generalize r.coeffs = co
  induction co generalizing τ with
  | nil => simp
  | cons z co ih =>
    cases τ with
    | nil => simp
    | cons b τ => simp only [List.map_cons, dot_cons, ih τ]; ring

def packagedOK (p : String × List (List Int × Int)) : Bool :=
  match packaged p.1 with
  | .ok rel => decide ((rel.map fun r => (r.coeffs, r.rhs)) = p.2) && rel.all fun r => decide (r.den ≠ 0)
  | .error _ => false

theorem packaged_all_ok : Generated.constraintSystems.all packagedOK = true := by decide +kernel

/-- the packaged relations are the generated integer rows with non-zero denominators -/
theorem packaged_rows {p : String × List (List Int × Int)} (hp : p ∈ Generated.constraintSystems) :
    ∃ rel, packaged p.1 = .ok rel ∧ (rel.map fun r => (r.coeffs, r.rhs)) = p.2 ∧ ∀ r ∈ rel, r.den ≠ 0 := by
  have h := List.all_eq_true.mp packaged_all_ok p hp
  unfold packagedOK at h
  cases hk : packaged p.1 with
  | error e => simp [hk] at h
  | ok rel =>
    simp only [hk, Bool.and_eq_true, decide_eq_true_eq, List.all_eq_true] at h
    exact ⟨rel, rfl, h.1, h.2⟩

theorem relationsHold_of_rel {rows : List (List Int × Int)} {rel : Rows} (hw : wellFormed rows = true)
    (hmap : (rel.map fun r => (r.coeffs, r.rhs)) = rows) (hden : ∀ r ∈ rel, r.den ≠ 0)
    (τ : List ℝ) (h : ∀ r ∈ rel, dot (castRow (α := ℝ) r) τ - (Int.cast r.rhs : ℝ) / (Int.cast (Int.ofNat r.den) : ℝ) = 0) :
    relationsHold rows (fun j => τ.getD j.val 0) := by
  simp only [wellFormed, List.all_eq_true, Bool.and_eq_true, decide_eq_true_eq] at hw
  subst hmap
  intro q hq
  obtain ⟨r, hr, rfl⟩ := List.mem_map.mp hq
  have hl := (hw _ hq).1
  have h0 := h r hr
  rw [dot_castRow] at h0
  have hd : ((Int.ofNat r.den : Int) : ℝ) ≠ 0 := by
    simpa using hden r hr
  have h1 : dot (r.coeffs.map fun z => ((z : Int) : ℝ)) τ = (r.rhs : ℝ) := by
    field_simp at h0; linarith
  rw [dot_eq_sum 21 _ _ (by simp [hl])] at h1
  rw [← h1]
  refine sum_congr rfl fun j _ => ?_
  congr 1
  cases hj : r.coeffs[j.val]? <;> simp [List.getD_eq_getElem?_getD, List.getElem?_map, hj]

end Cij.Laue
