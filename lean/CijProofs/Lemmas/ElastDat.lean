/- The static-table reader of `CijModel/ElastDat.lean` on a table as it stands in a file: cells that parse back, `dict(zip(keys, values))`,
   the spelling of column names, the frame `cij fill` re-emits. -/
import CijModel.ElastDat

namespace Cij.ElastDat
open Cij Cij.Lex

variable {Num : Type}

/-- a printed cell: the token in the file and the number it denotes -/
abbrev Cell (Num : Type) := Token × Num

def cellsOk (F : NumFmt Num) (r : List (Cell Num)) : Prop := ∀ c ∈ r, F.parse c.1 = some c.2

theorem mapM_cells (F : NumFmt Num) (r : List (Cell Num)) (h : cellsOk F r) :
    (r.map Prod.fst).mapM F.parse = some (r.map Prod.snd) := by
  induction r with
  | nil => rfl
  | cons c r ih =>
    have hc : F.parse c.1 = some c.2 := h c (by simp)
    have := ih (fun c' h' => h c' (by simp [h']))
    simp [List.mapM_cons, hc, this]

theorem dictInsert_new {κ ν} [DecidableEq κ] (d : List (κ × ν)) (k : κ) (v : ν) (h : ∀ e ∈ d, e.1 ≠ k) :
    dictInsert d k v = d ++ [(k, v)] := by
  unfold dictInsert
  have : d.any (fun e => decide (e.1 = k)) = false := by
    rw [List.any_eq_false]; intro e he; simpa using h e he
  simp [this]

theorem foldl_dictInsert_nodup {κ ν} [DecidableEq κ] (kvs : List (κ × ν)) (acc : List (κ × ν))
    (hnd : (kvs.map Prod.fst).Nodup) (hdis : ∀ e ∈ acc, ∀ f ∈ kvs, e.1 ≠ f.1) :
    kvs.foldl (fun d kv => dictInsert d kv.1 kv.2) acc = acc ++ kvs := by
  induction kvs generalizing acc with
  | nil => simp
  | cons kv kvs ih =>
    simp only [List.foldl_cons]
    rw [dictInsert_new acc kv.1 kv.2 (fun e he => hdis e he kv (by simp))]
    have hnd' : (kvs.map Prod.fst).Nodup := (List.nodup_cons.mp (by simpa using hnd)).2
    have hnot : kv.1 ∉ kvs.map Prod.fst := (List.nodup_cons.mp (by simpa using hnd)).1
    rw [ih _ hnd']
    · simp
    · intro e he f hf
      rcases List.mem_append.mp he with h | h
      · exact hdis e h f (by simp [hf])
      · have : e = kv := by simpa using h
        subst this
        intro heq
        exact hnot (List.mem_map.mpr ⟨f, hf, heq.symm⟩)

theorem nodup_map_fst_zip {κ ν} (ks : List κ) (vs : List ν) (h : ks.Nodup) : ((ks.zip vs).map Prod.fst).Nodup := by
  induction ks generalizing vs with
  | nil => simp
  | cons k ks ih =>
    cases vs with
    | nil => simp
    | cons v vs =>
      have hk := List.nodup_cons.mp h
      simp only [List.zip_cons_cons, List.map_cons, List.nodup_cons]
      refine ⟨?_, ih vs hk.2⟩
      intro hm
      obtain ⟨e, he, rfl⟩ := List.mem_map.mp hm
      exact hk.1 (List.of_mem_zip he).1

/-- distinct keys: the dictionary is the plain pairing of keys with values, in column order -/
theorem dictOfZip_nodup {κ ν} [DecidableEq κ] (ks : List κ) (vs : List ν) (h : ks.Nodup) :
    dictOfZip ks vs = ks.zip vs := by
  unfold dictOfZip
  have hnd : ((ks.zip vs).map Prod.fst).Nodup := nodup_map_fst_zip ks vs h
  simpa using foldl_dictInsert_nodup (ks.zip vs) [] hnd (by simp)

theorem dictInsert_map {κ ν μ} [DecidableEq κ] (g : ν → μ) (d : List (κ × ν)) (k : κ) (v : ν) :
    (dictInsert d k v).map (fun e => (e.1, g e.2)) = dictInsert (d.map fun e => (e.1, g e.2)) k (g v) := by
  unfold dictInsert
  have : (d.map fun e => (e.1, g e.2)).any (fun e => decide (e.1 = k)) = d.any (fun e => decide (e.1 = k)) := by
    simp [List.any_map, Function.comp_def]
  rw [this]
  split
  · simp only [List.map_map]
    apply List.map_congr_left
    intro e _
    by_cases h : e.1 = k <;> simp [h]
  · simp

theorem foldl_dictInsert_map {κ ν μ} [DecidableEq κ] (g : ν → μ) (kvs : List (κ × ν)) (acc : List (κ × ν)) :
    (kvs.foldl (fun d kv => dictInsert d kv.1 kv.2) acc).map (fun e => (e.1, g e.2))
      = (kvs.map fun e => (e.1, g e.2)).foldl (fun d kv => dictInsert d kv.1 kv.2) (acc.map fun e => (e.1, g e.2)) := by
  induction kvs generalizing acc with
  | nil => rfl
  | cons kv kvs ih => simp only [List.foldl_cons, List.map_cons]; rw [ih, dictInsert_map]

theorem dictOfZip_map {κ ν μ} [DecidableEq κ] (g : ν → μ) (ks : List κ) (vs : List ν) :
    dictOfZip ks (vs.map g) = (dictOfZip ks vs).map (fun e => (e.1, g e.2)) := by
  unfold dictOfZip
  rw [foldl_dictInsert_map]
  have : ks.zip (vs.map g) = (ks.zip vs).map (fun e => (e.1, g e.2)) := by
    rw [List.zip_map_right]; apply List.map_congr_left; intro e _; rfl
  rw [this]; rfl

/-- a table row as printed: the volume cell and the component cells -/
abbrev Row (Num : Type) := Cell Num × List (Cell Num)

def Row.line (r : Row Num) : Line := r.1.1 :: r.2.map Prod.fst
def Row.ok (F : NumFmt Num) (r : Row Num) : Prop := F.parse r.1.1 = some r.1.2 ∧ cellsOk F r.2
/-- the record a table row denotes -/
def Row.volume (keys : List Key) (r : Row Num) : ElastVolume Num := ⟨r.1.2, dictOfZip keys.tail (r.2.map Prod.snd)⟩

theorem readRows_cells (F : NumFmt Num) (keys : List Key) (rows : List (Row Num))
    (hok : ∀ r ∈ rows, r.ok F) (rest : List Line) :
    readRows F keys rows.length (rows.map Row.line ++ rest) = some (rows.map (Row.volume keys), rest) := by
  induction rows with
  | nil => simp [readRows]
  | cons r rows ih =>
    have h := hok r (by simp)
    have ih' := ih (fun r' h' => hok r' (by simp [h']))
    simp only [List.map_cons, List.cons_append, List.length_cons, readRows, List.headD_cons, List.tail_cons]
    simp [Row.line, List.mapM_cons, h.1, mapM_cells F r.2 h.2, ih', Row.volume]

theorem readLattice_cells (F : NumFmt Num) (lat : List (List (Cell Num))) (hok : ∀ r ∈ lat, cellsOk F r)
    (rest : List Line) :
    readLattice F lat.length (lat.map (·.map Prod.fst) ++ rest) = some (lat.map (·.map Prod.snd)) := by
  induction lat with
  | nil => simp [readLattice]
  | cons r lat ih =>
    have ih' := ih (fun r' h' => hok r' (by simp [h']))
    simp only [List.map_cons, List.cons_append, List.length_cons, readLattice, List.headD_cons, List.tail_cons]
    simp [mapM_cells F r (hok r (by simp)), ih']

/-- decimal spelling of a Voigt pair -/
def pairStr (p : Int × Int) : String := toString p.1 ++ toString p.2
/-- … of a standard 4-tuple -/
def tupleStr (t : Int × Int × Int × Int) : String :=
  toString t.1 ++ toString t.2.1 ++ toString t.2.2.1 ++ toString t.2.2.2

theorem index_digit : ∀ i ∈ idx6,
    digitsOf (toString i) = some [i] ∧ (toString i).toList.all Char.isDigit = true ∧ (toString i).toList ≠ [] := by
  decide +kernel

theorem digitsOf_append (a b : String) (x y : List Int) (ha : digitsOf a = some x) (hb : digitsOf b = some y) :
    digitsOf (a ++ b) = some (x ++ y) := by
  unfold digitsOf at *
  rw [String.toList_append, List.mapM_append, ha, hb]
  rfl

theorem mem_allTuples {t : Int × Int × Int × Int} (h : t ∈ allTuples) :
    t.1 ∈ idx6 ∧ t.2.1 ∈ idx6 ∧ t.2.2.1 ∈ idx6 ∧ t.2.2.2 ∈ idx6 := by
  have h36 : ∀ i ∈ idx3, i ∈ idx6 := by decide
  simp only [allTuples, List.mem_flatMap, List.mem_map] at h
  obtain ⟨i, hi, j, hj, k, hk, l, hl, rfl⟩ := h
  exact ⟨h36 i hi, h36 j hj, h36 k hk, h36 l hl⟩

theorem mem_allPairs {p : Int × Int} (h : p ∈ allPairs) : p.1 ∈ idx6 ∧ p.2 ∈ idx6 := by
  simp only [allPairs, List.mem_flatMap, List.mem_map] at h
  obtain ⟨i, hi, j, hj, rfl⟩ := h
  exact ⟨hi, hj⟩

theorem create_pairStr : ∀ p ∈ allPairs, Modulus.create [.str (pairStr p)] = Modulus.fromVoigt p.1 p.2 := by
  intro p hp
  obtain ⟨h1, h2⟩ := mem_allPairs hp
  have := digitsOf_append _ _ _ _ (index_digit _ h1).1 (index_digit _ h2).1
  simp only [Modulus.create, pairStr, this]
  rfl

theorem create_tupleStr : ∀ t ∈ allTuples,
    Modulus.create [.str (tupleStr t)] = Modulus.fromStandard t.1 t.2.1 t.2.2.1 t.2.2.2 := by
  intro t ht
  obtain ⟨h1, h2, h3, h4⟩ := mem_allTuples ht
  have := digitsOf_append _ _ _ _ (digitsOf_append _ _ _ _ (digitsOf_append _ _ _ _ (index_digit _ h1).1 (index_digit _ h2).1)
    (index_digit _ h3).1) (index_digit _ h4).1
  simp only [Modulus.create, tupleStr, this]
  rfl

theorem digits_pairStr : ∀ p ∈ allPairs, (pairStr p).toList.all Char.isDigit = true ∧ (pairStr p).toList ≠ [] := by
  intro p hp
  obtain ⟨h1, h2⟩ := mem_allPairs hp
  obtain ⟨_, a1, n1⟩ := index_digit _ h1
  obtain ⟨_, a2, _⟩ := index_digit _ h2
  unfold pairStr
  rw [String.toList_append, List.all_append, a1, a2]
  exact ⟨rfl, fun h => n1 (List.append_eq_nil_iff.mp h).1⟩

theorem digits_tupleStr : ∀ t ∈ allTuples, (tupleStr t).toList.all Char.isDigit = true ∧ (tupleStr t).toList ≠ [] := by
  intro t ht
  obtain ⟨h1, h2, h3, h4⟩ := mem_allTuples ht
  obtain ⟨_, a1, n1⟩ := index_digit _ h1
  obtain ⟨_, a2, _⟩ := index_digit _ h2
  obtain ⟨_, a3, _⟩ := index_digit _ h3
  obtain ⟨_, a4, _⟩ := index_digit _ h4
  unfold tupleStr
  rw [String.toList_append, String.toList_append, String.toList_append, List.all_append, List.all_append, List.all_append,
    a1, a2, a3, a4]
  refine ⟨rfl, fun h => n1 ?_⟩
  simp only [List.append_eq_nil_iff] at h
  exact h.1.1.1

theorem dropWhile_prefix (pre ds : List Char) (hpre : ∀ c ∈ pre, c.isDigit = false)
    (hds : ds.all Char.isDigit = true) (hne : ds ≠ []) :
    (pre ++ ds).dropWhile (fun c => !c.isDigit) = ds := by
  induction pre with
  | nil =>
    cases ds with
    | nil => exact absurd rfl hne
    | cons d ds => simp at hds; simp [hds.1]
  | cons c pre ih =>
    have hc : c.isDigit = false := hpre c (by simp)
    simp [hc, ih (fun c' h => hpre c' (by simp [h]))]

/-- a column name made of any digit-free prefix followed by a digit string is keyed by `c_(digits)` -/
theorem findModulusKey_prefix (pre digits : String) (hpre : ∀ c ∈ pre.toList, c.isDigit = false)
    (hds : digits.toList.all Char.isDigit = true) (hne : digits.toList ≠ []) :
    findModulusKey (pre ++ digits) = (Modulus.create [.str digits]).map Key.mod := by
  unfold findModulusKey
  simp only [String.toList_append]
  rw [dropWhile_prefix _ _ hpre hds hne]
  have : digits.toList.isEmpty = false := by
    cases h : digits.toList with
    | nil => exact absurd h hne
    | cons a l => rfl
  simp [this, hds, String.ofList_toList]

/-! #### a static table as it stands in the file (specification side) -/

structure TableFile (Num : Type) where
  title : Line
  vref : Cell Num
  nvTok : Token
  mass : Cell Num
  extra : Line
  vname : Token
  names : List Token
  rows : List (Row Num)

def TableFile.header2 (t : TableFile Num) : Line := t.vref.1 :: t.nvTok :: t.mass.1 :: t.extra

def TableFile.tableLines (t : TableFile Num) : List Line := (t.vname :: t.names) :: t.rows.map Row.line

def TableFile.lines (t : TableFile Num) : List Line := t.title :: t.header2 :: t.tableLines

/-- the table part well-formed: cells denote their numbers, the count token is the number of rows,
the names are acceptable to `c_` -/
structure TableFile.Ok (F : NumFmt Num) (t : TableFile Num) (kv : Key) (keys : List Key) : Prop where
  vref : F.parse t.vref.1 = some t.vref.2
  mass : F.parse t.mass.1 = some t.mass.2
  nv : parseInt t.nvTok = some (t.rows.length : Int)
  vkey : findModulusKey t.vname = some kv
  keys : t.names.mapM findModulusKey = some keys
  rows : ∀ r ∈ t.rows, r.ok F

/-- the frame pandas reads from the table lines -/
def TableFile.frame (t : TableFile Num) : Table Num :=
  ⟨t.vname :: t.names, t.rows.map fun r => r.1.2 :: r.2.map Prod.snd⟩

/-- the lattice part of a parse, as a function of what follows the table rows -/
def readTail (F : NumFmt Num) (n : Nat) (tail : List Line) : Option (List (List Num)) :=
  if tail.headD [] ≠ [] then readLattice F n tail.tail else some []

theorem read_elast_core (F : NumFmt Num) (t : TableFile Num) (kv : Key) (keys : List Key) (h : t.Ok F kv keys)
    (tail : List Line) :
    readElastData F (t.lines ++ tail) =
      (readTail F t.rows.length tail).map fun lat =>
        { vref := t.vref.2, nv := t.rows.length, cellmass := t.mass.2,
          volumes := t.rows.map (Row.volume (kv :: keys)), lattice := lat } := by
  have hr := readRows_cells F (kv :: keys) t.rows h.rows tail
  simp only [TableFile.lines, TableFile.header2, TableFile.tableLines, List.cons_append, readElastData]
  simp only [List.getElem?_cons_zero, List.getElem?_cons_succ, Option.bind_eq_bind, Option.bind_some, h.vref, h.mass, h.nv,
    List.mapM_cons, h.vkey, h.keys, Int.toNat_natCast, readTail]
  simp only [Option.pure_def, Option.bind_some, hr]
  split
  · cases readLattice F t.rows.length tail.tail <;> simp
  · simp

theorem filter_lines_ne (ls : List Line) (h : ∀ l ∈ ls, l ≠ []) : ls.filter (· ≠ []) = ls := by
  apply List.filter_eq_self.mpr
  intro l hl
  simpa using h l hl

theorem mapM_rowLines (F : NumFmt Num) (m : Nat) (rows : List (Row Num)) (hrows : ∀ r ∈ rows, r.ok F)
    (hw : ∀ r ∈ rows, r.2.length + 1 = m) :
    (rows.map Row.line).mapM (fun r => if r.length = m then r.mapM F.parse else none)
      = some (rows.map fun r => r.1.2 :: r.2.map Prod.snd) := by
  induction rows with
  | nil => rfl
  | cons r rows ih =>
    have h1 := hrows r (by simp)
    have hl : (Row.line r).length = m := by simpa [Row.line] using hw r (by simp)
    have hp : (Row.line r).mapM F.parse = some (r.1.2 :: r.2.map Prod.snd) := by
      simp [Row.line, List.mapM_cons, h1.1, mapM_cells F r.2 h1.2]
    simp only [List.map_cons, List.mapM_cons]
    rw [if_pos hl, hp, ih (fun r' h => hrows r' (by simp [h])) (fun r' h => hw r' (by simp [h]))]
    rfl

theorem parseTable_frame (F : NumFmt Num) (t : TableFile Num) (hrows : ∀ r ∈ t.rows, r.ok F)
    (hw : ∀ r ∈ t.rows, r.2.length = t.names.length) :
    parseTable F t.tableLines = some t.frame := by
  unfold parseTable
  rw [filter_lines_ne]
  · simp only [TableFile.tableLines, TableFile.frame]
    rw [mapM_rowLines F _ t.rows hrows (fun r hr => by simp [hw r hr])]
    rfl
  · intro l hl
    simp only [TableFile.tableLines, List.mem_cons, List.mem_map] at hl
    rcases hl with rfl | ⟨r, _, rfl⟩ <;> simp [Row.line]

theorem length_of_mapM {α β} (f : α → Option β) (l : List α) (l' : List β) (h : l.mapM f = some l') :
    l'.length = l.length := by
  induction l generalizing l' with
  | nil => simp at h; simp [h]
  | cons a l ih =>
    simp only [List.mapM_cons, Option.bind_eq_bind, Option.bind_eq_some_iff] at h
    obtain ⟨b, _, bs, hbs, hl⟩ := h
    simp at hl
    subst hl
    simp [ih bs hbs]

theorem map_cons_zip {α β} (f : α → β) (l : List α) (R : List (List β)) :
    ((l.map f).zip R).map (fun r => r.1 :: r.2) = List.zipWith (fun a x => f a :: x) l R := by
  induction l generalizing R with
  | nil => simp
  | cons a l ih => cases R with
    | nil => simp
    | cons x R => simp [ih R]

end Cij.ElastDat
