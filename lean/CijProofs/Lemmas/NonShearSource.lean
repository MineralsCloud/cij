/-
  The hand-written model functions of `CijModel/NonShear.lean` ARE the expressions that the translator extracts from
  `nonshear.py` on this run (`Generated/NonShearExprs.lean`) — for EVERY scalar type, hence also
  for the `Float` instance the correspondence run executes.  All by unfolding (`rfl`): if someone edits a sign, an index
  or a factor in the Python bodies, these stop checking.
-/
import CijModel.NSExpr
import Generated.NonShearExprs

namespace Cij.NSExpr
open Cij.NonShear

variable {α : Type} [Scalar α] [Add α] [Sub α] [Mul α] [Div α] [Neg α]

/-- the environment in which the translated bodies are evaluated at one (T, V) grid point -/
def envAt (c : Consts α) (w : List α) (T P cv : α) (s : VolSlice α) (g : ModeGamma α) (zp th iso gap : α) : SEnv α :=
  { h := c.h, k := c.k, T := T, V := s.V, cv := cv, na := c.na, P := P, pst := s.pstatic, zp := zp, th := th, iso := iso,
    gap := gap, w := w,
    m := { g := g, freq := s.freq, q1 := Q1arr c.hdk T s.freq, q2 := Q2arr c.hdk T s.freq } }

theorem zeroPointLong_is_source (c : Consts α) (w : List α) (T P cv : α) (s : VolSlice α) (g : ModeGamma α) (a b d e : α) :
    zeroPointLongAt c.h c.na s.V g s.freq w = evalBody (envAt c w T P cv s g a b d e) Generated.nsZpLong := rfl

theorem zeroPointOff_is_source (c : Consts α) (w : List α) (T P cv : α) (s : VolSlice α) (g : ModeGamma α) (a b d e : α) :
    zeroPointOffAt c.h c.na s.V g s.freq w = evalBody (envAt c w T P cv s g a b d e) Generated.nsZpOff := rfl

theorem thermalLong_is_source (c : Consts α) (w : List α) (T P cv : α) (s : VolSlice α) (g : ModeGamma α) (a b d e : α) :
    thermalLongAt c.k c.hdk c.na T s.V g s.freq w = evalBody (envAt c w T P cv s g a b d e) Generated.nsThLong := rfl

theorem thermalOff_is_source (c : Consts α) (w : List α) (T P cv : α) (s : VolSlice α) (g : ModeGamma α) (a b d e : α) :
    thermalOffAt c.k c.hdk c.na T s.V g s.freq w = evalBody (envAt c w T P cv s g a b d e) Generated.nsThOff := rfl

theorem isoToAdiaLong_is_source (c : Consts α) (w : List α) (T P cv : α) (s : VolSlice α) (g : ModeGamma α) (a b d e : α) :
    isoToAdiaAt c.k c.hdk c.na T s.V cv g s.freq w = evalBody (envAt c w T P cv s g a b d e) Generated.nsGapLong := rfl

theorem isoToAdiaOff_is_source (c : Consts α) (w : List α) (T P cv : α) (s : VolSlice α) (g : ModeGamma α) (a b d e : α) :
    isoToAdiaAt c.k c.hdk c.na T s.V cv g s.freq w = evalBody (envAt c w T P cv s g a b d e) Generated.nsGapOff := rfl

/-- `value_isothermal`, longitudinal: the translated body evaluated on the model's zero-point and thermal parts -/
theorem valueIsothermalLong_is_source (c : Consts α) (w : List α) (T P cv : α) (s : VolSlice α) (d e : α) :
    valueIsothermalLongAt c w T s =
      evalBody (envAt c w T P cv s (mgLong s)
        (zeroPointLongAt c.h c.na s.V (mgLong s) s.freq w) (thermalLongAt c.k c.hdk c.na T s.V (mgLong s) s.freq w) d e)
        Generated.nsIsoLong := rfl

theorem valueIsothermalOff_is_source (c : Consts α) (w : List α) (T P cv : α) (s : VolSlice α) (d e : α) :
    valueIsothermalOffAt c w T P s =
      evalBody (envAt c w T P cv s (mgOff s)
        (zeroPointOffAt c.h c.na s.V (mgOff s) s.freq w) (thermalOffAt c.k c.hdk c.na T s.V (mgOff s) s.freq w) d e)
        Generated.nsIsoOff := rfl

theorem valueAdiabaticLong_is_source (c : Consts α) (w : List α) (T P cv : α) (s : VolSlice α) (a b : α) :
    valueAdiabaticLongAt c w T cv s =
      evalBody (envAt c w T P cv s (mgLong s) a b (valueIsothermalLongAt c w T s)
        (isoToAdiaAt c.k c.hdk c.na T s.V cv (mgLong s) s.freq w)) Generated.nsAdiaLong := rfl

theorem valueAdiabaticOff_is_source (c : Consts α) (w : List α) (T P cv : α) (s : VolSlice α) (a b : α) :
    valueAdiabaticOffAt c w T P cv s =
      evalBody (envAt c w T P cv s (mgOff s) a b (valueIsothermalOffAt c w T P s)
        (isoToAdiaAt c.k c.hdk c.na T s.V cv (mgOff s) s.freq w)) Generated.nsAdiaOff := rfl

/-- `mode_gamma` wiring: (g0, g10, g11, g2) = (pref[0]·cmg[0], pref[1][0]·cmg[1], pref[1][1]·cmg[1], pref[2]·cmg[2]),
the wiring `NonShear.modeGamma` implements, in both classes -/
theorem modeGamma_wiring_is_source :
    Generated.mgWiringLong = [([0], 0), ([1, 0], 1), ([1, 1], 1), ([2], 2)] ∧
    Generated.mgWiringOff = [([0], 0), ([1, 0], 1), ([1, 1], 1), ([2], 2)] := by decide

end Cij.NSExpr
