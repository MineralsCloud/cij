/-
  Order-freedom (no property statements here): a lookup in an association list with distinct keys and
  a `find?` with at most one hit do not depend on the order of the list.
-/
import CijProofs.Lemmas.VRH
namespace Cij.OrderFree
open Cij Cij.VRH

theorem find_perm {β : Type} {d d' : List (Modulus × β)} (hp : d.Perm d') (hn : (d.map (·.1)).Nodup)
    (key : Modulus) : find d key = find d' key := by
  have hn' : (d'.map (·.1)).Nodup := (hp.map _).nodup_iff.1 hn
  cases h : find d key with
  | some x =>
    have := (find_eq_some_iff d hn key x).1 h
    exact ((find_eq_some_iff d' hn' key x).2 (hp.mem_iff.1 this)).symm
  | none =>
    cases h' : find d' key with
    | none => rfl
    | some x =>
      have := (find_eq_some_iff d' hn' key x).1 h'
      have := (find_eq_some_iff d hn key x).2 (hp.mem_iff.2 this)
      rw [h] at this; cases this

/-- a `find?` whose predicate has at most one hit in the list does not depend on the order of the list -/
theorem find?_perm_unique {β : Type} {l l' : List β} (hp : l.Perm l') (p : β → Bool)
    (hu : ∀ a ∈ l, ∀ b ∈ l, p a = true → p b = true → a = b) : l.find? p = l'.find? p := by
  cases h : l.find? p with
  | some a =>
    have ha : a ∈ l := List.mem_of_find?_eq_some h
    have hpa : p a = true := List.find?_some h
    cases h' : l'.find? p with
    | none =>
      have := List.find?_eq_none.1 h' a (hp.mem_iff.1 ha)
      simp [hpa] at this
    | some b =>
      have hb : b ∈ l := hp.mem_iff.2 (List.mem_of_find?_eq_some h')
      rw [hu a ha b hb hpa (List.find?_some h')]
  | none =>
    cases h' : l'.find? p with
    | none => rfl
    | some b =>
      have hb : b ∈ l := hp.mem_iff.2 (List.mem_of_find?_eq_some h')
      have := List.find?_eq_none.1 h b hb
      simp [List.find?_some h'] at this

end Cij.OrderFree
