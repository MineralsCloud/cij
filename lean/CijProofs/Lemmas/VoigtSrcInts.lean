/-
  Out-of-range indices are rejected BY THE TRANSLATED SOURCE for all integers — not by enumeration: the PyLite evaluator runs in the
  kernel (`kernel_rfl`) on `Generated.VoigtSrc.module` with partly symbolic arguments.  An integer is `Int.negSucc n` (negative),
  a literal, or `Int.ofNat (n + k)` (large); every test the source performs on such a value (`==` against the table entries, `in`,
  `<` against 10) is decided by the constructors.

  Standard pairs (`e_(i, j)`, `c_(i, j, k, l)`): `sorted((i, j))` compares two symbolic magnitudes, which kernel evaluation alone
  cannot decide; `VoigtSrcSort` extracts the evaluator's continuation around the sort and splits on `i ≤ j` first, so the statements
  here hold for ALL integers, without exclusions.
-/
import CijProofs.Lemmas.PyLite
import CijProofs.Lemmas.Voigt
import CijModel.VoigtSrc
import CijProofs.Lemmas.VoigtSrcDigits

namespace Cij.VoigtSrc
open PyLite

/-- every integer outside 1..6 is negative, 0, or at least 7 -/
theorem int_shape7 (v : Int) (h : ¬(1 ≤ v ∧ v ≤ 6)) : (∃ n, v = Int.negSucc n) ∨ v = 0 ∨ ∃ n, v = Int.ofNat (n + 7) := by
  cases v with
  | negSucc n => exact Or.inl ⟨n, rfl⟩
  | ofNat m =>
    by_cases h0 : m = 0
    · subst h0; exact Or.inr (Or.inl rfl)
    · refine Or.inr (Or.inr ⟨m - 7, ?_⟩)
      have : 7 ≤ m := by
        have : (Int.ofNat m) = (m : Int) := rfl
        omega
      congr 1; omega

theorem all_idx6 {p : Int → Bool} (h : (idx6.all fun i => p i) = true) : ∀ i ∈ idx6, p i = true :=
  fun i hi => List.all_eq_true.mp h i hi

/-! ### Voigt indices: `E_.from_voigt(v)`, `e_(v)`, `c_(i, j)` -/

theorem fv_neg (n : Nat) : excKind (srcFun "StrainRepresentation" "from_voigt" [.int (Int.negSucc n)]) = RTE := by kernel_rfl
theorem fv_zero : excKind (srcFun "StrainRepresentation" "from_voigt" [.int 0]) = RTE := by kernel_rfl
theorem fv_big (n : Nat) : excKind (srcFun "StrainRepresentation" "from_voigt" [.int (Int.ofNat (n + 7))]) = RTE := by kernel_rfl

theorem e1_neg (n : Nat) : excKind (srcCall "e_" [.int (Int.negSucc n)]) = RTE := by kernel_rfl
theorem e1_small : ([0, 7, 8, 9] : List Int).all (fun v => excKind (srcCall "e_" [.int v]) == RTE) = true := by kernel_rfl

theorem c2_fst_neg (n : Nat) (j : Int) : excKind (srcCall "c_" [.int (Int.negSucc n), .int j]) = RTE := by kernel_rfl
theorem c2_fst_zero (j : Int) : excKind (srcCall "c_" [.int 0, .int j]) = RTE := by kernel_rfl
theorem c2_fst_big (n : Nat) (j : Int) : excKind (srcCall "c_" [.int (Int.ofNat (n + 7)), .int j]) = RTE := by kernel_rfl
theorem c2_snd_neg (n : Nat) : (idx6.all fun i => excKind (srcCall "c_" [.int i, .int (Int.negSucc n)]) == RTE) = true := by
  kernel_rfl
theorem c2_snd_zero : (idx6.all fun i => excKind (srcCall "c_" [.int i, .int 0]) == RTE) = true := by kernel_rfl
theorem c2_snd_big (n : Nat) : (idx6.all fun i => excKind (srcCall "c_" [.int i, .int (Int.ofNat (n + 7))]) == RTE) = true := by
  kernel_rfl

/-! ### assembled: all integers -/

/-- `E_.from_voigt(v)` raises RuntimeError for EVERY integer outside 1..6 -/
theorem src_from_voigt_rejects (v : Int) (h : ¬(1 ≤ v ∧ v ≤ 6)) :
    excKind (srcFun "StrainRepresentation" "from_voigt" [.int v]) = RTE := by
  rcases int_shape7 v h with ⟨n, rfl⟩ | rfl | ⟨n, rfl⟩
  · exact fv_neg n
  · exact fv_zero
  · exact fv_big n

/-- `e_(v)` raises RuntimeError for every integer below 10 outside 1..6 (from 10 on the source spells the digits: `VoigtSrcDigits`) -/
theorem src_e1_rejects (v : Int) (h10 : v < 10) (h : ¬(1 ≤ v ∧ v ≤ 6)) : excKind (srcCall "e_" [.int v]) = RTE := by
  rcases int_shape7 v h with ⟨n, rfl⟩ | rfl | ⟨n, rfl⟩
  · exact e1_neg n
  · exact eq_of_beq (List.all_eq_true.mp e1_small 0 (by simp))
  · have hn : n = 0 ∨ n = 1 ∨ n = 2 := by
      have : (Int.ofNat (n + 7)) = ((n + 7 : Nat) : Int) := rfl
      omega
    rcases hn with rfl | rfl | rfl
    · exact eq_of_beq (List.all_eq_true.mp e1_small 7 (by simp))
    · exact eq_of_beq (List.all_eq_true.mp e1_small 8 (by simp))
    · exact eq_of_beq (List.all_eq_true.mp e1_small 9 (by simp))

/-- `c_(i, j)` raises RuntimeError for EVERY pair of integers not both in 1..6 -/
theorem src_c2_rejects (i j : Int) (h : ¬((1 ≤ i ∧ i ≤ 6) ∧ (1 ≤ j ∧ j ≤ 6))) :
    excKind (srcCall "c_" [.int i, .int j]) = RTE := by
  by_cases hi : 1 ≤ i ∧ i ≤ 6
  · have hj : ¬(1 ≤ j ∧ j ≤ 6) := fun hj => h ⟨hi, hj⟩
    have him : i ∈ idx6 := (mem_idx6 i).2 hi
    rcases int_shape7 j hj with ⟨n, rfl⟩ | rfl | ⟨n, rfl⟩
    · exact eq_of_beq (all_idx6 (c2_snd_neg n) i him)
    · exact eq_of_beq (all_idx6 c2_snd_zero i him)
    · exact eq_of_beq (all_idx6 (c2_snd_big n) i him)
  · rcases int_shape7 i hi with ⟨n, rfl⟩ | rfl | ⟨n, rfl⟩
    · exact c2_fst_neg n j
    · exact c2_fst_zero j
    · exact c2_fst_big n j

/-! ### standard pairs, all integers (from `VoigtSrcSort`) -/

theorem in3_iff (i j : Int) : in3 i j ↔ (1 ≤ i ∧ i ≤ 3) ∧ (1 ≤ j ∧ j ≤ 3) := by unfold in3; omega

/-- `e_(i, j)` for ALL integers: RuntimeError unless both lie in 1..3; the canonical strain (min, max) otherwise -/
theorem src_e2_all (i j : Int) :
    (¬in3 i j → excKind (srcCall "e_" [.int i, .int j]) = RTE) ∧
    (in3 i j → srcCall "e_" [.int i, .int j] = .ok (Strain.toVal ⟨min i j, max i j⟩)) := by
  rw [e_top, createE_two 1950 1 (by omega), excKind_eq_excK]
  exact callFS_spec 1950 2 (by omega) i j

/-- `StrainRepresentation.from_standard(i, j)` called directly, for ALL integers -/
theorem src_fs_all (i j : Int) :
    (¬in3 i j → excKind (srcFun "StrainRepresentation" "from_standard" [.int i, .int j]) = RTE) ∧
    (in3 i j → srcFun "StrainRepresentation" "from_standard" [.int i, .int j] = .ok (Strain.toVal ⟨min i j, max i j⟩)) := by
  rw [fs_direct, excKind_eq_excK]
  exact callFS_spec 1959 0 (by omega) i j

/-- `c_(i, j, k, l)` raises RuntimeError for EVERY quadruple of integers not all in 1..3 -/
theorem src_c4_rejects (i j k l : Int) (h : ¬(in3 i j ∧ in3 k l)) :
    excKind (srcCall "c_" [.int i, .int j, .int k, .int l]) = RTE := by
  rw [c_top, createC_four 1930 1 (by omega), excKind_eq_excK]
  exact callC4_rejects 1930 2 (by omega) i j k l h

theorem src_c4_direct_rejects (i j k l : Int) (h : ¬(in3 i j ∧ in3 k l)) :
    excKind (srcFun "ModulusRepresentation" "from_standard" [.int i, .int j, .int k, .int l]) = RTE := by
  rw [c4_direct, excKind_eq_excK]
  exact callC4_rejects 1939 0 (by omega) i j k l h

/-- … and for every quadruple in 1..3 the source builds the model's key -/
theorem src_c4_accepts (i j k l : Int) (h : in3 i j ∧ in3 k l) :
    agreeWith valToModulus (srcCall "c_" [.int i, .int j, .int k, .int l]) (Modulus.fromStandard i j k l) = true := by
  rw [c_top, createC_four 1930 1 (by omega)]
  exact callC4_accepts 1930 2 (by omega) i j k l h

end Cij.VoigtSrc
