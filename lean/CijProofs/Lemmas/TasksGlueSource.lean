/-
  The glue of `cij/core/tasks.py` IS what the model says (helper lemmas for C04).

  `tools/gens/tasks_src.py` re-extracts the glue as data on every run (`Generated/TasksGlue.lean`); `CijModel/TasksGlue.lean`
  gives the data their meaning (interpreters, generic in the data).  Here, for the data extracted NOW:
    * `runResolve_gen`     the work-list program of `resolve` means `Tasks.resolveLoop` (LIFO, lookup by the equality RELATION, edge
                           dependency → dependant), for every relation, strain field, key list, eigen table and fuel;
    * `deps_gen`           `get_dependencies` means `Tasks.deps`;
    * `calculate_gen`      `calculate` + `get_modulus_*` + `get_results_by_strain_keys` + `__getitem__` mean `Tasks.calculate`;
    * `getItem_gen`, `results_gen`, `getResults_gen`, `normKey_gen`   the result stores;
    * `peqOfSpec_gen`, `peqModel_spec`, `hashOf_*`, `hash_*`   `__eq__` and `__hash__`;
    * `MethodsComplete`, `StoresPerList`, `DispatchOk`, `SelfBindingsOk`   the decidable facts C04 states by name.
-/
import CijModel.TasksGlue
import Generated.TasksGlue
import Generated.TasksSpec
import CijProofs.Lemmas.Tasks

set_option linter.unusedSectionVars false

namespace Cij.TasksGlue
open Cij Cij.Shear Cij.Tasks
open Generated.TasksGlue

section resolve
variable {α : Type} [Add α] [Sub α] [Mul α] [Div α] [NatCast α]

theorem deps_gen (isZero : α → Bool) (eig : Eig α) (t : PTask α) :
    depsOfSpec depsSpec isZero eig t = deps isZero eig t := by
  unfold depsOfSpec deps
  cases h : t.key.calcType <;> simp [depsSpec, calcTypeName, strainAttr, keysMethod]

def encDep : Option Nat → Val α
  | none => .none
  | some n => .idx n

def enc (it : Item α) : List (Val α) := [.field it.1, .key it.2.1, encDep it.2.2]

theorem finish_gen (depsOf : PTask α → List (SField α × Modulus)) (c : Nat) (d : Option Nat) (rest : Env α)
    (tasks : List (PTask α)) (edges : List (Nat × Nat)) (task : Option (PTask α)) :
    finishStep workList depsOf ((workList.currVar, .idx c) :: (workList.edgeGuard, encDep d) :: rest) tasks edges task =
      some ((⟨tasks, addEdge edges c d⟩ : RState α),
        (match task with
          | some t => depsOf t
          | none => []).map fun (sk : SField α × Modulus) => enc (sk.1, sk.2, some c)) := by
  have hm : ∀ ds : List (SField α × Modulus),
      ds.mapM (pushedItem workList ((workList.currVar, Val.idx c) :: (workList.edgeGuard, encDep d) :: rest)) =
        some (ds.map fun sk => enc (sk.1, sk.2, some c)) := by
    intro ds
    apply mapM_some
    intro sk _
    simp [pushedItem, workList, enc, encDep, Env.bindAll, Env.set, evalAtom, Env.get]
  have he : edgesAfter workList ((workList.currVar, Val.idx c) :: (workList.edgeGuard, encDep d) :: rest) edges = some (addEdge edges c d) := by
    cases d <;> simp [edgesAfter, workList, encDep, Env.get, asIdx, addEdge]
  unfold finishStep
  rw [he, hm]
  rfl

theorem step_gen (peq : Params α → Params α → Bool) (depsOf : PTask α → List (SField α × Modulus)) (e0 : Env α)
    (it : Item α) (st : RState α) :
    stepSpec workList peq depsOf e0 (enc it) st =
      some ((⟨(currOf peq st.tasks it).1, addEdge st.edges (currOf peq st.tasks it).2 it.2.2⟩ : RState α),
        ((match (currOf peq st.tasks it).1[(currOf peq st.tasks it).2]? with
          | some t => depsOf t
          | none => []).map fun (sk : SField α × Modulus) => enc (sk.1, sk.2, some (currOf peq st.tasks it).2))) := by
  obtain ⟨s, k, d⟩ := it
  -- the locals are spelled canonically by the translator (`_l<n>` in order of first binding); `strain` is the parameter the loop rebinds
  have h1 : workList.popTargets = ["strain", "_l3", "_l4"] := rfl
  have h2 : workList.createArgs = ["strain", "_l3"] := rfl
  have h3 : workList.lookupCandidateLeft = true := rfl
  have h4 : workList.newTaskArgs = ["strain", "_l3", "self.calculator"] := rfl
  have h6 : workList.currNewOffset = -1 := rfl
  have h7 : ∀ (c : Nat) (rest : Env α) (tasks : List (PTask α)) (edges : List (Nat × Nat)) (task : Option (PTask α)),
      finishStep workList depsOf ((workList.currVar, .idx c) :: ("_l4", encDep d) :: rest) tasks edges task =
        some ((⟨tasks, addEdge edges c d⟩ : RState α),
          (match task with
            | some t => depsOf t
            | none => []).map fun (sk : SField α × Modulus) => enc (sk.1, sk.2, some c)) :=
    fun c rest tasks edges task => finish_gen depsOf c d rest tasks edges task
  unfold stepSpec currOf findTask
  rw [h1, h2, h3, h4, h6]
  cases h : List.findIdx? (fun t => peq t.params (create s k)) st.tasks with
  | some i =>
    simp only [enc, Env.bindAll]
    simp [h, h7, enc, Env.set, args2, evalAtom, Env.get, asField, asKey]
  | none =>
    simp only [enc, Env.bindAll]
    simp [h, h7, enc, Env.set, args2, args3, evalAtom, Env.get, asField, asKey]

theorem popQ_last_concat {X : Type} (l : List X) (x : X) : popQ .last (l ++ [x]) = some (x, l) := by
  simp [popQ]

theorem popQ_last_nil {X : Type} : popQ .last ([] : List X) = none := by
  simp [popQ]

theorem foldl_pushQ_last {X : Type} (xs q : List X) : xs.foldl (pushQ .last) q = q ++ xs := by
  induction xs generalizing q with
  | nil => simp
  | cons x xs ih => simp [List.foldl_cons, pushQ, ih]

theorem pushed_enc (isZero : α → Bool) (eig : Eig α) (tasks : List (PTask α)) (curr : Nat) :
    ((match tasks[curr]? with
      | some t => deps isZero eig t
      | none => []).map fun (sk : SField α × Modulus) => enc (sk.1, sk.2, some curr)) =
      (pushedOf isZero eig tasks curr).map enc := by
  unfold pushedOf
  cases tasks[curr]? <;> simp [Function.comp_def]

theorem loop_gen (isZero : α → Bool) (peq : Params α → Params α → Bool) (eig : Eig α) (e0 : Env α) :
    ∀ (n : Nat) (stack : List (Item α)) (st : RState α),
      loopSpec workList peq (deps isZero eig) e0 n ((stack.map enc).reverse) st = resolveLoop isZero peq eig n stack st := by
  have hpop : workList.popEnd = .last := rfl
  have hpush : workList.pushEnd = .last := rfl
  intro n
  induction n with
  | zero =>
    intro stack st
    cases stack with
    | nil => rw [loopSpec, hpop]; simp [popQ_last_nil, resolveLoop]
    | cons it rest =>
      rw [loopSpec, hpop, List.map_cons, List.reverse_cons, popQ_last_concat]
      simp [resolveLoop]
  | succ n ih =>
    intro stack st
    cases stack with
    | nil => rw [loopSpec, hpop]; simp [popQ_last_nil, resolveLoop]
    | cons it rest =>
      rw [loopSpec, hpop, List.map_cons, List.reverse_cons, popQ_last_concat]
      simp only [step_gen, hpush, foldl_pushQ_last, pushed_enc]
      rw [resolveLoop]
      simp only [resolveStep]
      rw [← ih]
      simp [List.map_append, List.map_reverse]


theorem product3 {X : Type} (a c : X) (ks : List X) : product [[a], ks, [c]] = ks.map fun k => [a, k, c] := by
  induction ks with
  | nil => simp [product]
  | cons k ks ih => simp [product] at ih ⊢; exact ih

theorem runResolve_gen (isZero : α → Bool) (peq : Params α → Params α → Bool) (eig : Eig α) (fuel : Nat)
    (strain : SField α) (keys : List Modulus) :
    runResolve workList peq (depsOfSpec depsSpec isZero eig) fuel strain keys =
      resolveLoop isZero peq eig fuel (initialStack strain keys) ⟨[], []⟩ := by
  have hd : depsOfSpec depsSpec isZero eig = deps isZero eig := funext (deps_gen isZero eig)
  have hp : workList.params = ["strain", "keys"] := rfl
  have hq : workList.queueInit = [.single "strain", .each "keys", .single "None"] := rfl
  unfold runResolve
  rw [hd, hp, hq]
  simp only [Env.bindAll, Env.set]
  have hf : [QFactor.single "strain", QFactor.each "keys", QFactor.single "None"].mapM
      (factorVals ([("keys", Val.keys keys), ("strain", Val.field strain)] : Env α)) =
      some [[Val.field strain], keys.map Val.key, [Val.none]] := by
    simp [factorVals, evalAtom, Env.get]
  rw [hf]
  simp only [product3]
  rw [← loop_gen]
  congr 1
  simp [initialStack, enc, encDep, List.map_reverse, Function.comp_def]

end resolve
section stores
variable {α : Type} [Add α] [Sub α] [Mul α] [Div α] [NatCast α]

theorem getItem_gen (peq : Params α → Params α → Bool) (s : Store α) (p : Params α) :
    getItemOf getitemSearch peq s p = s.get peq p := rfl

theorem results_gen (gi : Params α → Option α) (strain : SField α) (keys : List Modulus) :
    resultsOf resultsSpec gi strain keys = keys.mapM fun k => (gi (create strain k)).map fun v => (k, v) := by
  have h1 : resultsSpec.params = ["strain", "keys"] := rfl
  have h2 : resultsSpec.iterates = "keys" := rfl
  have h3 : resultsSpec.loopVar = "_l1" := rfl
  have h4 : resultsSpec.createArgs = ["strain", "_l1"] := rfl
  have h5 : resultsSpec.keyedBy = "_l1" := rfl
  unfold resultsOf
  rw [h1, h2, h3, h4, h5]
  simp [Env.bindAll, Env.set, Env.get, args2, evalAtom, asField, asKey]

theorem store_results_gen (peq : Params α → Params α → Bool) (s : Store α) (strain : SField α) (keys : List Modulus) :
    resultsOf resultsSpec (getItemOf getitemSearch peq s) strain keys = s.results peq strain keys := by
  rw [results_gen]; rfl

theorem normKey_gen (strain : SField α) (key : Modulus) :
    normKey setitemNorm strain key = some (create strain key) ∧ normKey getitemNorm strain key = some (create strain key) := by
  constructor <;> simp [normKey, setitemNorm, getitemNorm, Env.bindAll, Env.set, Env.get, args2, evalAtom, asField, asKey]


theorem find?_unique {X : Type} (l : List X) (p : X → Bool) (x : X) (hex : ∃ e ∈ l, p e = true)
    (huniq : ∀ e ∈ l, p e = true → e = x) : l.find? p = some x := by
  obtain ⟨e, he, hpe⟩ := hex
  cases h : l.find? p with
  | none =>
    have := List.find?_eq_none.mp h e he
    simp [hpe] at this
  | some y => rw [huniq y (List.mem_of_find?_eq_some h) (List.find?_some h)]

theorem mapM_pairs {f : Modulus → Option α} : ∀ (keys : List Modulus) (d : Dict α),
    keys.mapM (fun k => (f k).map fun v => (k, v)) = some d →
      (∀ e ∈ d, f e.1 = some e.2) ∧ (∀ k ∈ keys, ∃ v, (k, v) ∈ d) := by
  intro keys
  induction keys with
  | nil => intro d h; simp at h; subst h; simp
  | cons k ks ih =>
    intro d h
    rw [List.mapM_cons] at h
    cases hk : f k with
    | none => simp [hk] at h
    | some v =>
      cases hr : ks.mapM (fun k => (f k).map fun v => (k, v)) with
      | none => simp [hk, hr] at h
      | some d' =>
        simp [hk, hr] at h
        subst h
        obtain ⟨h1, h2⟩ := ih d' hr
        constructor
        · intro e he
          rcases List.mem_cons.mp he with rfl | he
          · exact hk
          · exact h1 e he
        · intro k' hk'
          rcases List.mem_cons.mp hk' with rfl | hk'
          · exact ⟨v, by simp⟩
          · obtain ⟨v', hv'⟩ := h2 k' hk'
            exact ⟨v', List.mem_cons_of_mem _ hv'⟩

theorem dict_get_of_mapM {f : Modulus → Option α} (keys : List Modulus) (d : Dict α)
    (h : keys.mapM (fun k => (f k).map fun v => (k, v)) = some d) (k : Modulus) (hk : k ∈ keys) : d.get k = f k := by
  obtain ⟨h1, h2⟩ := mapM_pairs keys d h
  obtain ⟨v, hv⟩ := h2 k hk
  have hfv : f k = some v := h1 (k, v) hv
  unfold Dict.get
  rw [find?_unique d.reverse (fun e => decide (e.1 = k)) (k, v) ⟨(k, v), by simpa using hv, by simp⟩, hfv]
  · rfl
  · intro e he hpe
    have hek : e.1 = k := by simpa using hpe
    have := h1 e (by simpa using he)
    rw [hek, hfv] at this
    cases e
    simp at hek this
    simp [hek, this]

end stores

section calcsec
variable {R : Type} [Field R]

theorem feedDicts_gen (isZero : R → Bool) (peq : Params R → Params R → Bool) (eig : Eig R) (st : Store R × Store R) (t : PTask R) :
    feedDicts calcSpec resultsSpec getitemSearch isZero peq eig st t =
      match st.1.results peq t.strain (modulusKeys (α := R) isZero t.key),
            st.1.results peq (rotatedField (eig t.key).1 t.strain) (modulusKeysRotated isZero (eig t.key).2) with
      | some d1, some d2 => some [("modulus_results", d1), ("modulus_results_rotated", d2)]
      | _, _ => none := by
  have hf : calcSpec.feeds = [⟨"modulus_results", "modulus_isothermal_values", "strain", "get_modulus_keys"⟩,
      ⟨"modulus_results_rotated", "modulus_isothermal_values", "strain_rotated", "get_modulus_keys_rotated"⟩] := rfl
  unfold feedDicts
  rw [hf]
  simp only [List.mapM_cons, List.mapM_nil, storeNamed, strainAttr, keysMethod, store_results_gen]
  cases st.1.results peq t.strain (modulusKeys (α := R) isZero t.key) <;>
    cases st.1.results peq (rotatedField (eig t.key).1 t.strain) (modulusKeysRotated isZero (eig t.key).2) <;> rfl

theorem calcTask_gen (isZero : R → Bool) (peq : Params R → Params R → Bool) (eig : Eig R) (baseIso baseAdi : Params R → R)
    (st : Store R × Store R) (t : PTask R) :
    calcTask calcSpec getModulus resultsSpec getitemSearch shearIface isZero peq eig baseIso baseAdi st t =
      (taskValue isZero peq eig baseIso baseAdi st.1 t).map fun v =>
        (st.1 ++ [(t.params, v.1)], st.2 ++ [(t.params, v.2)]) := by
  have hg : calcSpec.guardType = "SHEAR" := rfl
  have hw : calcSpec.writes = [("modulus_isothermal_values", "task_params", "get_modulus_isothermal"),
      ("modulus_adiabatic_values", "task_params", "get_modulus_adiabatic")] := rfl
  unfold calcTask taskValue
  rw [hg, hw]
  cases h : t.key.calcType with
  | longitudinal => simp [calcTypeName, taskMethod, getModulus, appendNamed, List.foldlM_cons, h]
  | offDiagonal => simp [calcTypeName, taskMethod, getModulus, appendNamed, List.foldlM_cons, h]
  | shear =>
    simp only [calcTypeName, beq_self_eq_true, if_true, feedDicts_gen]
    cases h1 : st.1.results peq t.strain (modulusKeys (α := R) isZero t.key) with
    | none => rfl
    | some d1 =>
      cases h2 : st.1.results peq (rotatedField (eig t.key).1 t.strain) (modulusKeysRotated isZero (eig t.key).2) with
      | none => rfl
      | some d2 =>
        have e1 : ∀ k ∈ modulusKeys (α := R) isZero t.key,
            (Dict.get d1 k).getD ((0 : Nat) : R) = ((st.1.get peq (create t.strain k)).getD ((0 : Nat) : R)) := by
          intro k hk
          rw [dict_get_of_mapM (f := fun k => st.1.get peq (create t.strain k)) _ d1 h1 k hk]
        have e2 : ∀ k ∈ modulusKeysRotated isZero (eig t.key).2,
            (Dict.get d2 k).getD ((0 : Nat) : R) =
              ((st.1.get peq (create (rotatedField (eig t.key).1 t.strain) k)).getD ((0 : Nat) : R)) := by
          intro k hk
          rw [dict_get_of_mapM (f := fun k => st.1.get peq (create (rotatedField (eig t.key).1 t.strain) k)) _ d2 h2 k hk]
        have hv := shearValue_congr isZero t.key (eig t.key).2 _ _ _ _ e1 e2
        simp only [Nat.cast_zero] at hv
        simp [taskMethod, getModulus, shearIface, appendNamed, List.foldlM_cons, h, calcTypeName, attrGet, hv]

theorem calculate_gen (isZero : R → Bool) (peq : Params R → Params R → Bool) (eig : Eig R) (baseIso baseAdi : Params R → R)
    (tasks : List (PTask R)) : ∀ (order : List Nat) (st : Store R × Store R),
    calculateSpec calcSpec getModulus resultsSpec getitemSearch shearIface isZero peq eig baseIso baseAdi tasks order st =
      calculate isZero peq eig baseIso baseAdi tasks order st := by
  intro order
  induction order with
  | nil => intro st; rfl
  | cons i rest ih =>
    intro st
    obtain ⟨iso, adi⟩ := st
    unfold calculateSpec calculate
    cases tasks[i]? with
    | none => rfl
    | some t =>
      simp only [calcTask_gen]
      cases taskValue isZero peq eig baseIso baseAdi iso t with
      | none => rfl
      | some v => simp [ih]

end calcsec

section eqhash
variable {α : Type} [Add α] [Sub α] [Mul α] [Div α] [NatCast α]

theorem peqOfSpec_gen (close : List α → List α → Bool) (p q : Params α) (hp : p.Proper) (hq : q.Proper) :
    peqOfSpec eqSpec close p q = peqModel close p q := by
  cases p with
  | nonshear c a b =>
    cases q with
    | nonshear c' a' b' =>
      cases c <;> cases c' <;>
        simp_all [Params.Proper, peqOfSpec, eqSpec, runTests, EqTest.fires, Params.calcType, calcTypeName, Params.whole, peqModel] <;>
        (generalize close _ _ = z; cases z <;> rfl)
    | shear s' k' =>
      cases c <;> simp_all [Params.Proper, peqOfSpec, eqSpec, runTests, EqTest.fires, Params.calcType, peqModel]
  | shear s k =>
    cases q with
    | nonshear c' a' b' =>
      cases c' <;> simp_all [Params.Proper, peqOfSpec, eqSpec, runTests, EqTest.fires, Params.calcType, peqModel]
    | shear s' k' =>
      by_cases hk : k = k' <;>
        simp [peqOfSpec, eqSpec, runTests, EqTest.fires, Params.calcType, calcTypeName, Params.object, Params.array, peqModel, hk]
      generalize close _ _ = z; cases z <;> rfl

theorem hashOf_nonshear {H : Type} (hc : Modulus.CalcType → H) (hf : List α → H) (hk : Modulus → H) (x : H → H → H)
    (c : Modulus.CalcType) (hne : c ≠ .shear) (a b : List α) :
    hashOf hashSpec hc hf hk x (.nonshear c a b) = some (x (x (hc c) (hf a)) (hf b)) := by
  cases c <;> simp_all [hashOf, hashSpec, HExpr.eval, Params.calcType, calcTypeName, Params.array]

theorem hashOf_shear {H : Type} (hc : Modulus.CalcType → H) (hf : List α → H) (hk : Modulus → H) (x : H → H → H)
    (s : SField α) (k : Modulus) :
    hashOf hashSpec hc hf hk x (.shear s k) = some (x (x (hc .shear) (hf (flat s))) (hk k)) := by
  simp [hashOf, hashSpec, HExpr.eval, Params.calcType, calcTypeName, Params.array, Params.object]

theorem proper_create (s : SField α) (k : Modulus) : (create s k).Proper := by
  cases h : k.isShear
  · rw [create_nonshear s h]
    intro hc
    have := (calcType_shear_iff k).mp hc
    rw [h] at this; cases this
  · rw [create_shear s h]; trivial


theorem getResults_gen (peq : Params α → Params α → Bool) (st : Store α × Store α) (strain : SField α) (keys : List Modulus) :
    getResultsOf resultGetters resultsSpec getitemSearch peq st strain keys "get_isothermal_results" = st.1.results peq strain keys ∧
    getResultsOf resultGetters resultsSpec getitemSearch peq st strain keys "get_adiabatic_results" = st.2.results peq strain keys := by
  constructor <;> simp [getResultsOf, resultGetters, storeNamed, store_results_gen]

/-- `__getitem__` returns the FIRST entry equal to the query: entries stored later never shadow it -/
theorem store_get_append_of_some (peq : Params α → Params α → Bool) (s extra : Store α) (q : Params α) (v : α)
    (h : s.get peq q = some v) : (s ++ extra).get peq q = some v := by
  unfold Store.get at h ⊢
  rw [List.find?_append]
  cases hf : s.find? fun e => peq e.1 q with
  | none => rw [hf] at h; cases h
  | some e => rw [hf] at h; simpa using h

/-- what was stored under `p` is found again under any `q` with `p == q`, unless an EARLIER entry is equal to `q` as well -/
theorem store_get_append_new (peq : Params α → Params α → Bool) (s : Store α) (p q : Params α) (v : α)
    (hnone : s.get peq q = none) (hpq : peq p q = true) : (s ++ [(p, v)]).get peq q = some v := by
  unfold Store.get at hnone ⊢
  rw [List.find?_append]
  cases hf : s.find? fun e => peq e.1 q with
  | none => simp [hpq]
  | some e => rw [hf] at hnone; cases hnone

end eqhash

section peqspec
variable {R : Type} [Field R]

/-- the closeness test on flattened arrays is an equivalence (true of exact equality; `numpy.allclose` with a rounding-level
tolerance is treated as one, see ASSUMPTIONS of the harness) -/
structure CloseEquiv (close : List R → List R → Bool) : Prop where
  refl : ∀ a, close a a = true
  symm : ∀ a b, close a b = true → close b a = true
  trans : ∀ a b c, close a b = true → close b c = true → close a c = true

theorem peqModel_spec (close : List R → List R → Bool) (hc : CloseEquiv close) : PeqSpec (peqModel close) := by
  constructor
  · intro p; cases p <;> simp [peqModel, hc.refl]
  · intro p q h
    cases p <;> cases q <;> simp_all [peqModel]
    · exact hc.symm _ _ h.2
    · exact hc.symm _ _ h.2
  · intro p q r h1 h2
    cases p <;> cases q <;> cases r <;> simp [peqModel] at h1 h2 ⊢
    · exact ⟨h1.1.trans h2.1, hc.trans _ _ _ h1.2 h2.2⟩
    · exact ⟨h1.1.trans h2.1, hc.trans _ _ _ h1.2 h2.2⟩
  · intro p q h
    cases p <;> cases q <;> simp_all [peqModel, Params.kind]

/-- consistency of `__hash__` with `__eq__` where it matters for `dict` storage: equal parameters whose arrays are IDENTICAL hash alike -/
theorem hash_consistent {H : Type} (hcT : Modulus.CalcType → H) (hf : List R → H) (hk : Modulus → H) (x : H → H → H)
    (close : List R → List R → Bool) (p q : Params R) (hp : p.Proper) (hq : q.Proper)
    (heq : peqModel close p q = true) (harr : ∀ i, p.array i = q.array i) :
    hashOf hashSpec hcT hf hk x p = hashOf hashSpec hcT hf hk x q ∧ (hashOf hashSpec hcT hf hk x p).isSome = true := by
  cases p with
  | nonshear c a b =>
    cases q with
    | nonshear c' a' b' =>
      have h0 := harr 0; have h1 := harr 1
      simp [Params.array] at h0 h1
      simp [peqModel] at heq
      subst h0 h1
      rw [← heq.1, hashOf_nonshear _ _ _ _ c hp]
      exact ⟨rfl, rfl⟩
    | shear s' k' => simp [peqModel] at heq
  | shear s k =>
    cases q with
    | nonshear c' a' b' => simp [peqModel] at heq
    | shear s' k' =>
      have h0 := harr 0
      simp [Params.array] at h0
      simp [peqModel] at heq
      rw [hashOf_shear, hashOf_shear, h0, heq.1]
      exact ⟨rfl, rfl⟩

/-- every longitudinal task hashes to `hash(LONGITUDINAL)`: both parameters are the same array and `h ^ x ^ x = h` -/
theorem hash_longitudinal {H : Type} (hcT : Modulus.CalcType → H) (hf : List R → H) (hk : Modulus → H) (x : H → H → H)
    (hx : ∀ u v, x (x u v) v = u) (s : SField R) (k : Modulus) (hk' : k ∈ allKeys) (hl : k.calcType = .longitudinal) :
    hashOf hashSpec hcT hf hk x (create s k) = some (hcT .longitudinal) := by
  have hidx : ∀ k ∈ allKeys, k.calcType = .longitudinal → k.isShear = false ∧ idx k.i.i = idx k.j.i := by decide +kernel
  obtain ⟨hs, hi⟩ := hidx k hk' hl
  rw [create_nonshear s hs, hashOf_nonshear _ _ _ _ _ (by rw [hl]; decide), hi, hx, hl]

end peqspec

/-- an extracted tolerance `(numerator, denominator)` as a rational -/
def ratOf (f : Nat × Nat) : Rat := (f.1 : Rat) / (f.2 : Rat)

def absQ (x : Rat) : Rat := if x < 0 then -x else x

/-- `numpy.allclose(a, b, rtol, atol)` on flattened arrays over ℚ: equal length and `|a − b| ≤ atol + rtol·|b|` element by element -/
def closeQ (rtol atol : Rat) (a b : List Rat) : Bool :=
  a.length == b.length && (a.zip b).all fun p => decide (absQ (p.1 - p.2) ≤ atol + rtol * absQ p.2)

/-- a toy hash of a list of rationals (standing for a tuple of floats) that tells `[1]` from everything else -/
def hfEx (l : List Rat) : Nat := if l = [1] then 1 else 2

/-- `*self.params` of a shear task is `(strain, key)` (the shear branch of `_make_param_by_strain_key`, pinned by both translators) -/
def expandArgs (args : List String) : List String :=
  args.flatMap fun a => if a = "*self.params" then ["strain", "key"] else [a]

/-- every `def` of the four classes is tied, and tied in a known way -/
def MethodsComplete : Prop :=
  methodTies.map (fun t => (t.1, t.2.1)) = allMethods ∧
  (∀ t ∈ methodTies, t.2.2 = "translated" ∨ t.2.2 = "TasksSpec") ∧
  nestedDefinitions = [] ∧ otherClasses = [] ∧
  ("PhononContributionTask", "__eq__") ∉ allMethods ∧ ("PhononContributionTask", "__hash__") ∉ allMethods

instance : Decidable MethodsComplete := by unfold MethodsComplete; infer_instance

/-- nothing outlives a task list except the module constants: the two result stores are two constructor calls inside
`PhononContributionTaskList.__init__`; no class-level binding besides the two NamedTuple fields; no mutable default; no `global` -/
def StoresPerList : Prop :=
  listInit = [("calculator", "param:calculator"), ("modulus_isothermal_values", "new:PhononContributionTaskResults"),
    ("modulus_adiabatic_values", "new:PhononContributionTaskResults")] ∧
  listInitSuperCalls = 1 ∧
  classStatements = [("PhononContributionTaskParams", "field", "calc_type"), ("PhononContributionTaskParams", "field", "params")] ∧
  classBases = [("PhononContributionTaskParams", ["NamedTuple"]), ("PhononContributionTaskResults", ["UserDict"]),
    ("PhononContributionTask", []), ("PhononContributionTaskList", ["UserList"])] ∧
  nonConstDefaults = [] ∧ scopeDeclarations = [] ∧ moduleOtherStatements = [] ∧
  moduleAssigns = [("logger", "call:logging.getLogger"), ("_STRAIN_RTOL", "const")]

instance : Decidable StoresPerList := by unfold StoresPerList; infer_instance

/-- `PhononContributionTask.__init__`: key predicate ↦ class, and the argument list of every constructor call lines up with the
parameter list of the `__init__` it runs (`self.params` is the parameter pair `e` of the non-shear classes) -/
def DispatchOk : Prop :=
  taskInit.dispatch.map (fun d => (d.1, d.2.1)) =
    [("is_longitudinal", "LongitudinalElasticModulusPhononContribution"),
     ("is_off_diagonal", "OffDiagonalElasticModulusPhononContribution"),
     ("is_shear", "ShearElasticModulusPhononContribution")] ∧
  taskInit.dispatch.map (fun d => (d.2.1, (expandArgs d.2.2).map fun a => if a = "self.params" then "e" else a)) =
    ctorParams.map (fun c => (c.1, c.2.2)) ∧
  taskInit.params = ["strain", "key", "calculator"] ∧ taskInit.createArgs = ["strain", "key"] ∧
  taskInit.keyAttr = "key" ∧ taskInit.keyValue = "key" ∧ taskInit.paramsAttr = "_task_params" ∧
  taskProps = [("calc_type", "property", "self.key.calc_type"), ("task_params", "property", "self._task_params"),
    ("params", "property", "self.task_params.params")] ∧
  (("strain", "strain") ∈ shearInitBinds ∧ ("key", "key") ∈ shearInitBinds) ∧
  contributionExports.map (fun e => (e.1, e.2.2)) = ctorParams.map (fun c => (c.1, c.1))

instance : Decidable DispatchOk := by unfold DispatchOk; infer_instance

/-- `resolve` binds `self.strain` / `self.keys` to its two parameters BEFORE the loop (the loop rebinds the local `strain`), nothing
else writes them, and the result getters read exactly these two attributes -/
def SelfBindingsOk : Prop :=
  workList.params = ["strain", "keys"] ∧
  resolveAttrWrites.filter (fun w => w.1 = "strain" ∨ w.1 = "keys") = [("strain", "strain", "before"), ("keys", "keys", "before")] ∧
  "strain" ∈ resolveLoopRebinds ∧
  resultGetters = [("get_adiabatic_results", "modulus_adiabatic_values", "strain", "keys"),
    ("get_isothermal_results", "modulus_isothermal_values", "strain", "keys")] ∧
  workList.sortFn = "nx.topological_sort" ∧ workList.dataAttr = calcSpec.loopOver ∧ workList.pushMethod = "get_dependencies" ∧
  workList.lookupAttr = "task_params" ∧ calcSpec.writes.map (fun w => w.2.1) = ["task_params", "task_params"] ∧
  setitemStores = "super().__setitem__(<normalised key>, <value parameter>)" ∧ getitemSearch.hasDefault = false ∧
  getitemSearch.over = "self.data.items()"

instance : Decidable SelfBindingsOk := by unfold SelfBindingsOk; infer_instance

end Cij.TasksGlue
