/- The double eigenspace of the fictitious strain of c14, c25, c36 (for C04): every decomposition with spectrum (−1, 1, 1) that meets
   the contract has a ONE-parameter form, `c = T[p,1]²`; the value of the degenerate key as a function of `c`; explicit frames over ℝ
   and the data of the counter-example (C03 takes its frame `T44` from here). -/
import CijProofs.Lemmas.Degenerate
import Mathlib.Analysis.Real.Sqrt
import Mathlib.Tactic.NormNum
import Mathlib.Tactic.Linarith

set_option linter.unusedSectionVars false

namespace Cij.Tasks
open Cij Cij.Shear

/-- the rows of the two fictitious strains: `e` maps `e_p ↦ e_p` (for `c_ppqr`) or `e_p ↦ 0` (for `c_qrqr`) and exchanges
`e_q ↔ e_r` -/
theorem fictMask_deg_rows : ∀ t ∈ degTriples, ∀ j : Fin 3,
    fictitiousMask (degKey t) t.1 j = decide (j = t.1) ∧ fictitiousMask (degShear t) t.1 j = false ∧
    (fictitiousMask (degKey t) t.2.1 j = decide (j = t.2.2) ∧ fictitiousMask (degKey t) t.2.2 j = decide (j = t.2.1)) ∧
    (fictitiousMask (degShear t) t.2.1 j = decide (j = t.2.2) ∧ fictitiousMask (degShear t) t.2.2 j = decide (j = t.2.1)) := by
  decide +kernel

section forms
variable {R : Type} [Field R] [CharZero R]

theorem strainRotated_triple {t : Fin 3 × Fin 3 × Fin 3} (ht : t ∈ degTriples) (T : Mat3 R) (row : Vec3 R) (a : Fin 3) :
    strainRotated T row a =
      T t.1 a * T t.1 a * row t.1 + T t.2.1 a * T t.2.1 a * row t.2.1 + T t.2.2 a * T t.2.2 a * row t.2.2 :=
  (strainRotated_sq T row a).trans (sum3_triple ht fun i => T i a * T i a * row i)

theorem norm_triple {t : Fin 3 × Fin 3 × Fin 3} (ht : t ∈ degTriples) {T : Mat3 R} {lam : Vec3 R} {e : Mat3 R}
    (h : Contract T lam e) (a : Fin 3) : T t.1 a * T t.1 a + T t.2.1 a * T t.2.1 a + T t.2.2 a * T t.2.2 a = 1 := by
  rw [← sum3_triple ht fun i => T i a * T i a, sum3_eq, h.orth', if_pos rfl]

theorem eigvec_swap_rows {t : Fin 3 × Fin 3 × Fin 3} {key : Modulus} {T : Mat3 R} {lam : Vec3 R}
    (hq : ∀ j, fictitiousMask key t.2.1 j = decide (j = t.2.2)) (hr : ∀ j, fictitiousMask key t.2.2 j = decide (j = t.2.1))
    (h : Contract T lam (fictitiousStrain key)) (a : Fin 3) :
    T t.2.2 a = lam a * T t.2.1 a ∧ T t.2.1 a = lam a * T t.2.2 a :=
  ⟨(fict_row_mulVec hq _).symm.trans (h.eigvec _ a), (fict_row_mulVec hr _).symm.trans (h.eigvec _ a)⟩

/-- **one-parameter form of the frames of a degenerate key.**  `(T, λ)` meets the eigen contract for the fictitious strain of
`c_ppqr` with the spectrum in ascending order (−1, 1, 1).  Then the rotated axial strains — which only read the SQUARES of the
entries of `T` — are determined by the single number `c = T[p,1]²` (the squared component of the second eigenvector along the
coordinate axis `p`; `0 ≤ c ≤ 1` over an ordered field, any value in between occurs):
`(m, c·e_p + (1−c)·m, (1−c)·e_p + c·m)` with `m = (e_q + e_r)/2`. -/
theorem contract_deg_form {t : Fin 3 × Fin 3 × Fin 3} (ht : t ∈ degTriples) {T : Mat3 R} {lam : Vec3 R}
    (h : Contract T lam (fictitiousStrain (degKey t))) (hl : lam 0 = -1 ∧ lam 1 = 1 ∧ lam 2 = 1) (row : Vec3 R) :
    strainRotated T row 0 = mOf t row ∧
    strainRotated T row 1 = T t.1 1 * T t.1 1 * row t.1 + (1 - T t.1 1 * T t.1 1) * mOf t row ∧
    strainRotated T row 2 = (1 - T t.1 1 * T t.1 1) * row t.1 + T t.1 1 * T t.1 1 * mOf t row := by
  obtain ⟨l0, l1, l2⟩ := hl
  have rows := fictMask_deg_rows t ht
  have sw := eigvec_swap_rows (fun j => (rows j).2.2.1.1) (fun j => (rows j).2.2.1.2) h
  -- the eigenvector of −1 has no component along `p` and opposite components along `q`, `r`; the other two have equal ones
  have hp0 : T t.1 0 = 0 := self_eq_neg.mp <| by
    have := (fict_row_mulVec (fun j => (rows j).1) _).symm.trans (h.eigvec t.1 0)
    rwa [l0, neg_one_mul] at this
  have hr0 : T t.2.2 0 = -T t.2.1 0 := by rw [(sw 0).1, l0, neg_one_mul]
  have hr1 : T t.2.2 1 = T t.2.1 1 := by rw [(sw 1).1, l1, one_mul]
  have hr2 : T t.2.2 2 = T t.2.1 2 := by rw [(sw 2).1, l2, one_mul]
  have n0 := norm_triple ht h 0
  have n1 := norm_triple ht h 1
  have n2 := norm_triple ht h 2
  have rp := h.rows t.1 t.1
  rw [Fin.sum_univ_three, if_pos rfl, hp0] at rp
  rw [hp0, hr0] at n0
  rw [hr1] at n1
  rw [hr2] at n2
  simp only [strainRotated_triple ht, mOf, hp0, hr0, hr1, hr2]
  refine ⟨?_, ?_, ?_⟩
  · linear_combination ((row t.2.1 + row t.2.2) / 2) * n0
  · linear_combination ((row t.2.1 + row t.2.2) / 2) * n1
  · linear_combination (row t.1) * rp + ((row t.2.1 + row t.2.2) / 2) * n2 - ((row t.2.1 + row t.2.2) / 2) * rp

/-- the frame of the pure-shear partner `c_qrqr` (simple spectrum −1, 0, 1) has no such freedom: the squares of its entries,
hence the rotated axial strains `(m, e_p, m)`, are determined by the contract -/
theorem contract_shear_form {t : Fin 3 × Fin 3 × Fin 3} (ht : t ∈ degTriples) {T : Mat3 R} {lam : Vec3 R}
    (h : Contract T lam (fictitiousStrain (degShear t))) (hl : lam 0 = -1 ∧ lam 1 = 0 ∧ lam 2 = 1) (row : Vec3 R) :
    strainRotated T row 0 = mOf t row ∧ strainRotated T row 1 = row t.1 ∧ strainRotated T row 2 = mOf t row := by
  obtain ⟨l0, l1, l2⟩ := hl
  have rows := fictMask_deg_rows t ht
  have sw := eigvec_swap_rows (fun j => (rows j).2.2.2.1) (fun j => (rows j).2.2.2.2) h
  -- row `p` of the strain vanishes: only the eigenvector of 0 has a component along `p`, and it has no other
  have hp : ∀ a, lam a * T t.1 a = 0 := fun a =>
    (h.eigvec t.1 a).symm.trans (fict_row_zero (fun j => (rows j).2.1) _)
  have hp0 : T t.1 0 = 0 := by have := hp 0; rwa [l0, neg_one_mul, neg_eq_zero] at this
  have hp2 : T t.1 2 = 0 := by have := hp 2; rwa [l2, one_mul] at this
  have hr0 : T t.2.2 0 = -T t.2.1 0 := by rw [(sw 0).1, l0, neg_one_mul]
  have hq1 : T t.2.1 1 = 0 := by rw [(sw 1).2, l1, zero_mul]
  have hr1 : T t.2.2 1 = 0 := by rw [(sw 1).1, l1, zero_mul]
  have hr2 : T t.2.2 2 = T t.2.1 2 := by rw [(sw 2).1, l2, one_mul]
  have n0 := norm_triple ht h 0
  have n1 := norm_triple ht h 1
  have n2 := norm_triple ht h 2
  rw [hp0, hr0] at n0
  rw [hq1, hr1] at n1
  rw [hp2, hr2] at n2
  simp only [strainRotated_triple ht, mOf, hp0, hp2, hr0, hq1, hr1, hr2]
  refine ⟨?_, ?_, ?_⟩
  · linear_combination ((row t.2.1 + row t.2.2) / 2) * n0
  · linear_combination (row t.1) * n1
  · linear_combination ((row t.2.1 + row t.2.2) / 2) * n2

theorem triple_cover : ∀ t ∈ degTriples, ∀ i : Fin 3, i = t.1 ∨ i = t.2.1 ∨ i = t.2.2 := by decide

theorem contract_deg_of_rows {t : Fin 3 × Fin 3 × Fin 3} (ht : t ∈ degTriples) {T : Mat3 R} {lam : Vec3 R}
    (orth : ∀ a b, ∑ i, T i a * T i b = if a = b then 1 else 0) (hp : ∀ a, T t.1 a = lam a * T t.1 a)
    (hq : ∀ a, T t.2.2 a = lam a * T t.2.1 a) (hr : ∀ a, T t.2.1 a = lam a * T t.2.2 a) :
    Contract T lam (fictitiousStrain (degKey t)) := by
  have rows := fictMask_deg_rows t ht
  refine Contract.of_eigvecs orth fun i a => ?_
  rcases triple_cover t ht i with rfl | rfl | rfl
  · exact (fict_row_mulVec (fun j => (rows j).1) _).trans (hp a)
  · exact (fict_row_mulVec (fun j => (rows j).2.2.1.1) _).trans (hq a)
  · exact (fict_row_mulVec (fun j => (rows j).2.2.1.2) _).trans (hr a)

theorem contract_shear_of_rows {t : Fin 3 × Fin 3 × Fin 3} (ht : t ∈ degTriples) {T : Mat3 R} {lam : Vec3 R}
    (orth : ∀ a b, ∑ i, T i a * T i b = if a = b then 1 else 0) (hp : ∀ a, 0 = lam a * T t.1 a)
    (hq : ∀ a, T t.2.2 a = lam a * T t.2.1 a) (hr : ∀ a, T t.2.1 a = lam a * T t.2.2 a) :
    Contract T lam (fictitiousStrain (degShear t)) := by
  have rows := fictMask_deg_rows t ht
  refine Contract.of_eigvecs orth fun i a => ?_
  rcases triple_cover t ht i with rfl | rfl | rfl
  · exact (fict_row_zero (fun j => (rows j).2.1) _).trans (hp a)
  · exact (fict_row_mulVec (fun j => (rows j).2.2.2.1) _).trans (hq a)
  · exact (fict_row_mulVec (fun j => (rows j).2.2.2.2) _).trans (hr a)

end forms
section value
variable {R : Type} [Field R] [CharZero R]

/-- the normalised strain component `m/Σe`, `m = (e_q + e_r)/2`, per volume row -/
def degM (t : Fin 3 × Fin 3 × Fin 3) (s : SField R) : CField R := s.map fun row => mOf t row / sum3 row

/-- the normalised mixture `(c·e_p + (1−c)·m)/Σe` per volume row -/
def degMix (t : Fin 3 × Fin 3 × Fin 3) (c : R) (s : SField R) : CField R :=
  s.map fun row => (c * row t.1 + (1 - c) * mOf t row) / sum3 row

theorem degMix_zero (t : Fin 3 × Fin 3 × Fin 3) (s : SField R) : degMix t 0 s = degM t s := by
  unfold degMix degM
  apply List.map_congr_left
  intro row _
  congr 1; ring

theorem degMix_one (t : Fin 3 × Fin 3 × Fin 3) (s : SField R) : degMix t 1 s = component s t.1 := by
  unfold degMix component
  apply List.map_congr_left
  intro row _
  congr 1; ring

/-- frames of a degenerate key `c_ppqr` and of its pure-shear partner, the first with parameter `c = T[p,1]²`
(`DegFrames` is the case `c = 0`: the third eigenvector is the coordinate axis) -/
structure DegFramesC (eig : Eig R) (t : Fin 3 × Fin 3 × Fin 3) (c : R) : Prop where
  lamD : (eig (degKey t)).2 0 = -1 ∧ (eig (degKey t)).2 1 = 1 ∧ (eig (degKey t)).2 2 = 1
  rotD : ∀ row : Vec3 R, strainRotated (eig (degKey t)).1 row 0 = mOf t row ∧
      strainRotated (eig (degKey t)).1 row 1 = c * row t.1 + (1 - c) * mOf t row ∧
      strainRotated (eig (degKey t)).1 row 2 = (1 - c) * row t.1 + c * mOf t row
  lamS : (eig (degShear t)).2 0 = -1 ∧ (eig (degShear t)).2 1 = 0 ∧ (eig (degShear t)).2 2 = 1
  rotS : ∀ row : Vec3 R, strainRotated (eig (degShear t)).1 row 0 = mOf t row ∧
      strainRotated (eig (degShear t)).1 row 1 = row t.1 ∧ strainRotated (eig (degShear t)).1 row 2 = mOf t row

theorem DegFramesC.of_contract {eig : Eig R} {t : Fin 3 × Fin 3 × Fin 3} (ht : t ∈ degTriples)
    (hD : Contract (eig (degKey t)).1 (eig (degKey t)).2 (fictitiousStrain (degKey t)))
    (hlD : (eig (degKey t)).2 0 = -1 ∧ (eig (degKey t)).2 1 = 1 ∧ (eig (degKey t)).2 2 = 1)
    (hS : Contract (eig (degShear t)).1 (eig (degShear t)).2 (fictitiousStrain (degShear t)))
    (hlS : (eig (degShear t)).2 0 = -1 ∧ (eig (degShear t)).2 1 = 0 ∧ (eig (degShear t)).2 2 = 1) :
    DegFramesC eig t ((eig (degKey t)).1 t.1 1 * (eig (degKey t)).1 t.1 1) :=
  ⟨hlD, contract_deg_form ht hD hlD, hlS, contract_shear_form ht hS hlS⟩

theorem DegFrames.toC {eig : Eig R} {t : Fin 3 × Fin 3 × Fin 3} (h : DegFrames eig t) : DegFramesC eig t 0 :=
  ⟨h.lamD, fun row => by
    obtain ⟨h0, h1, h2⟩ := h.rotD row
    exact ⟨h0, by rw [h1]; ring, by rw [h2]; ring⟩, h.lamS, h.rotS⟩

/-- the value the model gives a degenerate key when the second eigenvector has squared axis component `c`
(`L`, `O` = the longitudinal / off-diagonal non-shear values as functions of the normalised strain components) -/
def degValue (base : Params R → R) (t : Fin 3 × Fin 3 × Fin 3) (c : R) (s : SField R) : R :=
  (base (.nonshear .longitudinal (degMix t c s) (degMix t c s))
    + base (.nonshear .longitudinal (degMix t (1 - c) s) (degMix t (1 - c) s))
    - base (.nonshear .longitudinal (degM t s) (degM t s))
    - base (.nonshear .longitudinal (component s t.1) (component s t.1))
    - 2 * base (.nonshear .offDiagonal (degM t s) (degMix t c s))
    - 2 * base (.nonshear .offDiagonal (degM t s) (degMix t (1 - c) s))
    + 2 * base (.nonshear .offDiagonal (degMix t c s) (degMix t (1 - c) s))
    + 2 * base (.nonshear .offDiagonal (degM t s) (degM t s))) / 4

/-- **the value of c14 / c25 / c36 for an ARBITRARY orthonormal basis of the double eigenspace** -/
theorem degenerate_value {isZero : R → Bool} (hz : ZeroSpec isZero) (eig : Eig R) (base : Params R → R)
    {t : Fin 3 × Fin 3 × Fin 3} (ht : t ∈ degTriples) {c : R} (hf : DegFramesC eig t c) (s : SField R) :
    spec isZero eig base 2 (create s (degKey t)) = degValue base t c s := by
  obtain ⟨hkd, hks, hkl, hmd, hms, hperm, hnil, hlns, hlct, hli, hlj⟩ := deg_facts t ht
  have hsumD : ∀ row : Vec3 R, sum3 (strainRotated (eig (degKey t)).1 row) = sum3 row := by
    intro row
    rw [sum3, (hf.rotD row).1, (hf.rotD row).2.1, (hf.rotD row).2.2, ← sum3_deg ht row]; ring
  have hsumS : ∀ row : Vec3 R, sum3 (strainRotated (eig (degShear t)).1 row) = sum3 row := by
    intro row
    rw [sum3, (hf.rotS row).1, (hf.rotS row).2.1, (hf.rotS row).2.2, ← sum3_deg ht row]; ring
  have compD0 : component (rotatedField (eig (degKey t)).1 s) 0 = degM t s :=
    component_rotated_of hsumD fun row => (hf.rotD row).1
  have compD1 : component (rotatedField (eig (degKey t)).1 s) 1 = degMix t c s :=
    component_rotated_of hsumD fun row => (hf.rotD row).2.1
  have compD2 : component (rotatedField (eig (degKey t)).1 s) 2 = degMix t (1 - c) s :=
    component_rotated_of hsumD fun row => by rw [(hf.rotD row).2.2]; ring
  have compS0 : component (rotatedField (eig (degShear t)).1 s) 0 = degM t s :=
    component_rotated_of hsumS fun row => (hf.rotS row).1
  have compS2 : component (rotatedField (eig (degShear t)).1 s) 2 = degM t s :=
    component_rotated_of hsumS fun row => (hf.rotS row).2.2
  have hshear : spec isZero eig base 2 (create s (degShear t)) =
      (base (.nonshear .longitudinal (degM t s) (degM t s)) - base (.nonshear .offDiagonal (degM t s) (degM t s))) / 2 := by
    rw [create_shear s (mem_shearKeys.1 hks).2, spec_fix hz eig base s hks, shearValue_unfold isZero hz, hnil, hms, strainEnergy_diag isZero hz]
    simp only [sum3, create_diag, spec_nonshear, hf.lamS.1, hf.lamS.2.1, hf.lamS.2.2]
    simp
    simp only [compS0, compS2]
    ring
  have hlong : spec isZero eig base 2 (create s (degLong t)) =
      base (.nonshear .longitudinal (component s t.1) (component s t.1)) := by
    rw [create_nonshear s hlns, hlct, hli, hlj, spec_nonshear]
  rw [create_shear s (mem_shearKeys.1 hkd).2, spec_fix hz eig base s hkd, shearValue_unfold isZero hz, (hperm.map _).sum_eq, hmd,
    strainEnergy_diag isZero hz]
  simp only [List.map_cons, List.map_nil, List.sum_cons, List.sum_nil, hshear, hlong]
  simp only [sum3, create_diag, spec_nonshear, hf.lamD.1, hf.lamD.2.1, hf.lamD.2.2]
  simp
  simp only [compD0, compD1, compD2]
  unfold degValue
  ring

/-- the coordinate axis is the third eigenvector (`c = 0`): the value vanishes, whatever the non-shear values -/
theorem degValue_zero (base : Params R → R) (t : Fin 3 × Fin 3 × Fin 3) (s : SField R) : degValue base t 0 s = 0 := by
  unfold degValue
  rw [sub_zero, degMix_zero, degMix_one]
  ring

/-- the coordinate axis is the second eigenvector (`c = 1`): the value vanishes when the off-diagonal value is symmetric in
its two strain components -/
theorem degValue_one (base : Params R → R) (hsymm : ∀ ct a b, base (.nonshear ct a b) = base (.nonshear ct b a))
    (t : Fin 3 × Fin 3 × Fin 3) (s : SField R) : degValue base t 1 s = 0 := by
  unfold degValue
  rw [sub_self, degMix_zero, degMix_one, hsymm .offDiagonal (component s t.1) (degM t s)]
  ring

theorem DegFramesC.toDegFrames {eig : Eig R} {t : Fin 3 × Fin 3 × Fin 3} (h : DegFramesC eig t 0) : DegFrames eig t :=
  ⟨h.lamD, fun row => by
    obtain ⟨h0, h1, h2⟩ := h.rotD row
    exact ⟨h0, by rw [h1]; ring, by rw [h2]; ring⟩, h.lamS, h.rotS⟩

theorem DegFrames.of_contract {eig : Eig R} {t : Fin 3 × Fin 3 × Fin 3} (ht : t ∈ degTriples)
    (hD : Contract (eig (degKey t)).1 (eig (degKey t)).2 (fictitiousStrain (degKey t)))
    (hlD : (eig (degKey t)).2 0 = -1 ∧ (eig (degKey t)).2 1 = 1 ∧ (eig (degKey t)).2 2 = 1)
    (hS : Contract (eig (degShear t)).1 (eig (degShear t)).2 (fictitiousStrain (degShear t)))
    (hlS : (eig (degShear t)).2 0 = -1 ∧ (eig (degShear t)).2 1 = 0 ∧ (eig (degShear t)).2 2 = 1)
    (hax : (eig (degKey t)).1 t.1 1 = 0) : DegFrames eig t := by
  have h := DegFramesC.of_contract ht hD hlD hS hlS
  rw [hax, mul_zero] at h
  exact h.toDegFrames

theorem degenerate_zero {isZero : R → Bool} (hz : ZeroSpec isZero) (eig : Eig R) (base : Params R → R)
    {t : Fin 3 × Fin 3 × Fin 3} (ht : t ∈ degTriples) (hf : DegFrames eig t) (s : SField R) :
    spec isZero eig base 2 (create s (degKey t)) = 0 := by
  rw [degenerate_value hz eig base ht hf.toC s, degValue_zero]

end value

section real

/-- `√2/2` -/
noncomputable def h2 : ℝ := Real.sqrt 2 / 2

theorem h2_sq : h2 * h2 = 1 / 2 := by
  unfold h2
  have := Real.mul_self_sqrt (show (0 : ℝ) ≤ 2 by norm_num)
  nlinarith

/-- the frames numpy/LAPACK returns for c14, c44, c25, c55 (rows of the matrices printed by `numpy.linalg.eigh`) -/
noncomputable def T14 : Mat3 ℝ := fun i a => ![![0, 0, 1], ![-h2, h2, 0], ![h2, h2, 0]] i a
noncomputable def T44 : Mat3 ℝ := fun i a => ![![0, 1, 0], ![-h2, 0, h2], ![h2, 0, h2]] i a
noncomputable def T25 : Mat3 ℝ := fun i a => ![![-h2, -h2, 0], ![0, 0, -1], ![h2, -h2, 0]] i a
noncomputable def T55 : Mat3 ℝ := fun i a => ![![-h2, 0, -h2], ![0, -1, 0], ![h2, 0, -h2]] i a

/-- another orthonormal eigenbasis for c14: LAPACK's second and third vector rotated by 45° inside the double eigenspace —
columns `(0, −h, h)`, `(h, ½, ½)`, `(−h, ½, ½)`, `h = √2/2` -/
noncomputable def T45 : Mat3 ℝ := fun i a => ![![0, h2, -h2], ![-h2, 1 / 2, 1 / 2], ![h2, 1 / 2, 1 / 2]] i a

def lamDeg : Vec3 ℝ := fun a => ![-1, 1, 1] a
def lamShear : Vec3 ℝ := fun a => ![-1, 0, 1] a

theorem T14_contract : Contract T14 lamDeg (fictitiousStrain (degKey (0, 1, 2))) := by
  refine contract_deg_of_rows (by decide) (fun a b => ?_) (fun a => ?_) (fun a => ?_) (fun a => ?_)
  · fin_cases a <;> fin_cases b <;> simp [Fin.sum_univ_three, T14, h2_sq] <;> norm_num
  all_goals fin_cases a <;> simp [T14, lamDeg]

theorem T45_contract : Contract T45 lamDeg (fictitiousStrain (degKey (0, 1, 2))) := by
  refine contract_deg_of_rows (by decide) (fun a b => ?_) (fun a => ?_) (fun a => ?_) (fun a => ?_)
  · fin_cases a <;> fin_cases b <;> simp [Fin.sum_univ_three, T45, h2_sq] <;> norm_num
  all_goals fin_cases a <;> simp [T45, lamDeg]

theorem T44_contract : Contract T44 lamShear (fictitiousStrain (degShear (0, 1, 2))) := by
  refine contract_shear_of_rows (by decide) (fun a b => ?_) (fun a => ?_) (fun a => ?_) (fun a => ?_)
  · fin_cases a <;> fin_cases b <;> simp [Fin.sum_univ_three, T44, h2_sq] <;> norm_num
  all_goals fin_cases a <;> simp [T44, lamShear]

theorem T25_contract : Contract T25 lamDeg (fictitiousStrain (degKey (1, 0, 2))) := by
  refine contract_deg_of_rows (by decide) (fun a b => ?_) (fun a => ?_) (fun a => ?_) (fun a => ?_)
  · fin_cases a <;> fin_cases b <;> simp [Fin.sum_univ_three, T25, h2_sq] <;> norm_num
  all_goals fin_cases a <;> simp [T25, lamDeg]

theorem T55_contract : Contract T55 lamShear (fictitiousStrain (degShear (1, 0, 2))) := by
  refine contract_shear_of_rows (by decide) (fun a b => ?_) (fun a => ?_) (fun a => ?_) (fun a => ?_)
  · fin_cases a <;> fin_cases b <;> simp [Fin.sum_univ_three, T55, h2_sq] <;> norm_num
  all_goals fin_cases a <;> simp [T55, lamShear]

noncomputable def eigLapack : Eig ℝ := fun k =>
  if k = degKey (0, 1, 2) then (T14, lamDeg) else if k = degShear (0, 1, 2) then (T44, lamShear)
  else if k = degKey (1, 0, 2) then (T25, lamDeg) else (T55, lamShear)

theorem eigLapack_values : eigLapack (degKey (0, 1, 2)) = (T14, lamDeg) ∧ eigLapack (degShear (0, 1, 2)) = (T44, lamShear) ∧
    eigLapack (degKey (1, 0, 2)) = (T25, lamDeg) ∧ eigLapack (degShear (1, 0, 2)) = (T55, lamShear) := by
  have hne : degShear (0, 1, 2) ≠ degKey (0, 1, 2) ∧ degKey (1, 0, 2) ≠ degKey (0, 1, 2) ∧
      degKey (1, 0, 2) ≠ degShear (0, 1, 2) ∧ degShear (1, 0, 2) ≠ degKey (0, 1, 2) ∧
      degShear (1, 0, 2) ≠ degShear (0, 1, 2) ∧ degShear (1, 0, 2) ≠ degKey (1, 0, 2) := by decide +kernel
  obtain ⟨n1, n2, n3, n4, n5, n6⟩ := hne
  simp [eigLapack, n1, n2, n3, n4, n5, n6]

theorem eigLapack_degFrames : DegFrames eigLapack (0, 1, 2) ∧ DegFrames eigLapack (1, 0, 2) := by
  obtain ⟨h14, h44, h25, h55⟩ := eigLapack_values
  constructor
  · exact DegFrames.of_contract (by decide) (by rw [h14]; exact T14_contract) (by rw [h14]; exact ⟨rfl, rfl, rfl⟩)
      (by rw [h44]; exact T44_contract) (by rw [h44]; exact ⟨rfl, rfl, rfl⟩) (by rw [h14]; simp [T14])
  · exact DegFrames.of_contract (by decide) (by rw [h25]; exact T25_contract) (by rw [h25]; exact ⟨rfl, rfl, rfl⟩)
      (by rw [h55]; exact T55_contract) (by rw [h55]; exact ⟨rfl, rfl, rfl⟩) (by rw [h25]; simp [T25])

/-- non-shear values of the counter-example: longitudinal = product of the two (equal) normalised strain components of the
first volume row, off-diagonal = 0; symmetric in the two components -/
def base0 : Params ℝ → ℝ
  | .nonshear .longitudinal a b => a.headD 0 * b.headD 0
  | _ => 0

theorem base0_symm (ct : Modulus.CalcType) (a b : CField ℝ) : base0 (.nonshear ct a b) = base0 (.nonshear ct b a) := by
  cases ct <;> simp [base0, mul_comm]

/-- one volume row, axial strains (2, 1, 1) -/
def s0 : SField ℝ := [fun i => ![2, 1, 1] i]

theorem degValue_base0_half : degValue base0 (0, 1, 2) (1 / 2) s0 = -1 / 128 := by
  simp [degValue, degMix, degM, mOf, sum3, component, base0, s0]
  norm_num

end real

end Cij.Tasks
