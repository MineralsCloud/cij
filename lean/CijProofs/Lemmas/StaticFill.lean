/-
  C18 — the contract `FillFrame` (Lemmas/StaticSource.lean) holds of the model of `fill_cij` (`Cij.Fill.fill`, the function
  C08/C09 are about and the driver runs): whenever it accepts a frame without duplicate labels it returns one, with every column
  that is not modulus-like (V, F, P, density) unchanged.  The write-back appends a label `sym` only when no label lower-cases to
  `sym`, and each of the 21 symbols is its own lower-case form, so no duplicate arises; the drop keeps a sub-list and only looks
  at labels matching `c\d\d`.  `run_is_source_model` is `run_is_source` for that model without the hypothesis.
-/
import CijProofs.Lemmas.StaticSource

set_option linter.unusedSectionVars false

namespace Cij.StaticSrc
open Cij Cij.Static

/-- each of the 21 symbols of fill.py (`"c%d%d"` of `Generated.symbolPairs`) is its own lower-case form -/
theorem symbol_lower : ∀ s ∈ Fill.symbolNames, s.toLower = s := by decide +kernel

/-- a column name that the model of `fill_cij` never touches: neither it nor its lower-case form is one of the 21
    symbols, and it does not look like `c<digit><digit>` -/
structure Untouched (name : String) : Prop where
  lower : name.toLower ∉ Fill.symbolNames
  plain : name ∉ Fill.symbolNames
  noCdd : Fill.matchesCdd name.toLower.toList = false

theorem untouched_fixed : Untouched "V" ∧ Untouched "F" ∧ Untouched "P" ∧ Untouched "density" := by
  refine ⟨⟨?_, ?_, ?_⟩, ⟨?_, ?_, ?_⟩, ⟨?_, ?_, ?_⟩, ⟨?_, ?_, ?_⟩⟩ <;> decide +kernel

section names
variable {α : Type}

theorem writeBack_keeps (t : Table α) (sym : String) (col : List α) (name : String)
    (h1 : name.toLower ≠ sym) (h2 : name ≠ sym) :
    getCol (Fill.writeBack t sym col) name = getCol t name := by
  unfold Fill.writeBack
  split
  · rename_i hit hf
    have hhit : (hit.1.toLower == sym) = true := by
      have := List.find?_some hf
      simpa using this
    apply getCol_map_same_names
    · intro c; split_ifs <;> rfl
    · intro c hc
      have : ¬ (c.1 == hit.1) = true := by
        intro e
        have e' : c.1 = hit.1 := by simpa using e
        apply h1
        rw [← hc, e']
        simpa using hhit
      simp [this]
  · exact getCol_append_of_ne t _ name (fun e => h2 e.symm)


/-- the labels after `elast.loc[:, key] = col`: unchanged, or `sym` appended when no label lower-cases to `sym` -/
theorem names_writeBack (t : Table α) (sym : String) (col : List α) :
    (Fill.writeBack t sym col).map (·.1) = t.map (·.1) ∨
    ((Fill.writeBack t sym col).map (·.1) = t.map (·.1) ++ [sym] ∧ ∀ c ∈ t, c.1.toLower ≠ sym) := by
  unfold Fill.writeBack
  split
  · left
    rw [List.map_map]
    apply List.map_congr_left
    intro c _
    simp only [Function.comp_apply]
    split_ifs <;> rfl
  · rename_i hf
    right
    refine ⟨by simp, ?_⟩
    intro c hc e
    have := List.find?_eq_none.mp hf c hc
    simp [e] at this

theorem nodup_writeBack (t : Table α) (sym : String) (col : List α) (hs : sym.toLower = sym)
    (h : (t.map (·.1)).Nodup) : ((Fill.writeBack t sym col).map (·.1)).Nodup := by
  rcases names_writeBack t sym col with e | ⟨e, hno⟩
  · rw [e]; exact h
  · rw [e]
    refine List.Nodup.append h (List.nodup_singleton _) ?_
    intro a ha hb
    simp only [List.mem_singleton] at hb
    subst hb
    obtain ⟨c, hc, rfl⟩ := List.mem_map.mp ha
    exact hno c hc hs

end names

section fill
variable {α : Type} [Add α] [Sub α] [Mul α] [Div α] [Neg α] [OfNat α 0] [OfNat α 1] [IntCast α]
  [DecidableEq α] [LT α] [DecidableLT α] [LE α] [DecidableLE α]

/-- what holds of the frame and survives every write-back of one of the 21 symbols holds after all of them -/
theorem writeAll_induction (Q : Table α → Prop) (t : Table α) (xs : List (List α)) (h0 : Q t)
    (step : ∀ t sym col, sym ∈ Fill.symbolNames → Q t → Q (Fill.writeBack t sym col)) : Q (Fill.writeAll t xs) := by
  unfold Fill.writeAll
  generalize hl : List.zip (List.range Fill.nsym) Fill.symbolNames = l
  have hmem : ∀ p ∈ l, p.2 ∈ Fill.symbolNames := fun p hp => (List.of_mem_zip (hl ▸ hp)).2
  clear hl
  induction l generalizing t with
  | nil => exact h0
  | cons p r ih =>
    exact ih _ (step t p.2 _ (hmem p List.mem_cons_self) h0) (fun q hq => hmem q (List.mem_cons_of_mem _ hq))

theorem nodup_writeAll (t : Table α) (xs : List (List α)) (h : (t.map (·.1)).Nodup) :
    ((Fill.writeAll t xs).map (·.1)).Nodup := by
  have key := writeAll_induction (fun t => (t.map (·.1)).Nodup) t xs h
    fun t sym col hs h => nodup_writeBack t sym col (symbol_lower _ hs) h
  exact key

theorem writeAll_keeps (t : Table α) (xs : List (List α)) (name : String) (h : Untouched name) :
    getCol (Fill.writeAll t xs) name = getCol t name := by
  have key := writeAll_induction (fun t' => getCol t' name = getCol t name) t xs rfl
    fun t' sym col hs e => (writeBack_keeps t' sym col name (fun e => h.lower (e ▸ hs)) (fun e => h.plain (e ▸ hs))).trans e
  exact key

theorem nodup_finish (P : Fill.Params α) (t : Table α) (xs : List (List α)) (h : (t.map (·.1)).Nodup) :
    ((Fill.finish P t xs).map (·.1)).Nodup := by
  unfold Fill.finish
  exact List.Nodup.sublist (List.Sublist.map _ List.filter_sublist) (nodup_writeAll t xs h)

theorem finish_keeps (P : Fill.Params α) (t : Table α) (xs : List (List α)) (name : String) (h : Untouched name) :
    getCol (Fill.finish P t xs) name = getCol t name := by
  unfold Fill.finish
  rw [getCol_filter _ _ name, writeAll_keeps t xs name h]
  intro c _ hc
  rw [hc, h.noCdd]
  rfl

/-- whatever `fill_cij` returns is `elast` itself (`system is None`) or `finish` of it -/
theorem fill_ok_cases (env : Fill.Env) (system : Option String) (P : Fill.Params α) (t t' : Table α)
    (h : Fill.fill env system P t = .ok t') : t' = t ∨ ∃ xs, t' = Fill.finish P t xs := by
  unfold Fill.fill at h
  cases system with
  | none => simp only at h; cases h; exact Or.inl rfl
  | some sys =>
    simp only at h
    split at h
    · cases h                                   -- a column label is refused
    · split at h
      · cases h                                 -- the constraints of the system are not found
      · unfold Fill.fillWith at h
        split_ifs at h                          -- no modulus column: both branches raise
        simp only at h
        split at h
        · cases h                               -- the solver fails
        · rename_i s _
          split at h
          · cases h                             -- rank or residuals refused
          · exact Or.inr ⟨s.xs, (Except.ok.inj h).symm⟩

/-- The model of `fill_cij`, for every scalar type, every lookup environment, every system and every keyword parameters:
    an accepted frame without duplicate labels comes back without duplicate labels, and every untouched column (not
    modulus-like: V, F, P, density, …) comes back with the values it had. -/
theorem fill_model_frame (env : Fill.Env) (system : Option String) (P : Fill.Params α) (t t' : Table α)
    (h : Fill.fill env system P t = .ok t') :
    ((t.map (·.1)).Nodup → (t'.map (·.1)).Nodup) ∧ ∀ name, Untouched name → getCol t' name = getCol t name := by
  have hc := fill_ok_cases env system P t t' h
  clear h
  rcases hc with e | ⟨xs, e⟩
  · rw [e]; exact ⟨id, fun _ _ => rfl⟩
  · rw [e]; exact ⟨nodup_finish P t xs, fun name hn => finish_keeps P t xs name hn⟩

/-- `Good` frames (no duplicate labels; V, F, P present) are mapped to `Good` frames, with V, F, P, density unchanged -/
theorem fill_model_good (env : Fill.Env) (system : Option String) (P : Fill.Params α) (t t' : Table α)
    (h : Fill.fill env system P t = .ok t') (G : Good t) :
    Good t' ∧ getCol t' "V" = getCol t "V" ∧ getCol t' "F" = getCol t "F" ∧ getCol t' "P" = getCol t "P" ∧
      getCol t' "density" = getCol t "density" := by
  obtain ⟨hnd, hk⟩ := fill_model_frame env system P t t' h
  obtain ⟨uV, uF, uP, uD⟩ := untouched_fixed
  refine ⟨⟨hnd G.1, ?_, ?_, ?_⟩, hk _ uV, hk _ uF, hk _ uP, hk _ uD⟩
  · rw [hk _ uV]; exact G.2.1
  · rw [hk _ uF]; exact G.2.2.1
  · rw [hk _ uP]; exact G.2.2.2

/-- the library environment `E` with `fill_cij(df, system)` := the model `Fill.fill` (lookup environment `env`, keyword
    parameters `P`; a refusal / exception of `fill_cij` ends the command) -/
def withModelFill (E : Ext α) (env : Fill.Env) (P : Fill.Params α) : Ext α :=
  { E with fill := fun s t => (Fill.fill env (some s) P t).toOption }

theorem toOption_eq_some {ε β : Type} (x : Except ε β) (b : β) (h : x.toOption = some b) : x = .ok b := by
  cases x with
  | error e => cases h
  | ok a => simp only [Except.toOption, Option.some.injEq] at h; rw [h]

/-- every environment whose `fill` agrees with the model (the form of `C18.fill_contract_of_model`) satisfies `FillFrame` -/
theorem fillFrame_of_model (E : Ext α) (env : Fill.Env) (P : Fill.Params α)
    (hE : ∀ s t, E.fill s t = (Fill.fill env (some s) P t).toOption) : FillFrame E := by
  intro s t t' G h
  rw [hE] at h
  exact (fill_model_good env (some s) P t t' (toOption_eq_some _ _ h) G).1

theorem fillFrame_model (E : Ext α) (env : Fill.Env) (P : Fill.Params α) : FillFrame (withModelFill E env P) :=
  fillFrame_of_model _ env P fun _ _ => rfl

end fill

section whole
variable {α : Type} [Add α] [Sub α] [Mul α] [Div α] [Neg α] [OfNat α 0] [OfNat α 1] [NatCast α] [IntCast α]
  [LE α] [DecidableLE α] [LT α] [DecidableLT α] [BEq α] [DecidableEq α]

/-- `run_is_source` with `fill_cij` := its model: `Static.runWith` IS the interpretation of the blocks of `main` as the
    translator reads them now, for every input, every scalar type — no hypothesis. -/
theorem run_is_source_model (fit : Fit α) (E : Ext α) (env : Fill.Env) (P : Fill.Params α) (U : Static.Units α)
    (o : Options α) (d1 : QhaInput.Data α) (d2 : Option (ElastDat.ElastData α)) :
    run ⟨fit, withModelFill E env P, U, o, d1, d2⟩ Generated.staticBlocks
      = runWith fit (withModelFill E env P) U o d1 d2 :=
  run_is_source ⟨fit, withModelFill E env P, U, o, d1, d2⟩ (fillFrame_model E env P)

end whole

end Cij.StaticSrc
