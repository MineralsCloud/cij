/- Lemmas about `CijModel/Extract.lean`: first minimum, columns, alignment, and the writer's file names as character lists. -/
import CijModel.Extract
import CijProofs.Lemmas.Writer
import Mathlib.Algebra.Order.Field.Basic
import Mathlib.Algebra.Order.AbsoluteValue.Basic
import Mathlib.Tactic.IntervalCases

namespace Cij.Extract

open Cij.Writer (dictGet dictSet optAll)

/-- `v` at index `r` is a first minimum of `l` -/
def FirstMin {β} [LT β] [LE β] (l : List β) (r : Nat) (v : β) : Prop :=
  l[r]? = some v ∧ ∀ j w, l[j]? = some w → v ≤ w ∧ (j < r → v < w)

theorem getElem?_snoc {β} {pre : List β} {e w : β} {j : Nat} (h : (pre ++ [e])[j]? = some w) :
    pre[j]? = some w ∨ (j = pre.length ∧ w = e) := by
  by_cases hj : j < pre.length
  · exact Or.inl (by rwa [List.getElem?_append_left hj] at h)
  · rw [List.getElem?_append_right (by omega)] at h
    by_cases hz : j - pre.length = 0
    · rw [hz] at h
      exact Or.inr ⟨by omega, by simpa using h.symm⟩
    · rw [List.getElem?_eq_none (by simp; omega)] at h; cases h

theorem argminGo_spec {β} [LinearOrder β] (es pre : List β) (i bi : Nat) (bv : β)
    (hi : pre.length = i) (inv : FirstMin pre bi bv) :
    ∃ v, FirstMin (pre ++ es) (argminGo es i bi bv) v := by
  induction es generalizing pre i bi bv with
  | nil => exact ⟨bv, by simpa [argminGo] using inv⟩
  | cons e es ih =>
    obtain ⟨hb, hall⟩ := inv
    have hbi : bi < pre.length := by
      by_contra hcon
      rw [List.getElem?_eq_none (by omega)] at hb; cases hb
    have happ : pre ++ e :: es = (pre ++ [e]) ++ es := by simp
    unfold argminGo
    rw [happ]
    -- the invariant passes to `pre ++ [e]`
    by_cases hlt : e < bv
    · simp only [hlt, if_true]
      apply ih (pre ++ [e]) (i + 1) i e (by simp [hi])
      refine ⟨by simp [← hi], fun j w hj => ?_⟩
      rcases getElem?_snoc hj with hj | ⟨rfl, rfl⟩
      · have := lt_of_lt_of_le hlt (hall j w hj).1
        exact ⟨le_of_lt this, fun _ => this⟩
      · exact ⟨le_refl _, fun h => by omega⟩
    · simp only [hlt, if_false]
      apply ih (pre ++ [e]) (i + 1) bi bv (by simp [hi])
      refine ⟨by rw [List.getElem?_append_left hbi]; exact hb, fun j w hj => ?_⟩
      rcases getElem?_snoc hj with hj | ⟨rfl, rfl⟩
      · exact hall j w hj
      · exact ⟨not_lt.1 hlt, fun h => by omega⟩

theorem argminFirst_spec {β} [LinearOrder β] (l : List β) (r : Nat) (h : argminFirst l = some r) :
    ∃ v, FirstMin l r v := by
  cases l with
  | nil => cases h
  | cons d ds =>
    simp only [argminFirst, Option.some.injEq] at h
    subst h
    have := argminGo_spec ds [d] 1 0 d rfl ⟨by simp, fun j w hj => by
      cases j with
      | zero => simp at hj; subst hj; exact ⟨le_refl _, fun h => by omega⟩
      | succ n => simp at hj⟩
    simpa using this

theorem argminFirst_isSome {β} [LT β] [DecidableLT β] (l : List β) (h : l ≠ []) : (argminFirst l).isSome := by
  cases l with
  | nil => exact absurd rfl h
  | cons d ds => simp [argminFirst]

theorem absv_eq_abs {α} [Field α] [LinearOrder α] [IsStrictOrderedRing α] (x : α) : absv x = |x| := by
  unfold absv
  by_cases h : x < 0
  · simp [h, abs_of_neg h]
  · simp [h, abs_of_nonneg (not_lt.1 h)]

theorem column_spec {α} (vals : List (List α)) (j : Nat) (h : ∀ row ∈ vals, j < row.length) :
    (vals.filterMap (·[j]?)).length = vals.length ∧
    ∀ (i : Nat) (row : List α), vals[i]? = some row → (vals.filterMap (·[j]?))[i]? = row[j]? := by
  induction vals with
  | nil => simp
  | cons r rs ih =>
    have hr : j < r.length := h r (by simp)
    obtain ⟨ih1, ih2⟩ := ih (fun row hrow => h row (by simp [hrow]))
    have hcons : (r :: rs).filterMap (·[j]?) = r[j] :: rs.filterMap (·[j]?) := by
      simp [List.getElem?_eq_getElem hr]
    rw [hcons]
    refine ⟨by simp [ih1], fun i row hi => ?_⟩
    cases i with
    | zero => simp at hi; subst hi; simp [List.getElem?_eq_getElem hr]
    | succ n => simp at hi; simpa using ih2 n row hi

theorem align_self {α} [DecidableEq α] (labels row : List α) (hn : labels.Nodup) (hl : row.length = labels.length) :
    align labels (labels, row) = row.map some := by
  unfold align
  apply List.ext_getElem
  · simp [hl]
  · intro i h1 h2
    have hi : i < labels.length := by simpa using h1
    have hi' : i < row.length := by omega
    simp only [List.getElem_map]
    have hfind : (labels.zip row).find? (fun e => e.1 == labels[i]) = some (labels[i], row[i]) := by
      rw [List.find?_eq_some_iff_getElem]
      refine ⟨by simp, i, by simp [hi, hi'], by simp, fun j hj => ?_⟩
      have hjl : j < labels.length := by omega
      simp only [List.getElem_zip, Bool.not_eq_true', beq_eq_false_iff_ne, ne_eq]
      intro e
      have := (List.Nodup.getElem_inj_iff hn (hi := hjl) (hj := hi)).1 e
      omega
    simp [hfind]

theorem dictGet_append_left {β} (d e : List (String × β)) (k : String) (v : β) (h : dictGet d k = some v) :
    dictGet (d ++ e) k = some v := by
  unfold dictGet at h ⊢
  rw [List.find?_append]
  cases hf : List.find? (fun e => e.1 == k) d with
  | none => rw [hf] at h; cases h
  | some x => rw [hf] at h; simpa using h

theorem dictGet_append_right {β} (d e : List (String × β)) (k : String) (h : k ∉ d.map (·.1)) :
    dictGet (d ++ e) k = dictGet e k := by
  unfold dictGet
  rw [List.find?_append]
  have : List.find? (fun e => e.1 == k) d = none := by
    rw [List.find?_eq_none]
    intro x hx
    simp only [beq_iff_eq]
    intro e; exact h (by rw [← e]; exact List.mem_map_of_mem hx)
  rw [this]; rfl

theorem dictGet_map_self {β} (vars : List String) (g : String → β) (v : String) (h : v ∈ vars) :
    dictGet (vars.map fun v => (v, g v)) v = some (g v) := by
  induction vars with
  | nil => cases h
  | cons a t ih =>
    by_cases e : a = v
    · subst e; simp [dictGet]
    · have hm : v ∈ t := by
        rcases List.mem_cons.1 h with h | h
        · exact absurd h.symm e
        · exact h
      have := ih hm
      unfold dictGet at this ⊢
      simp only [List.map_cons, List.find?_cons]
      have hb : (a == v) = false := by simpa using e
      simp only [hb]
      exact this

/-! ### file names as character lists

The kernel evaluates `(String.ofList cs).toList` by encoding and decoding again; for facts about `stem` and
`globMatches` on the names the writer rules produce, the names are taken before `String.ofList`. -/

open Generated (WriterRule writerRules) in
open Cij.Writer in
def ruleFnameChars (r : WriterRule) (base : String) : List (Option (List Char)) :=
  if r.varType == "ij_value" then
    keys21.map fun p => (formatIj (keyOfVoigt p)).bind fun ij =>
      formatGo [("base", base), ("ij", ij)] r.fnamePattern.toList none
  else [formatGo [("base", base)] r.fnamePattern.toList none]

open Generated (WriterRule writerRules) in
open Cij.Writer in
theorem allFnames_eq_chars (rules : List WriterRule) (base : String) :
    allFnames rules base = (rules.flatMap fun r => ruleFnameChars r base).map (Option.map String.ofList) := by
  rw [allFnames, List.map_flatMap]
  congr 1
  funext r
  unfold ruleFnames ruleFnameChars
  split
  · rw [List.map_map]
    congr 1
    funext p
    simp only [ijFname, format, Function.comp]
    cases formatIj (keyOfVoigt p) <;> rfl
  · rfl

theorem stem_ofList (cs : List Char) : stem (String.ofList cs) = String.ofList (stemGo cs []) := by
  rw [stem, String.toList_ofList]

theorem globMatches_ofList (vs cs : List Char) :
    globMatches (String.ofList vs) (String.ofList cs) = (vs ++ "_tp_".toList).isPrefixOf cs := by
  simp only [globMatches, String.toList_append, String.toList_ofList]

open Generated (writerRules) in
theorem stem_selects_chars : ∀ c₁ ∈ writerRules.flatMap (fun r => ruleFnameChars r "tp"),
    ∀ c₂ ∈ writerRules.flatMap (fun r => ruleFnameChars r "tp"), ∀ cs₁, c₁ = some cs₁ → ∀ cs₂, c₂ = some cs₂ →
      (stemGo cs₁ [] ++ "_tp_".toList).isPrefixOf cs₁ = true ∧
      ((stemGo cs₁ [] ++ "_tp_".toList).isPrefixOf cs₂ = true → cs₁ = cs₂) := by
  decide +kernel

end Cij.Extract
