/-
  `CijModel/Extract.lean` IS the interpretation (`CijModel/ExtractSrc.lean`) of what `cij/cli/extract.py` and
  `cij/cli/geotherm.py` say now (`Generated/ExtractSpec.lean`, re-translated on every run by
  `tools/gens/extract_src.py`).  Helper lemmas only; the property-level statements are the
  `extract_model_is_source_*` theorems of `Properties/C19.lean`.
-/
import CijModel.ExtractSrc
import Generated.ExtractSpec
import CijProofs.Lemmas.Extract

namespace Cij.ExtractSrc

open Cij.Extract Generated.ExtractSpec
open Cij.Writer (dictGet dictSet optAll)

theorem patternOf_var_tp (var : String) : patternOf [(true, "var"), (false, "_tp_*")] var = var ++ "_tp_*" := by
  simp [patternOf, String.join]

theorem globMatchOf_var_tp (var fname : String) :
    globMatchOf [(true, "var"), (false, "_tp_*")] var fname = globMatches var fname := by
  unfold globMatchOf globMatches
  rw [patternOf_var_tp]
  have h : (var ++ "_tp_*").toList.reverse = '*' :: ((var ++ "_tp_").toList).reverse := by
    simp [String.toList_append]
  rw [h]
  simp

/-- `glob(f"{var}_tp_*")[0]` of BOTH modules is the model's `loadData` -/
theorem loadOf_eq_loadData {α} (L : LoadSpec) (hp : L.globParts = [(true, "var"), (false, "_tp_*")]) (h0 : L.globPick = 0)
    (dir : List (String × Tab α)) (var : String) : loadOf L dir var = loadData dir var := by
  unfold loadOf loadData
  simp only [hp, h0, globMatchOf_var_tp, ← List.head?_eq_getElem?, List.head?_filter]

section order
variable {α : Type} [LT α] [DecidableLT α] [Sub α] [Add α] [Neg α] [OfNat α 0]

/-- the tree read from `y_index = …` evaluates, on every table and request, to the model's `argminAbs` of the row
labels -/
theorem yIndex_eval (t : Tab α) (y : α) : extractMain.yIndex.eval t y = argminAbs t.rows y := by
  simp [extractMain, IExpr.eval, AExpr.eval, Val.map2, Val.map, argminAbs, Function.comp_def]

theorem pickOf_eq (t : Tab α) (y : α) : pickOf extractMain t y = pick t y := by
  unfold pickOf pick
  rw [yIndex_eval]
  rfl

theorem selectRowOf_eq (t : Tab α) (T P : Option α) : selectRowOf extractMain t T P = selectRow t T P := by
  -- the arms of the chain are literals: the selection computes, the pick is `pickOf_eq`
  rcases T with _ | y
  · rcases P with _ | y
    · rfl
    · exact pickOf_eq t.transpose y
  · exact pickOf_eq t y

end order

theorem extractOf_eq {α} [LT α] [DecidableLT α] [Sub α] [Add α] [Neg α] [OfNat α 0] [BEq α]
    (dir : List (String × Tab α)) (vars : List String) (T P : Option α) :
    extractOf loadExtract extractMain dir vars T P = extract dir vars T P := by
  unfold extractOf extract
  simp only [loadOf_eq_loadData loadExtract rfl rfl, selectRowOf_eq]
  simp [extractMain]

theorem fitOf_eq {α} (S : Spline α) (t : Tab α) : fitOf fitData S t = some (S t.rows t.cols t.vals) := by
  simp [fitOf, fitData, fitAxis]

theorem geothermStepOf_eq {α} (S : Spline α) (dir : List (String × Tab α)) (tCol pCol : String)
    (table : List (String × List α)) (var : String) :
    geothermStepOf loadGeotherm fitData geothermMain S dir (colEnv tCol pCol) table var =
      geothermStep S dir tCol pCol table var := by
  unfold geothermStepOf geothermStep
  rw [loadOf_eq_loadData loadGeotherm rfl rfl]
  cases loadData dir var with
  | none => simp [geothermMain]
  | some df =>
    simp only [geothermMain, fitOf_eq, colEnv, Option.bind_eq_bind, Option.bind_some, Option.pure_def]

theorem geothermOf_eq {α} (S : Spline α) (dir : List (String × Tab α)) (vars : List String)
    (geo : List (String × List α)) (tCol pCol : String) :
    geothermOf loadGeotherm fitData geothermMain geothermOptions S dir vars geo (some tCol) (some pCol) =
      geotherm S dir vars geo tCol pCol := by
  unfold geothermOf geotherm
  simp only [Option.orElse, Option.bind_eq_bind, Option.bind_some]
  congr 1
  funext table var
  exact geothermStepOf_eq S dir tCol pCol table var

/-- options left out: click supplies the declared defaults, which are the model's default arguments -/
theorem geothermOf_defaults_eq {α} (S : Spline α) (dir : List (String × Tab α)) (vars : List String)
    (geo : List (String × List α)) :
    geothermOf loadGeotherm fitData geothermMain geothermOptions S dir vars geo =
      geotherm S dir vars geo := by
  have ht : optDefault geothermOptions "t_col" = some "P" := by decide
  have hp : optDefault geothermOptions "p_col" = some "T" := by decide
  unfold geothermOf geotherm
  simp only [Option.orElse, ht, hp, Option.bind_eq_bind, Option.bind_some]
  congr 1
  funext table var
  exact geothermStepOf_eq S dir "P" "T" table var

end Cij.ExtractSrc
