/- Totality and correctness of the UNPIVOTED Gauss–Jordan elimination `Cij.LeastSq.solve` (`CijModel/LeastSq.lean`) and of
`Cij.LeastSq.polyfit` on full-column-rank polynomial designs over an ordered field.

`eliminate` does no pivot search: step `c` divides row `c` by the entry `(c, c)` of the CURRENT matrix.  The exact hypothesis
under which this never meets a zero pivot is that every LEADING PRINCIPAL block of the coefficient matrix is non-singular
(`LeadingNonsing`); a symmetric positive definite matrix — here `AᵀA` of a Vandermonde design with ≥ deg+1 distinct
abscissae, whose quadratic form is `Σ_r P(x_r)²` — satisfies it.

Proof: entries are read through `ent`, one step is `stepE` on entry functions (`eliminate_ent`), and the invariant after `c`
steps (`gj_invariant`) is
  (I1) the first `c` columns are unit vectors,
  (I2) for every `k ≥ c` the first `k` rows have the same solution set (as equations in ALL `n+1` columns, augmented
       column included) as the first `k` rows of the original matrix
       — step `j < c` only adds multiples of row `j` and rescales row `j`.
A zero pivot at step `c` would give, by (I1), a vector supported on columns `0..c` with `c`-th entry 1 in the kernel of the
first `c+1` current rows, hence by (I2) of the leading `(c+1)`-block of the original matrix. -/
import CijProofs.Lemmas.Interp
import CijProofs.Lemmas.LeastSq

namespace Cij.LeastSq
open Finset

section Entries
variable {α : Type} [Field α]

/-- entry `(i, j)` of a list-of-rows matrix (0 outside) -/
def ent (m : List (List α)) (i j : ℕ) : α := (m.getD i []).getD j 0

/-- `R` rows, each of width `W` -/
def Rect (m : List (List α)) (R W : ℕ) : Prop := m.length = R ∧ ∀ row ∈ m, row.length = W

/-- one Gauss–Jordan step on column `c`, on entry functions -/
def stepE (E : ℕ → ℕ → α) (c : ℕ) : ℕ → ℕ → α := fun i j =>
  if i = c then E c j / E c c else E i j - E i c * (E c j / E c c)

/-- `c` steps (columns `0 … c−1`) -/
def iterE (E : ℕ → ℕ → α) : ℕ → ℕ → ℕ → α
  | 0 => E
  | c + 1 => stepE (iterE E c) c

theorem eliminate_rect (m : List (List α)) (R W c : ℕ) (h : Rect m R W) (hc : c < R) : Rect (eliminate m c) R W := by
  obtain ⟨hR, hW⟩ := h
  have hcm : c < m.length := hR ▸ hc
  have hprow : (m[c]?.getD []).length = W := by
    rw [List.getElem?_eq_getElem hcm, Option.getD_some]
    exact hW _ (List.getElem_mem hcm)
  refine ⟨by simp [eliminate, hR], fun row hrow => ?_⟩
  simp only [eliminate, List.mem_mapIdx] at hrow
  obtain ⟨i, hi, rfl⟩ := hrow
  have hri : (m[i]).length = W := hW _ (List.getElem_mem hi)
  split_ifs
  · simp [hprow]
  · simp [List.length_zipWith, hprow, hri]

theorem getD_zipWith_zero (f : α → α → α) (hf : f 0 0 = 0) (u v : List α) (h : u.length = v.length) (j : ℕ) :
    (List.zipWith f u v).getD j 0 = f (u.getD j 0) (v.getD j 0) := by
  rcases Nat.lt_or_ge j u.length with hj | hj
  · rw [List.getD_eq_getElem _ _ (by rw [List.length_zipWith, ← h, min_self]; exact hj), List.getD_eq_getElem _ _ hj,
      List.getD_eq_getElem _ _ (h ▸ hj), List.getElem_zipWith]
  · rw [List.getD_eq_default _ _ (by rw [List.length_zipWith, ← h, min_self]; exact hj), List.getD_eq_default _ _ hj,
      List.getD_eq_default _ _ (h ▸ hj), hf]

theorem getD_map_div (l : List α) (p : α) (j : ℕ) : (l.map (· / p)).getD j 0 = l.getD j 0 / p := by
  rw [← zero_div p, List.getD_map]
  simp

/-- the list-level step is `stepE` on the entries (rows of equal width; outside the width both sides are `0`) -/
theorem eliminate_ent (m : List (List α)) (R W c i j : ℕ) (h : Rect m R W) (hc : c < R) (hi : i < R) :
    ent (eliminate m c) i j = stepE (ent m) c i j := by
  obtain ⟨hR, hW⟩ := h
  have him : i < m.length := hR ▸ hi
  have hcm : c < m.length := hR ▸ hc
  have hwid : ∀ k < m.length, (m.getD k []).length = W := fun k hk => by
    rw [List.getD_eq_getElem _ _ hk]
    exact hW _ (List.getElem_mem hk)
  have hrow : (eliminate m c).getD i []
      = if i = c then (m.getD c []).map (· / ent m c c)
        else List.zipWith (fun p x => x - ent m i c * p) ((m.getD c []).map (· / ent m c c)) (m.getD i []) := by
    simp only [eliminate, ent, List.getD_eq_getElem?_getD, List.getElem?_mapIdx, List.getElem?_eq_getElem him, Option.map_some,
      Option.getD_some, beq_iff_eq]
  show ((eliminate m c).getD i []).getD j 0 = _
  rw [hrow]
  unfold stepE
  split_ifs with hic
  · rw [getD_map_div]
    rfl
  · rw [getD_zipWith_zero _ (by simp) _ _ (by rw [List.length_map, hwid c hcm, hwid i him]), getD_map_div]
    rfl

theorem foldl_eliminate (m : List (List α)) (R W c : ℕ) (h : Rect m R W) (hcR : c ≤ R) (hcW : c ≤ W) :
    Rect ((List.range c).foldl eliminate m) R W ∧
      ∀ i < R, ∀ j < W, ent ((List.range c).foldl eliminate m) i j = iterE (ent m) c i j := by
  induction c with
  | zero => exact ⟨h, fun i _ j _ => rfl⟩
  | succ c ih =>
    obtain ⟨hr, he⟩ := ih (by omega) (by omega)
    rw [List.range_succ, List.foldl_append, List.foldl_cons, List.foldl_nil]
    refine ⟨eliminate_rect _ R W c hr (by omega), fun i hi j hj => ?_⟩
    rw [eliminate_ent _ R W c i j hr (by omega) hi]
    simp only [iterE, stepE, he c (by omega) j hj, he c (by omega) c (by omega), he i hi j hj, he i hi c (by omega)]

end Entries

section Invariant
variable {α : Type} [Field α]

/-- row `i` of an `n × (n+1)` system against a vector of `n + 1` entries (augmented column included) -/
def rowdot (E : ℕ → ℕ → α) (n i : ℕ) (x : ℕ → α) : α := ∑ j ∈ range (n + 1), E i j * x j

/-- every leading principal block of the coefficient part is non-singular: a vector supported on columns `0 … k` (`k < n`) that
is annihilated by rows `0 … k` is zero.  (Equivalently: all leading principal minors are non-zero.)  This is the exact
condition under which elimination WITHOUT pivoting never divides by zero. -/
def LeadingNonsing (E : ℕ → ℕ → α) (n : ℕ) : Prop :=
  ∀ k < n, ∀ x : ℕ → α, (∀ j, k < j → x j = 0) → (∀ i ≤ k, rowdot E n i x = 0) → ∀ j, x j = 0

theorem rowdot_stepE (E : ℕ → ℕ → α) (n c i : ℕ) (x : ℕ → α) :
    rowdot (stepE E c) n i x
      = if i = c then rowdot E n c x / E c c else rowdot E n i x - E i c / E c c * rowdot E n c x := by
  unfold rowdot stepE
  by_cases hic : i = c
  · simp only [hic, if_true]
    rw [div_eq_inv_mul, Finset.mul_sum]
    exact Finset.sum_congr rfl fun j _ => by ring
  · simp only [if_neg hic, Finset.mul_sum, ← Finset.sum_sub_distrib]
    exact Finset.sum_congr rfl fun j _ => by ring

/-- the candidate kernel vector at a zero pivot: `e_c − Σ_{j<c} E[j][c] e_j` -/
def pivotVec (E : ℕ → ℕ → α) (c : ℕ) : ℕ → α := fun j => if j = c then 1 else if j < c then -E j c else 0

theorem rowdot_pivotVec (E : ℕ → ℕ → α) (n c i : ℕ) (hc : c < n) (hi : i ≤ c)
    (hunit : ∀ i < n, ∀ j < c, E i j = if i = j then 1 else 0) :
    rowdot E n i (pivotVec E c) = if i = c then E c c else 0 := by
  unfold rowdot
  have hterm : ∀ j ∈ range (n + 1), E i j * pivotVec E c j
      = (if j = c then E i c else 0) + (if j = i then (if i < c then -E i c else 0) else 0) := by
    intro j _
    unfold pivotVec
    by_cases hjc : j = c
    · subst hjc
      by_cases hji : j = i
      · subst hji; simp
      · simp [hji]
    · by_cases hlt : j < c
      · rw [hunit i (by omega) j hlt]
        by_cases hij : i = j
        · subst hij; simp [hjc, hlt]
        · have : ¬ j = i := fun h => hij h.symm
          simp [hjc, hlt, hij, this]
      · have hji : ¬ j = i := by omega
        simp [hjc, hlt, hji]
  rw [Finset.sum_congr rfl hterm, Finset.sum_add_distrib, Finset.sum_ite_eq' , Finset.sum_ite_eq']
  have h1 : c ∈ range (n + 1) := mem_range.mpr (by omega)
  have h2 : i ∈ range (n + 1) := mem_range.mpr (by omega)
  rw [if_pos h1, if_pos h2]
  by_cases hic : i = c
  · subst hic; simp
  · have : i < c := by omega
    simp [hic, this]

/-- **invariant of unpivoted Gauss–Jordan.**  If every leading principal block of the original system `E0` is non-singular
then, for every `c ≤ n`: no pivot among the first `c` steps was zero, the first `c` columns of the current matrix are unit
vectors, and for all `k ≥ c` the first `k` rows have the same solutions as the first `k` original rows. -/
theorem gj_invariant (E0 : ℕ → ℕ → α) (n : ℕ) (hL : LeadingNonsing E0 n) (c : ℕ) (hc : c ≤ n) :
    (∀ c' < c, iterE E0 c' c' c' ≠ 0) ∧
    (∀ i < n, ∀ j < c, iterE E0 c i j = if i = j then 1 else 0) ∧
    (∀ k, c ≤ k → k ≤ n → ∀ x : ℕ → α,
      (∀ i < k, rowdot (iterE E0 c) n i x = 0) ↔ (∀ i < k, rowdot E0 n i x = 0)) := by
  induction c with
  | zero => exact ⟨fun _ h => absurd h (Nat.not_lt_zero _), fun _ _ _ h => absurd h (Nat.not_lt_zero _), fun _ _ _ _ => Iff.rfl⟩
  | succ c ih =>
    obtain ⟨hpiv, hunit, hsol⟩ := ih (by omega)
    have hcn : c < n := by omega
    set E := iterE E0 c with hE
    have hpv : E c c ≠ 0 := by
      intro h0
      have hker : ∀ i < c + 1, rowdot E n i (pivotVec E c) = 0 := by
        intro i hi
        rw [rowdot_pivotVec E n c i hcn (by omega) hunit]
        split_ifs
        · exact h0
        · rfl
      have hker0 := (hsol (c + 1) (by omega) (by omega) (pivotVec E c)).mp hker
      have := hL c hcn (pivotVec E c)
        (fun j hj => by unfold pivotVec; rw [if_neg (by omega), if_neg (by omega)])
        (fun i hi => hker0 i (by omega)) c
      simp [pivotVec] at this
    refine ⟨?_, ?_, ?_⟩
    · intro c' hc'
      rcases Nat.lt_succ_iff_lt_or_eq.mp hc' with h | rfl
      · exact hpiv c' h
      · exact hpv
    · intro i hi j hj
      show stepE E c i j = _
      unfold stepE
      rcases Nat.lt_succ_iff_lt_or_eq.mp hj with hjc | rfl
      · have hcj : E c j = 0 := by rw [hunit c hcn j hjc, if_neg (by omega)]
        by_cases hic : i = c
        · subst hic
          rw [if_pos rfl, hcj, if_neg (by omega)]
          simp
        · rw [if_neg hic, hcj, hunit i hi j hjc]
          simp
      · by_cases hic : i = j
        · subst hic
          rw [if_pos rfl, if_pos rfl, div_self hpv]
        · rw [if_neg hic, if_neg hic, div_self hpv]
          ring
    · intro k hck hkn x
      rw [← hsol k (by omega) hkn x]
      show (∀ i < k, rowdot (stepE E c) n i x = 0) ↔ _
      simp only [rowdot_stepE]
      constructor
      · intro h
        have hc0 : rowdot E n c x = 0 := by
          have := h c (by omega)
          rw [if_pos rfl] at this
          exact (div_eq_zero_iff.mp this).resolve_right hpv
        intro i hi
        by_cases hic : i = c
        · rw [hic]; exact hc0
        · have := h i hi
          rw [if_neg hic, hc0] at this
          simpa using this
      · intro h i hi
        split_ifs
        · rw [h c (by omega)]; simp
        · rw [h c (by omega), h i hi]; simp

/-- **correctness of unpivoted Gauss–Jordan on entry functions**: after `n` steps the last column solves the original system -/
theorem gj_solution (E0 : ℕ → ℕ → α) (n : ℕ) (hL : LeadingNonsing E0 n) :
    ∀ i < n, ∑ j ∈ range n, E0 i j * iterE E0 n j n = E0 i n := by
  obtain ⟨_, hunit, hsol⟩ := gj_invariant E0 n hL n le_rfl
  set E := iterE E0 n with hE
  let x : ℕ → α := fun j => if j < n then E j n else -1
  have hx : ∀ i < n, rowdot E n i x = 0 := by
    intro i hi
    unfold rowdot
    rw [Finset.sum_range_succ]
    have : ∀ j ∈ range n, E i j * x j = if i = j then E i n else 0 := by
      intro j hj
      have hjn := mem_range.mp hj
      simp only [x, if_pos hjn, hunit i hi j hjn]
      by_cases hij : i = j
      · subst hij; simp
      · simp [hij]
    rw [Finset.sum_congr rfl this, Finset.sum_ite_eq, if_pos (mem_range.mpr hi)]
    simp [x]
  have h0 := (hsol n le_rfl le_rfl x).mp hx
  intro i hi
  have := h0 i hi
  unfold rowdot at this
  rw [Finset.sum_range_succ] at this
  have e : ∀ j ∈ range n, E0 i j * x j = E0 i j * E j n := fun j hj => by
    simp only [x, if_pos (mem_range.mp hj)]
  rw [Finset.sum_congr rfl e] at this
  simp only [x, lt_irrefl, if_false] at this
  linear_combination this

end Invariant

section Polyfit
open Polynomial
variable {α : Type} [Field α]

theorem solve_getD (m : List (List α)) (n : ℕ) (h : Rect m n (n + 1)) :
    (solve m n).length = n ∧ ∀ i < n, (solve m n).getD i 0 = iterE (ent m) n i n := by
  obtain ⟨hr, he⟩ := foldl_eliminate m n (n + 1) n h le_rfl (by omega)
  unfold solve
  refine ⟨by simp [hr.1], fun i hi => ?_⟩
  rw [← he i hi n (by omega)]
  have hi' : i < ((List.range n).foldl eliminate m).length := by rw [hr.1]; exact hi
  simp [ent, List.getD_eq_getElem?_getD, List.getElem?_map, List.getElem?_eq_getElem hi']

/-- **totality + correctness of the unpivoted solver**: on an `n × (n+1)` augmented system whose leading principal blocks are
all non-singular, `solve` returns `n` numbers `s` with `Σ_j A[i][j] s_j = b_i` for every row. -/
theorem solve_correct (m : List (List α)) (n : ℕ) (h : Rect m n (n + 1)) (hL : LeadingNonsing (ent m) n) :
    (solve m n).length = n ∧
      ∀ i < n, ∑ j ∈ range n, ent m i j * (solve m n).getD j 0 = ent m i n := by
  obtain ⟨hlen, hs⟩ := solve_getD m n h
  refine ⟨hlen, fun i hi => ?_⟩
  rw [← gj_solution (ent m) n hL i hi]
  exact Finset.sum_congr rfl fun j hj => by rw [hs j (mem_range.mp hj)]

theorem normalAug_rect (xs ys : List α) (deg : ℕ) : Rect (normalAug xs ys deg) (deg + 1) (deg + 1 + 1) := by
  refine ⟨by simp [normalAug], fun row hrow => ?_⟩
  simp only [normalAug, List.mem_map] at hrow
  obtain ⟨j, _, rfl⟩ := hrow
  simp

theorem normalAug_ent_coeff (xs ys : List α) (deg i j : ℕ) (hi : i < deg + 1) (hj : j < deg + 1) :
    ent (normalAug xs ys deg) i j = (xs.map (· ^ (i + j))).sum := by
  simp only [ent, normalAug, List.getD_eq_getElem?_getD, List.getElem?_map, List.getElem?_range hi, Option.map_some,
    Option.getD_some]
  rw [List.getElem?_append_left (by simpa using hj)]
  simp only [List.getElem?_map, List.getElem?_range hj, Option.map_some, Option.getD_some, sumL_eq_sum, powN_eq]

theorem normalAug_ent_rhs (xs ys : List α) (deg i : ℕ) (hi : i < deg + 1) :
    ent (normalAug xs ys deg) i (deg + 1) = ((xs.zip ys).map fun q => q.1 ^ i * q.2).sum := by
  simp only [ent, normalAug, List.getD_eq_getElem?_getD, List.getElem?_map, List.getElem?_range hi, Option.map_some,
    Option.getD_some]
  rw [List.getElem?_append_right (by simp)]
  simp [sumL_eq_sum, zipWith_eq_map_zip, powN_eq]

/-- Horner on the reversed list: lowest power first -/
theorem polyval_reverse (s : List α) (t : α) : polyval s.reverse t = ∑ i ∈ range s.length, s.getD i 0 * t ^ i := by
  induction s with
  | nil => simp [polyval_nil]
  | cons c cs ih =>
    rw [List.reverse_cons, polyval_append, ih, List.length_cons, Finset.sum_range_succ', Finset.sum_mul]
    simp only [List.getD_cons_succ, List.getD_cons_zero, pow_zero, mul_one]
    congr 1
    exact Finset.sum_congr rfl fun i _ => by ring

/-- arrays of different lengths: numpy's TypeError, `none` in the model -/
theorem polyfit_none_of_length_ne [BEq α] (xs ys : List α) (deg : ℕ) (h : xs.length ≠ ys.length) :
    polyfit xs ys deg = none := by
  unfold polyfit
  rw [if_pos (by simpa using h)]

variable [LinearOrder α] [IsStrictOrderedRing α]

/-- `AᵀA` of the polynomial design with at least `deg + 1` distinct abscissae is positive definite, so all its leading principal
blocks are non-singular: the unpivoted elimination never meets a zero pivot on it -/
theorem normalAug_leadingNonsing (xs ys : List α) (deg : ℕ) (hdist : deg + 1 ≤ xs.toFinset.card) :
    LeadingNonsing (ent (normalAug xs ys deg)) (deg + 1) := by
  intro k hk x hsupp hrows
  -- `P = Σ_{j ≤ k} x_j X^j`; row `i ≤ k` of the system against `x` is the `i`-th moment `Σ_r t_r^i P(t_r)`
  set P : α[X] := ∑ j ∈ range (k + 1), C (x j) * X ^ j with hP
  have hdeg : P.natDegree < k + 1 :=
    Nat.lt_succ_of_le (natDegree_sum_le_of_forall_le _ _ fun j hj =>
      (natDegree_C_mul_X_pow_le _ _).trans (Nat.le_of_lt_succ (mem_range.mp hj)))
  have hm : ∀ i < k + 1, (xs.map fun t => t ^ i * P.eval t).sum = 0 := by
    intro i hi
    have hrow := hrows i (Nat.le_of_lt_succ hi)
    unfold rowdot at hrow
    rw [← Finset.sum_subset (range_subset_range.mpr (by omega : k + 1 ≤ deg + 1 + 1))
      (fun j _ hj => by rw [hsupp j (by simpa using hj), mul_zero])] at hrow
    rw [← hrow]
    simp only [hP, eval_finsetSum, eval_mul, eval_C, eval_pow, eval_X, Finset.mul_sum]
    rw [Cij.Interp.list_sum_finset_sum]
    refine Finset.sum_congr rfl fun j hj => ?_
    rw [normalAug_ent_coeff xs ys deg i j (by omega) (by have := mem_range.mp hj; omega), ← List.sum_map_mul_right]
    congr 1
    exact List.map_congr_left fun t _ => by rw [pow_add]; ring
  have hP0 := Cij.Interp.eq_zero_of_moments_eq_zero xs P (k + 1) hdeg (by omega) hm
  intro j
  rcases Nat.lt_or_ge k j with hj | hj
  · exact hsupp j hj
  · have := congrArg (fun Q => Q.coeff j) hP0
    simpa [hP, finsetSum_coeff, coeff_C_mul_X_pow, Nat.lt_succ_of_le hj] using this

omit [IsStrictOrderedRing α] in
theorem card_map_affine (xs : List α) (a b : α) (ha : a ≠ 0) :
    (xs.map fun x => a * x + b).toFinset.card = xs.toFinset.card := by
  have : (xs.map fun x => a * x + b).toFinset = xs.toFinset.image fun x => a * x + b :=
    Multiset.toFinset_map _ (xs : Multiset α)
  rw [this]
  exact Finset.card_image_of_injective _ fun x y h => mul_left_cancel₀ ha (add_right_cancel h)

/-- **totality of `polyfit`** (the model of `numpy.polyfit` used by the static fit): for ANY data on abscissae with at least
`deg + 1` distinct values (and as many ordinates as abscissae) the unpivoted elimination completes without a zero pivot and
its answer passes the certificate — `polyfit` answers. -/
theorem polyfit_total (xs ys : List α) (deg : ℕ) (hl : xs.length = ys.length) (hdist : deg + 1 ≤ xs.toFinset.card) :
    ∃ p, polyfit xs ys deg = some p := by
  obtain ⟨hlen, hsol⟩ := solve_correct (normalAug xs ys deg) (deg + 1) (normalAug_rect xs ys deg)
    (normalAug_leadingNonsing xs ys deg hdist)
  set s := solve (normalAug xs ys deg) (deg + 1) with hs
  have hcert : normalEqHolds xs ys deg s.reverse = true := by
    unfold normalEqHolds
    simp only [Bool.and_eq_true, beq_iff_eq, List.all_eq_true, List.mem_range, List.length_reverse]
    refine ⟨hlen, fun j hj => ?_⟩
    unfold normalResidual
    rw [sumL_eq_sum, zipWith_eq_map_zip]
    simp only [powN_eq, polyval_reverse, hlen]
    have hrow := hsol j hj
    rw [normalAug_ent_rhs xs ys deg j hj] at hrow
    have e : ∀ i ∈ range (deg + 1), ent (normalAug xs ys deg) j i * s.getD i 0
        = ((xs.zip ys).map fun q => q.1 ^ j * (s.getD i 0 * q.1 ^ i)).sum := by
      intro i hi
      rw [normalAug_ent_coeff xs ys deg j i hj (mem_range.mp hi)]
      rw [Cij.Interp.map_zip_fst (fun t => t ^ j * (s.getD i 0 * t ^ i)) xs ys hl.le, ← List.sum_map_mul_right]
      congr 1
      refine List.map_congr_left fun t _ => ?_
      rw [pow_add]; ring
    rw [Finset.sum_congr rfl e, ← Cij.Interp.list_sum_finset_sum] at hrow
    have hfin : ((xs.zip ys).map fun q => q.1 ^ j * (∑ i ∈ range (deg + 1), s.getD i 0 * q.1 ^ i - q.2)).sum
        = ((xs.zip ys).map fun q => ∑ i ∈ range (deg + 1), q.1 ^ j * (s.getD i 0 * q.1 ^ i)).sum
          - ((xs.zip ys).map fun q => q.1 ^ j * q.2).sum := by
      have e' : (fun q : α × α => q.1 ^ j * (∑ i ∈ range (deg + 1), s.getD i 0 * q.1 ^ i - q.2))
          = fun q => (∑ i ∈ range (deg + 1), q.1 ^ j * (s.getD i 0 * q.1 ^ i)) + (-1) * (q.1 ^ j * q.2) := by
        funext q
        rw [mul_sub, Finset.mul_sum]; ring
      rw [e', List.sum_map_add, List.sum_map_mul_left]
      ring
    rw [hfin, hrow, sub_self]
  refine ⟨s.reverse, ?_⟩
  unfold polyfit
  have : (xs.length != ys.length) = false := by simp [hl]
  simp only [this, Bool.false_eq_true, if_false, ← hs, hcert, if_true]

end Polyfit

end Cij.LeastSq
