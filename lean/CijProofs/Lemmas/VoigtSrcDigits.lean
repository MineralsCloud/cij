/-
  One-argument spellings `c_(n)`, `c_("…")`, `e_(n)`, `e_("…")` of the translated source, for a symbolic integer or digit string:
  `str(n)` (the evaluator's `natCodes`), the generator expression `int(k) for k in <str>` over a string of symbolic length
  (`genLoop`, by induction on the string, the fuel counted), and what `create` does with the digits by their number — in the two
  places (`digitCtx`) where it receives them: two calls down from `c_("…")`, three from `c_(n)`.
-/
import CijProofs.Lemmas.VoigtSrcSort

namespace Cij.VoigtSrc
open PyLite

/-! ### `str(n)`: decimal digits -/

/-- the decimal digits of `n` as code points, most significant first (specification of `natCodes`) -/
def digs (n : Nat) : List Nat := if n < 10 then [48 + n] else digs (n / 10) ++ [48 + n % 10]
decreasing_by omega

theorem natCodesAux_eq : ∀ (f n : Nat) (acc : List Nat), n < f → natCodesAux f n acc = digs n ++ acc := by
  intro f
  induction f with
  | zero => intro n acc h; omega
  | succ f ih =>
    intro n acc h
    rw [digs]
    by_cases h10 : n < 10
    · simp [natCodesAux, h10]
    · simp only [natCodesAux, h10, if_false]
      rw [ih (n / 10) _ (by omega)]
      simp

theorem natCodes_eq (n : Nat) : natCodes n = digs n := by
  unfold natCodes; rw [natCodesAux_eq _ _ _ (by omega)]; simp

theorem digs_lt10 {n : Nat} (h : n < 10) : digs n = [48 + n] := by rw [digs, if_pos h]
theorem digs_ge10 {n : Nat} (h : 10 ≤ n) : digs n = digs (n / 10) ++ [48 + n % 10] := by rw [digs, if_neg (by omega)]

def isDigitCode (c : Nat) : Prop := 48 ≤ c ∧ c ≤ 57

theorem isDigitCode.cases {c : Nat} (h : isDigitCode c) :
    c = 48 ∨ c = 49 ∨ c = 50 ∨ c = 51 ∨ c = 52 ∨ c = 53 ∨ c = 54 ∨ c = 55 ∨ c = 56 ∨ c = 57 := by
  unfold isDigitCode at h; omega

theorem digs_digits (n : Nat) : ∀ c ∈ digs n, isDigitCode c := by
  induction n using Nat.strongRecOn with
  | _ n ih =>
    by_cases h : n < 10
    · rw [digs_lt10 h]; intro c hc; simp at hc; subst hc; unfold isDigitCode; omega
    · rw [digs_ge10 (by omega)]
      intro c hc
      rcases List.mem_append.mp hc with hc | hc
      · exact ih (n / 10) (by omega) c hc
      · simp at hc; subst hc; unfold isDigitCode; omega

theorem digs_two {n : Nat} (h1 : 10 ≤ n) (h2 : n < 100) : digs n = [48 + n / 10, 48 + n % 10] := by
  rw [digs_ge10 h1, digs_lt10 (by omega)]; rfl
theorem digs_three {n : Nat} (h1 : 100 ≤ n) (h2 : n < 1000) : digs n = [48 + n / 100, 48 + n / 10 % 10, 48 + n % 10] := by
  rw [digs_ge10 (by omega), digs_two (by omega) (by omega)]
  simp; omega
theorem digs_four {n : Nat} (h1 : 1000 ≤ n) (h2 : n < 10000) :
    digs n = [48 + n / 1000, 48 + n / 100 % 10, 48 + n / 10 % 10, 48 + n % 10] := by
  rw [digs_ge10 (by omega), digs_three (by omega) (by omega)]
  simp; omega

theorem digs_length_le (k : Nat) : ∀ n, n < 10 ^ (k + 1) → (digs n).length ≤ k + 1 := by
  induction k with
  | zero => intro n h; rw [digs_lt10 (by simpa using h)]; simp
  | succ k ih =>
    intro n h
    by_cases h10 : n < 10
    · rw [digs_lt10 h10]; simp
    · rw [digs_ge10 (by omega)]
      have : n / 10 < 10 ^ (k + 1) := by
        rw [Nat.div_lt_iff_lt_mul (by decide)]; rw [Nat.pow_succ] at h; exact h
      have := ih (n / 10) this
      simp; omega

theorem digs_ge3 {n : Nat} (h : 100 ≤ n) : ∃ a b c r, digs n = a :: b :: c :: r := by
  induction n using Nat.strongRecOn with
  | _ n ih =>
    by_cases h3 : n < 1000
    · exact ⟨_, _, _, [], digs_three h h3⟩
    · obtain ⟨a, b, c, r, e⟩ := ih (n / 10) (by omega) (by omega)
      exact ⟨a, b, c, r ++ [48 + n % 10], by rw [digs_ge10 (by omega), e]; rfl⟩

theorem digs_ge5 {n : Nat} (h : 10000 ≤ n) : ∃ a b c d e r, digs n = a :: b :: c :: d :: e :: r := by
  induction n using Nat.strongRecOn with
  | _ n ih =>
    by_cases h3 : n < 100000
    · refine ⟨48 + n / 10000, 48 + n / 1000 % 10, 48 + n / 100 % 10, 48 + n / 10 % 10, 48 + n % 10, [], ?_⟩
      rw [digs_ge10 (by omega), digs_four (by omega) (by omega)]
      simp; omega
    · obtain ⟨a, b, c, d, e, r, q⟩ := ih (n / 10) (by omega) (by omega)
      exact ⟨a, b, c, d, e, r ++ [48 + n % 10], by rw [digs_ge10 (by omega), q]; rfl⟩

/-- the largest integers the statements about `c_(n)` / `e_(n)` cover: up to 1900 digits (the evaluator's fuel: see `e1_digits`) -/
def intBound : Nat := 10 ^ 1900

set_option exponentiation.threshold 2000 in
theorem digs_length_bound {n : Nat} (h : n < intBound) : (digs n).length ≤ 1900 := digs_length_le 1899 n h
set_option exponentiation.threshold 2000 in
theorem lt_intBound {n : Nat} (h : n < 10 ^ 18) : n < intBound :=
  Nat.lt_of_lt_of_le h (Nat.pow_le_pow_right (by decide) (by decide) : 10 ^ 18 ≤ 10 ^ (1900 : Nat))

/-! ### `int(k) for k in <digit string>` -/

def digitInt (c : Nat) : Val := .int (Int.ofNat (c - 48))

theorem digitInt_code (a : Nat) : digitInt (48 + a) = .int (Int.ofNat a) := by
  unfold digitInt; rw [Nat.add_sub_cancel_left]

theorem intOfStr_digit {c : Nat} (h : isDigitCode c) : intOfStr [c] = .ok (Int.ofNat (c - 48)) := by
  rcases h.cases with rfl | rfl | rfl | rfl | rfl | rfl | rfl | rfl | rfl | rfl <;> rfl

theorem genLoop_nil (f d : Nat) (env : Env) (elt : Expr) (t : Target) :
    genLoop src 60 genv0 (f + 1) d env elt t [] = .ok [] := rfl
theorem genLoop_cons (f d : Nat) (env : Env) (elt : Expr) (t : Target) (v : Val) (vs : List Val) :
    genLoop src 60 genv0 (f + 1) d env elt t (v :: vs) =
      (bindTarget t v env).bind fun env' => (evalExpr src 60 genv0 f d env' elt).bind fun w =>
        (genLoop src 60 genv0 f d env elt t vs).bind fun rest => .ok (w :: rest) := rfl

/-- the generator expression over a digit string yields the digits as ints, provided the element expression is `int(<target>)`
in this environment (hypothesis `H`, discharged by kernel evaluation for each of the two `create` functions) and the fuel covers
the length of the string (one unit per character) -/
theorem genLoop_digits (d : Nat) (env : Env) (elt : Expr) (x : String)
    (H : ∀ g c, evalExpr src 60 genv0 (g + 4) d ((x, .str [c]) :: env) elt = (intOfStr [c]).bind fun n => .ok (.int n)) :
    ∀ (cs : List Nat) (f : Nat), (∀ c ∈ cs, isDigitCode c) → cs.length + 5 ≤ f →
      genLoop src 60 genv0 f d env elt (.name x) (cs.map fun c => .str [c]) = .ok (cs.map digitInt) := by
  intro cs
  induction cs with
  | nil => intro f _ hf; obtain ⟨f', rfl⟩ : ∃ f', f = f' + 1 := ⟨f - 1, by omega⟩; rfl
  | cons c cs ih =>
    intro f hd hf
    obtain ⟨g, rfl⟩ : ∃ g, f = g + 4 + 1 := ⟨f - 5, by simp at hf; omega⟩
    rw [List.map_cons, genLoop_cons]
    show (Result.ok ((x, Val.str [c]) :: env)).bind _ = _
    show (evalExpr src 60 genv0 (g + 4) d ((x, .str [c]) :: env) elt).bind _ = _
    rw [H g c, intOfStr_digit (hd c (by simp)), ih (g + 4) (fun c' hc' => hd c' (by simp [hc'])) (by simp at hf; omega)]
    rfl

def frGen (x : Result (List Val)) : Result Val := do let xs ← x; pure (.gen xs)

def dig10 : List Nat := [0, 1, 2, 3, 4, 5, 6, 7, 8, 9]


/-! ### `StrainRepresentation.create` -/

def fdCE : FunDef := funOf "StrainRepresentation" "create"
def envCE (iv jv : Val) : Env := [("cls", SRc), ("i", iv), ("j", jv)]
theorem ce_params1 (v : Val) : bindParams fdCE.params fdCE.vararg [SRc, v] = .ok (envCE v .none) := by kernel_rfl
theorem ce_params2 (v w : Val) : bindParams fdCE.params fdCE.vararg [SRc, v, w] = .ok (envCE v w) := by kernel_rfl
theorem ce_params3 (a b c : Val) (r : List Val) :
    bindParams fdCE.params fdCE.vararg (SRc :: a :: b :: c :: r) = .exc "TypeError" [] := by kernel_rfl

/-- the generator expression `int(k) for k in i` of the `str` branch -/
def ceGen : Expr := match fdCE.body with
  | [.ifElse _ _ [.ifElse _ _ [.ifElse _ [.ret (some (.call _ [.starred g] _))] _]]] => g
  | _ => .const .none
def ceElt : Expr := match ceGen with | .genexp e _ _ => e | _ => .const .none
def ceVar : String := match ceGen with | .genexp _ (.name x) _ => x | _ => ""
def ceFn : Val := .classmeth "StrainRepresentation" "create"

theorem ce_elt (d : Nat) (s : List Nat) (g c : Nat) :
    evalExpr src 60 genv0 (g + 4) d ((ceVar, .str [c]) :: envCE (.str s) .none) ceElt = (intOfStr [c]).bind fun n => .ok (.int n) := by
  kernel_rfl

def bodyCE (F d : Nat) (iv jv : Val) : Result Flow := execStmts src 60 genv0 F d (envCE iv jv) fdCE.body

set_option maxHeartbeats 4000 in
theorem ce_str_spine (m d : Nat) (s : List Nat) : bodyCE (m + 12) d (.str s) .none =
    frIf (recAt (m + 11)) d [] (frIf (recAt (m + 10)) d [] (frIf (recAt (m + 9)) d [] (frRet
      (frArgs (recAt (m + 7)) d (envCE (.str s) .none) [] ceFn (frStar (recAt (m + 6)) d (envCE (.str s) .none) []
        (frGen (genLoop src 60 genv0 (m + 5) d (envCE (.str s) .none) ceElt (.name ceVar) (s.map fun c => .str [c])))))))) := by
  kernel_rfl

set_option maxHeartbeats 4000 in
theorem ce_after_gen (m d : Nat) (env : Env) (xs : List Val) :
    frArgs (recAt (m + 7)) d env [] ceFn (frStar (recAt (m + 6)) d env [] (frGen (.ok xs))) =
      callFun src 60 genv0 (m + 6) d fdCE SRc (xs ++ []) := by kernel_rfl

theorem frFun_frIf3 (r1 r2 r3 : Rec) (d : Nat) (x : Result Val) :
    frFun (frIf r1 d [] (frIf r2 d [] (frIf r3 d [] (frRet x)))) = x := by cases x <;> rfl
theorem frFun_frIf1 (r1 : Rec) (d : Nat) (x : Result Val) : frFun (frIf r1 d [] (frRet x)) = x := by cases x <;> rfl
theorem frFun_frIf2 (r1 r2 : Rec) (d : Nat) (x : Result Val) : frFun (frIf r1 d [] (frIf r2 d [] (frRet x))) = x := by
  cases x <;> rfl

/-- `E_.create(<digit string>)` = `E_.create(*digits)`, one call deeper -/
theorem createE_str (m d : Nat) (hd : d < 60) (s : List Nat) (hs : ∀ c ∈ s, isDigitCode c) (hl : s.length ≤ m) :
    callFun src 60 genv0 (m + 13) d fdCE SRc [.str s] = callFun src 60 genv0 (m + 6) (d + 1) fdCE SRc (s.map digitInt) := by
  rw [callFun_enter (m + 12) d fdCE SRc _ hd, ce_params1]
  show frFun (bodyCE (m + 12) (d + 1) (.str s) .none) = _
  rw [ce_str_spine, frFun_frIf3,
    genLoop_digits (d + 1) (envCE (.str s) .none) ceElt ceVar (ce_elt (d + 1) s) s (m + 5) hs (by omega),
    ce_after_gen, List.append_nil]

set_option maxHeartbeats 4000 in
/-- `E_.create(a, b)` = `E_.from_standard(a, b)` -/
theorem ce_two_spine (m d : Nat) (a b : Int) : bodyCE (m + 45) d (.int a) (.int b) =
    frIf (recAt (m + 44)) d [] (frRet (callFS (m + 41) d a b)) := by kernel_rfl

theorem createE_two (m d : Nat) (hd : d < 60) (a b : Int) :
    callFun src 60 genv0 (m + 46) d fdCE SRc [.int a, .int b] = callFS (m + 41) (d + 1) a b := by
  rw [callFun_enter (m + 45) d fdCE SRc _ hd, ce_params2]
  show frFun (bodyCE (m + 45) (d + 1) (.int a) (.int b)) = _
  rw [ce_two_spine, frFun_frIf1]

theorem createE_many (m d : Nat) (hd : d < 60) (a b c : Val) (r : List Val) :
    callFun src 60 genv0 (m + 1) d fdCE SRc (a :: b :: c :: r) = .exc "TypeError" [] := by
  rw [callFun_enter m d fdCE SRc _ hd, ce_params3]; rfl

/-- the frames of `_` → `create` → `elif type(i) == int` → `else` (i ≥ 10) → `return cls.create(str(i))` -/
def wrapE1 (x : Result Val) : Result Val :=
  frFun (frRet (frFun (frIf (recAt 1994) 2 [] (frIf (recAt 1993) 2 [] (frIf (recAt 1992) 2 [] (frRet x))))))
theorem wrapE1_id (x : Result Val) : wrapE1 x = x := by cases x <;> rfl

set_option maxHeartbeats 20000 in
theorem e1_spine (k : Nat) : srcCall "e_" [.int (Int.ofNat (k + 10))] =
    wrapE1 (callFun src 60 genv0 1989 2 fdCE SRc [.str (natCodes (k + 10))]) := by kernel_rfl

/-- one digit handed to `create` from `e_("…")`: the Voigt index -/
theorem createE_one_digit : (dig10.all fun a =>
    agreeWith valToStrain (callFun src 60 genv0 1989 2 fdCE SRc [digitInt (48 + a)]) (Strain.fromVoigt (Int.ofNat a))) = true := by
  kernel_rfl


/-! ### `ModulusRepresentation.create` -/

def fdCC : FunDef := funOf "ModulusRepresentation" "create"
def envCC (args : List Val) : Env := [("cls", MRc), ("args", .tuple args)]
theorem cc_params (args : List Val) : bindParams fdCC.params fdCC.vararg (MRc :: args) = .ok (envCC args) := by kernel_rfl

def ccGen : Expr := match fdCC.body with
  | [.ifElse _ _ [.ifElse _ _ [.ifElse _ [.ret (some (.call _ [.starred g] _))] _]]] => g
  | _ => .const .none
def ccElt : Expr := match ccGen with | .genexp e _ _ => e | _ => .const .none
def ccVar : String := match ccGen with | .genexp _ (.name x) _ => x | _ => ""
def ccFn : Val := .classmeth "ModulusRepresentation" "create"

theorem cc_elt (d : Nat) (s : List Nat) (g c : Nat) :
    evalExpr src 60 genv0 (g + 4) d ((ccVar, .str [c]) :: envCC [.str s]) ccElt = (intOfStr [c]).bind fun n => .ok (.int n) := by
  kernel_rfl

def bodyCC (F d : Nat) (args : List Val) : Result Flow := execStmts src 60 genv0 F d (envCC args) fdCC.body

set_option maxHeartbeats 4000 in
theorem cc_str_spine (m d : Nat) (s : List Nat) : bodyCC (m + 12) d [.str s] =
    frIf (recAt (m + 11)) d [] (frIf (recAt (m + 10)) d [] (frIf (recAt (m + 9)) d [] (frRet
      (frArgs (recAt (m + 7)) d (envCC [.str s]) [] ccFn (frStar (recAt (m + 6)) d (envCC [.str s]) []
        (frGen (genLoop src 60 genv0 (m + 5) d (envCC [.str s]) ccElt (.name ccVar) (s.map fun c => .str [c])))))))) := by
  kernel_rfl

set_option maxHeartbeats 4000 in
theorem cc_after_gen (m d : Nat) (env : Env) (xs : List Val) :
    frArgs (recAt (m + 7)) d env [] ccFn (frStar (recAt (m + 6)) d env [] (frGen (.ok xs))) =
      callFun src 60 genv0 (m + 6) d fdCC MRc (xs ++ []) := by kernel_rfl

set_option maxHeartbeats 4000 in
theorem cc_int_spine (m d : Nat) (n : Int) : bodyCC (m + 20) d [.int n] =
    frIf (recAt (m + 19)) d [] (frIf (recAt (m + 18)) d [] (frIf (recAt (m + 17)) d [] (frIf (recAt (m + 16)) d [] (frRet
      (callFun src 60 genv0 (m + 13) d fdCC MRc [.str (intCodes n)]))))) := by kernel_rfl

set_option maxHeartbeats 4000 in
theorem cc_four_spine (m d : Nat) (a b c e : Int) : bodyCC (m + 65) d [.int a, .int b, .int c, .int e] =
    frIf (recAt (m + 64)) d [] (frRet (callC4 (m + 61) d a b c e)) := by kernel_rfl

/-! five or more arguments: the final `else: raise RuntimeError(f"… {args}")`, whose message formats a tuple of symbolic length -/

def frRaise (x : Result Val) : Result Flow := do let v ← x; raiseVal v
def frFStr (x : Result (List Str)) : Result Val := do let ss ← x; pure (.str ss.flatten)
def frFConst (s : String) (x : Result (List Str)) : Result (List Str) := do let rs ← x; pure (codes s :: rs)
def frFStrOf (r : Rec) (d : Nat) (env : Env) (ps : List Expr) (x : Result Str) : Result (List Str) := do
  let s ← x
  let rs ← r.fparts d env ps
  pure (s :: rs)

/-- the literal part of the message of the final `raise` -/
def ccMsg : String := match fdCC.body with
  | [.ifElse _ _ [.ifElse _ _ [.ifElse _ _ [.ifElse _ _ [.raise (.call _ [.fstring (.const (.str s) :: _)] _)]]]]] => s
  | _ => ""

def ccRaise (m d : Nat) (vs : List Val) (x : Result Str) : Result Flow :=
  frIf (recAt (m + 19)) d [] (frIf (recAt (m + 18)) d [] (frIf (recAt (m + 17)) d [] (frIf (recAt (m + 16)) d [] (frRaise
    (frArgs (recAt (m + 14)) d (envCC vs) [] (.builtin "RuntimeError") (frHead (recAt (m + 13)) d (envCC vs) []
      (frFStr (frFConst ccMsg (frFStrOf (recAt (m + 10)) d (envCC vs) [] x)))))))))

set_option maxHeartbeats 4000 in
theorem cc_many_spine (m d : Nat) (v0 v1 v2 v3 v4 : Val) (r : List Val) :
    bodyCC (m + 20) d (v0 :: v1 :: v2 :: v3 :: v4 :: r) =
      ccRaise m d (v0 :: v1 :: v2 :: v3 :: v4 :: r) (strOf (.tuple (v0 :: v1 :: v2 :: v3 :: v4 :: r))) := by kernel_rfl

theorem cc_raise_kind (m d : Nat) (vs : List Val) (str : Str) : excK (frFun (ccRaise m d vs (.ok str))) = RTE := by kernel_rfl

theorem reprAll_digitInts (cs : List Nat) : reprAll (cs.map digitInt) = .ok (cs.map fun c => intCodes (Int.ofNat (c - 48))) := by
  induction cs with
  | nil => rfl
  | cons c cs ih => simp only [List.map_cons, digitInt, reprAll, reprOf, bind, Result.bind, pure] at ih ⊢; rw [ih]

theorem strOf_digit_tuple (a b : Nat) (cs : List Nat) : ∃ str, strOf (.tuple ((a :: b :: cs).map digitInt)) = .ok str := by
  have h := reprAll_digitInts (a :: b :: cs)
  simp only [List.map_cons] at h
  refine ⟨40 :: joinCodes [44, 32] ((a :: b :: cs).map fun c => intCodes (Int.ofNat (c - 48))) ++ [41], ?_⟩
  simp only [List.map_cons, strOf, reprOf, h, bind, Result.bind, pure]

theorem frFun_frIf4 (r1 r2 r3 r4 : Rec) (d : Nat) (x : Result Val) :
    frFun (frIf r1 d [] (frIf r2 d [] (frIf r3 d [] (frIf r4 d [] (frRet x))))) = x := by cases x <;> rfl

/-- `C_.create(<digit string>)` = `C_.create(*digits)`, one call deeper -/
theorem createC_str (m d : Nat) (hd : d < 60) (s : List Nat) (hs : ∀ c ∈ s, isDigitCode c) (hl : s.length ≤ m) :
    callFun src 60 genv0 (m + 13) d fdCC MRc [.str s] = callFun src 60 genv0 (m + 6) (d + 1) fdCC MRc (s.map digitInt) := by
  rw [callFun_enter (m + 12) d fdCC MRc _ hd, cc_params]
  show frFun (bodyCC (m + 12) (d + 1) [.str s]) = _
  rw [cc_str_spine, frFun_frIf3,
    genLoop_digits (d + 1) (envCC [.str s]) ccElt ccVar (cc_elt (d + 1) s) s (m + 5) hs (by omega),
    cc_after_gen, List.append_nil]

/-- `C_.create(n)` = `C_.create(str(n))`, one call deeper -/
theorem createC_int (m d : Nat) (hd : d < 60) (n : Int) :
    callFun src 60 genv0 (m + 21) d fdCC MRc [.int n] = callFun src 60 genv0 (m + 13) (d + 1) fdCC MRc [.str (intCodes n)] := by
  rw [callFun_enter (m + 20) d fdCC MRc _ hd, cc_params]
  show frFun (bodyCC (m + 20) (d + 1) [.int n]) = _
  rw [cc_int_spine, frFun_frIf4]

/-- `C_.create(a, b, c, e)` = `C_.from_standard(a, b, c, e)` -/
theorem createC_four (m d : Nat) (hd : d < 60) (a b c e : Int) :
    callFun src 60 genv0 (m + 66) d fdCC MRc [.int a, .int b, .int c, .int e] = callC4 (m + 61) (d + 1) a b c e := by
  rw [callFun_enter (m + 65) d fdCC MRc _ hd, cc_params]
  show frFun (bodyCC (m + 65) (d + 1) _) = _
  rw [cc_four_spine, frFun_frIf1]

/-- five or more digits: "Invalid modulus representation" -/
theorem createC_many (m d : Nat) (hd : d < 60) (a0 a1 a2 a3 a4 : Nat) (r : List Nat) :
    excK (callFun src 60 genv0 (m + 21) d fdCC MRc ((a0 :: a1 :: a2 :: a3 :: a4 :: r).map digitInt)) = RTE := by
  rw [callFun_enter (m + 20) d fdCC MRc _ hd, cc_params]
  show excK (frFun (bodyCC (m + 20) (d + 1) (digitInt a0 :: digitInt a1 :: digitInt a2 :: digitInt a3 :: digitInt a4 :: r.map digitInt))) = _
  rw [cc_many_spine]
  obtain ⟨str, hstr⟩ := strOf_digit_tuple a0 a1 (a2 :: a3 :: a4 :: r)
  simp only [List.map_cons] at hstr
  rw [hstr]
  exact cc_raise_kind m (d + 1) _ str

/-! the public spellings `c_(…)`, `e_(…)`: `_` passes its arguments on to `create` -/

set_option maxHeartbeats 20000 in
theorem top_spine (args : List Val) :
    srcCall "c_" args = frFun (frRet (callFun src 60 genv0 1996 1 fdCC MRc (args ++ []))) ∧
    srcCall "e_" args = frFun (frRet (callFun src 60 genv0 1996 1 fdCE SRc (args ++ []))) := by
  constructor <;> kernel_rfl

theorem c_top (args : List Val) : srcCall "c_" args = callFun src 60 genv0 1996 1 fdCC MRc args := by
  rw [(top_spine args).1, frFun_frRet, List.append_nil]

theorem e_top (args : List Val) : srcCall "e_" args = callFun src 60 genv0 1996 1 fdCE SRc args := by
  rw [(top_spine args).2, frFun_frRet, List.append_nil]

/-- `c_(n)` for a natural number = `C_.create(*digits of n)` three calls down -/
theorem c1_digits (n : Nat) (hn : n < intBound) :
    srcCall "c_" [.int (Int.ofNat n)] = callFun src 60 genv0 1981 3 fdCC MRc ((digs n).map digitInt) := by
  rw [c_top, createC_int 1975 1 (by omega), createC_str 1975 2 (by omega) _ _ _]
  · show callFun src 60 genv0 1981 3 fdCC MRc ((natCodes n).map digitInt) = _
    rw [natCodes_eq]
  · show ∀ c ∈ natCodes n, isDigitCode c
    rw [natCodes_eq]; exact digs_digits n
  · show (natCodes n).length ≤ 1975
    rw [natCodes_eq]; have := digs_length_bound hn; omega

/-- `c_("…")` for a string of digits = `C_.create(*digits)` two calls down -/
theorem cstr_digits (cs : List Nat) (hcs : ∀ c ∈ cs, isDigitCode c) (hl : cs.length ≤ 1983) :
    srcCall "c_" [.str cs] = callFun src 60 genv0 1989 2 fdCC MRc (cs.map digitInt) := by
  rw [c_top, createC_str 1983 1 (by omega) cs hcs hl]

/-- negative integers: `str(n)` starts with `-`, and `int('-')` raises ValueError -/
theorem c1_neg (a : Nat) : excKind (srcCall "c_" [.int (Int.negSucc a)]) = some "ValueError" := by kernel_rfl

/-- the two places where `C_.create` receives a digit list, as (fuel, call depth): from `c_("…")` and from `c_(n)` -/
def digitCtx : List (Nat × Nat) := [(1989, 2), (1981, 3)]

theorem createC_two_digits : (digitCtx.all fun p => dig10.all fun a => dig10.all fun b =>
    agreeWith valToModulus (callFun src 60 genv0 p.1 p.2 fdCC MRc [digitInt (48 + a), digitInt (48 + b)])
      (Modulus.fromVoigt (Int.ofNat a) (Int.ofNat b))) = true := by kernel_rfl

theorem createC_three_digits (a b c : Nat) : (digitCtx.all fun p =>
    excK (callFun src 60 genv0 p.1 p.2 fdCC MRc [digitInt a, digitInt b, digitInt c]) == RTE) = true := by kernel_rfl

/-- one digit never returns: `create(a)` → `create(str(a))` → `create(a)` two frames deeper (15 units of fuel per round), until
the recursion limit -/
theorem createC_one_digit {a : Nat} (ha : a < 10) : ∀ (r m d : Nat), 60 ≤ d + 2 * r →
    excK (callFun src 60 genv0 (m + 15 * r + 21) d fdCC MRc [.int (Int.ofNat a)]) = some "RecursionError" := by
  intro r
  induction r with
  | zero => intro m d h; rw [callFun_overflow _ _ _ _ _ (by omega)]; rfl
  | succ r ih =>
    intro m d h
    by_cases hd : 60 ≤ d
    · rw [show m + 15 * (r + 1) + 21 = (m + 15 * (r + 1) + 20) + 1 by omega, callFun_overflow _ _ _ _ _ hd]; rfl
    · rw [show m + 15 * (r + 1) + 21 = (m + 15 * r + 15) + 21 by omega, createC_int _ d (by omega)]
      by_cases hd1 : 60 ≤ d + 1
      · rw [show m + 15 * r + 15 + 13 = (m + 15 * r + 27) + 1 by omega, callFun_overflow _ _ _ _ _ hd1]; rfl
      · have hc : intCodes (Int.ofNat a) = [48 + a] := by
          show natCodes a = [48 + a]
          rw [natCodes_eq, digs_lt10 ha]
        rw [hc, createC_str _ (d + 1) (by omega) [48 + a] (by intro c hc; simp at hc; subst hc; unfold isDigitCode; omega)
          (by simp)]
        simp only [List.map_cons, List.map_nil, digitInt_code]
        exact ih m (d + 2) (by omega)

/-! ### assembled: `e_(n)` and `c_(n)` for natural numbers `n < intBound`

The bound is the evaluator's: the generator expression consumes one unit of fuel per digit, and the budget `fuel.depth = 2000`
covers 1975 digits (beyond it the answer is `outOfFuel`, which is never an answer; CPython itself stops converting at 4300
digits: `str(n)` raises ValueError from 10 ^ 4300 on). -/

/-- `e_(n)`, n ≥ 10, = `E_.create(*digits of n)` at call depth 3 -/
theorem e1_digits (n : Nat) (h10 : 10 ≤ n) (hn : n < intBound) :
    srcCall "e_" [.int (Int.ofNat n)] = callFun src 60 genv0 1982 3 fdCE SRc ((digs n).map digitInt) := by
  obtain ⟨k, rfl⟩ : ∃ k, n = k + 10 := ⟨n - 10, by omega⟩
  rw [e1_spine, wrapE1_id, natCodes_eq, createE_str 1976 2 (by omega) _ (digs_digits _)]
  have := digs_length_bound hn; omega

/-- two digits: `e_(10 a + b)` is `E_.from_standard(a, b)` -/
theorem src_e1_two (n : Nat) (h1 : 10 ≤ n) (h2 : n < 100) :
    (¬in3 (Int.ofNat (n / 10)) (Int.ofNat (n % 10)) → excKind (srcCall "e_" [.int (Int.ofNat n)]) = some "RuntimeError") ∧
    (in3 (Int.ofNat (n / 10)) (Int.ofNat (n % 10)) → srcCall "e_" [.int (Int.ofNat n)] =
      .ok (Strain.toVal ⟨min (Int.ofNat (n / 10)) (Int.ofNat (n % 10)), max (Int.ofNat (n / 10)) (Int.ofNat (n % 10))⟩)) := by
  have hn : n < intBound := lt_intBound (by omega)
  rw [e1_digits n h1 hn, digs_two h1 h2]
  simp only [List.map_cons, List.map_nil, digitInt_code]
  rw [createE_two 1936 3 (by omega), excKind_eq_excK]
  exact callFS_spec 1936 4 (by omega) _ _

/-- three or more digits: `create` gets more than two positional arguments — TypeError -/
theorem src_e1_many (n : Nat) (h1 : 100 ≤ n) (hn : n < intBound) :
    excKind (srcCall "e_" [.int (Int.ofNat n)]) = some "TypeError" := by
  rw [e1_digits n (by omega) hn]
  obtain ⟨a, b, c, r, e⟩ := digs_ge3 h1
  rw [e, List.map_cons, List.map_cons, List.map_cons, createE_many 1981 3 (by omega)]
  rfl

theorem mem_dig10 {a : Nat} (h : a < 10) : a ∈ dig10 := by simp [dig10]; omega

/-! `C_.create(*digits)` in either context, by the number of digits -/

section byLength
variable {p : Nat × Nat} (hp : p ∈ digitCtx)
include hp

theorem createC_one {a : Nat} (ha : a < 10) :
    excK (callFun src 60 genv0 p.1 p.2 fdCC MRc [.int (Int.ofNat a)]) = some "RecursionError" := by
  simp only [digitCtx, List.mem_cons, List.not_mem_nil, or_false] at hp
  rcases hp with rfl | rfl
  · exact createC_one_digit ha 29 1533 2 (by omega)
  · exact createC_one_digit ha 29 1525 3 (by omega)

theorem createC_two {a b : Nat} (ha : a < 10) (hb : b < 10) :
    agreeWith valToModulus (callFun src 60 genv0 p.1 p.2 fdCC MRc [.int (Int.ofNat a), .int (Int.ofNat b)])
      (Modulus.fromVoigt (Int.ofNat a) (Int.ofNat b)) = true := by
  have := List.all_eq_true.mp (List.all_eq_true.mp (List.all_eq_true.mp createC_two_digits p hp) a (mem_dig10 ha)) b (mem_dig10 hb)
  rwa [digitInt_code, digitInt_code] at this

theorem createC_three (a b c : Nat) :
    excK (callFun src 60 genv0 p.1 p.2 fdCC MRc [digitInt a, digitInt b, digitInt c]) = RTE :=
  eq_of_beq (List.all_eq_true.mp (createC_three_digits a b c) p hp)

theorem createC_four_digits (a b c e : Int) :
    (¬(in3 a b ∧ in3 c e) → excK (callFun src 60 genv0 p.1 p.2 fdCC MRc [.int a, .int b, .int c, .int e]) = RTE) ∧
    (in3 a b ∧ in3 c e →
      agreeWith valToModulus (callFun src 60 genv0 p.1 p.2 fdCC MRc [.int a, .int b, .int c, .int e])
        (Modulus.fromStandard a b c e) = true) := by
  simp only [digitCtx, List.mem_cons, List.not_mem_nil, or_false] at hp
  rcases hp with rfl | rfl
  · rw [createC_four 1923 2 (by omega)]
    exact ⟨callC4_rejects 1923 3 (by omega) a b c e, callC4_accepts 1923 3 (by omega) a b c e⟩
  · rw [createC_four 1915 3 (by omega)]
    exact ⟨callC4_rejects 1915 4 (by omega) a b c e, callC4_accepts 1915 4 (by omega) a b c e⟩

theorem createC_five (a0 a1 a2 a3 a4 : Nat) (r : List Nat) :
    excK (callFun src 60 genv0 p.1 p.2 fdCC MRc ((a0 :: a1 :: a2 :: a3 :: a4 :: r).map digitInt)) = RTE := by
  simp only [digitCtx, List.mem_cons, List.not_mem_nil, or_false] at hp
  rcases hp with rfl | rfl
  · exact createC_many 1968 2 (by omega) a0 a1 a2 a3 a4 r
  · exact createC_many 1960 3 (by omega) a0 a1 a2 a3 a4 r

end byLength

theorem ctx_int : ((1981, 3) : Nat × Nat) ∈ digitCtx := by simp [digitCtx]
theorem ctx_str : ((1989, 2) : Nat × Nat) ∈ digitCtx := by simp [digitCtx]

/-! `c_(n)` by the number of digits of `n` -/

theorem src_c1_one (n : Nat) (h : n < 10) : excKind (srcCall "c_" [.int (Int.ofNat n)]) = some "RecursionError" := by
  rw [c1_digits n (lt_intBound (by omega)), digs_lt10 h, excKind_eq_excK]
  simp only [List.map_cons, List.map_nil, digitInt_code]
  exact createC_one ctx_int h

/-- two digits: `c_(10 a + b)` is the model's `C_.from_voigt(a, b)` (a key, or rejected by both) -/
theorem src_c1_two (n : Nat) (h1 : 10 ≤ n) (h2 : n < 100) :
    agreeWith valToModulus (srcCall "c_" [.int (Int.ofNat n)]) (Modulus.fromVoigt (Int.ofNat (n / 10)) (Int.ofNat (n % 10))) = true := by
  rw [c1_digits n (lt_intBound (by omega)), digs_two h1 h2]
  simp only [List.map_cons, List.map_nil, digitInt_code]
  exact createC_two ctx_int (by omega) (by omega)

theorem src_c1_three (n : Nat) (h1 : 100 ≤ n) (h2 : n < 1000) :
    excKind (srcCall "c_" [.int (Int.ofNat n)]) = some "RuntimeError" := by
  rw [c1_digits n (lt_intBound (by omega)), digs_three h1 h2, excKind_eq_excK]
  exact createC_three ctx_int _ _ _

/-- four digits: `c_(1000 a + 100 b + 10 c + e)` is `C_.from_standard(a, b, c, e)` -/
theorem src_c1_four (n : Nat) (h1 : 1000 ≤ n) (h2 : n < 10000) :
    let a := Int.ofNat (n / 1000); let b := Int.ofNat (n / 100 % 10); let c := Int.ofNat (n / 10 % 10); let e := Int.ofNat (n % 10)
    (¬(in3 a b ∧ in3 c e) → excKind (srcCall "c_" [.int (Int.ofNat n)]) = some "RuntimeError") ∧
    (in3 a b ∧ in3 c e → agreeWith valToModulus (srcCall "c_" [.int (Int.ofNat n)]) (Modulus.fromStandard a b c e) = true) := by
  intro a b c e
  rw [c1_digits n (lt_intBound (by omega)), digs_four h1 h2, excKind_eq_excK]
  simp only [List.map_cons, List.map_nil, digitInt_code]
  exact createC_four_digits ctx_int a b c e

/-- five or more digits: "Invalid modulus representation" -/
theorem src_c1_many (n : Nat) (h1 : 10000 ≤ n) (hn : n < intBound) :
    excKind (srcCall "c_" [.int (Int.ofNat n)]) = some "RuntimeError" := by
  rw [c1_digits n hn, excKind_eq_excK]
  obtain ⟨a0, a1, a2, a3, a4, r, e⟩ := digs_ge5 h1
  rw [e]
  exact createC_five ctx_int a0 a1 a2 a3 a4 r

end Cij.VoigtSrc
