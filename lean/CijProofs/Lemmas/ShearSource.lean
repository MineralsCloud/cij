/-
  The arithmetic of the shear solver model (`CijModel/Shear.lean`) IS what the translator extracts from `shear.py` on this
  run: the term accumulated per index pair and the target formula, for every scalar type.
-/
import CijModel.Shear
import CijModel.ShExpr
import Generated.ShearExprs

namespace Cij.ShExpr
open Cij Cij.Shear

variable {α : Type} [Add α] [Sub α] [Mul α] [Div α] [NatCast α]

/-- a formula reads only the symbols that occur in it: the other slots may hold anything (the energy term below gets the accumulator) -/
def envOf (m eij ekl eRot eOrig mult : α) : Sym → α
  | .m => m | .eij => eij | .ekl => ekl | .eRot => eRot | .eOrig => eOrig | .mult => mult

/-- one step of the `strainEnergy` fold adds the translated term -/
theorem energy_term_is_source (isZero : α → Bool) (e : Mat3 α) (resolve : Modulus → α) (target : Option Modulus) :
    strainEnergy isZero e resolve target =
      (energyPairs isZero e target).foldl
        (fun acc pq => acc + eval (envOf (resolve (keyOfPairs pq)) (e pq.1.1 pq.1.2) (e pq.2.1 pq.2.2) acc acc acc)
          Generated.shearEnergyTerm) ((0 : Nat) : α) := rfl

theorem target_is_source (key : Modulus) (e : Mat3 α) (eRot eOrig : α) :
    targetModulus key e eRot eOrig =
      eval (envOf eRot (e (idx key.i.i) (idx key.i.j)) (e (idx key.j.i) (idx key.j.j)) eRot eOrig ((key.multiplicity : Nat) : α))
        Generated.shearTarget := rfl

end Cij.ShExpr
