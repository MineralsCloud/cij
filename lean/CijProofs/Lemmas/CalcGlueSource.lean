/-
  The glue of `cij/core/calculator.py` IS what the models say (no property statements here).  `tools/gens/calc_src.py`
  re-extracts the glue as data on every run (`Generated/CalcGlueSpec.lean`), `CijModel/CalcGlue.lean` gives the data their
  meaning.  Here: the name matcher for ANY extracted pattern (sound, complete, at most one parse); the hand-written
  assembly / labelling / lookup models are the evaluation of the data extracted NOW; the memo corollary for the generated
  property graph; normal attribute lookup before `__getattr__`.
-/
import CijModel.CalcGlue
import Generated.CalcGlueSpec
import CijProofs.Lemmas.VRH
import CijProofs.Lemmas.OrderFree
import CijProofs.Lemmas.MemoHistory
import Mathlib.Tactic.IntervalCases

namespace Cij.CalcGlue
open Cij Cij.VRH

/-! ### `_calculate_compliances`: the generated index data evaluate to the hand-written model -/


theorem keyPairs_gen (k : Modulus) :
    keyPairs Generated.CalcGlue.complSpec k = k.voigt.map fun v => [(v.1, v.2), (v.2, v.1)] := by
  unfold keyPairs
  cases k.voigt with
  | none => rfl
  | some v => rfl

theorem writesCell_gen (k : Modulus) (i j : Int) :
    writesCell Generated.CalcGlue.complSpec k (i - 1) (j - 1) = decide ((i, j) ∈ writes k) := by
  unfold writesCell writes
  rw [keyPairs_gen]
  cases k.voigt with
  | none => simp
  | some v =>
    obtain ⟨a, b⟩ := v
    simp only [Option.map_some, List.any_cons, List.any_nil, Bool.or_false, Generated.CalcGlue.complSpec, Affine.eval]
    rw [Bool.eq_iff_iff]
    simp only [Bool.or_eq_true, Bool.and_eq_true, beq_iff_eq, decide_eq_true_eq, List.mem_cons, Prod.mk.injEq,
      List.not_mem_nil, or_false, if_true, if_false, one_ne_zero]
    omega

theorem assembleSpec_gen {α : Type} [Scalar α] (kv : KV α) (i j : Int) :
    assembleSpec Generated.CalcGlue.complSpec kv (i - 1) (j - 1) = assembleEntry kv i j := by
  unfold assembleSpec assembleEntry
  congr 1
  funext acc e
  rw [writesCell_gen]
  by_cases h : (i, j) ∈ writes e.1 <;> simp [h]

theorem allPairs_eq_product : allPairs = (product 6 6).map fun p => (p.1 + 1, p.2 + 1) := by decide

theorem complDictSpec_gen {α : Type} (S : Nat → Nat → Int → Int → α) (nt nv : Nat) :
    complDictSpec Generated.CalcGlue.complSpec S nt nv = complDict S nt nv := by
  unfold complDictSpec complDict
  rw [allPairs_eq_product, List.filterMap_map]
  congr 1
  funext p
  simp only [Generated.CalcGlue.complSpec, Affine.eval, cmpOp, Function.comp]
  by_cases h : p.1 > p.2
  · have h' : p.1 + 1 > p.2 + 1 := by omega
    simp [h, h']
  · have h' : ¬ p.1 + 1 > p.2 + 1 := by omega
    simp [h, h']


/-! ### the name matcher, for any extracted pattern -/


/-- the string a parse stands for -/
def render (rx : RegexParts) (q : Parsed) (withSep : Bool) : List Char :=
  q.pre :: ((if withSep then [rx.sep] else []) ++ (q.digits ++ q.suf.toList))

/-- a parse the pattern allows -/
def WellFormed (rx : RegexParts) (q : Parsed) : Prop :=
  rx.prefixes.contains q.pre = true ∧ rx.alts.any (inAlt · q.digits) = true ∧
    (match q.suf with
     | some c => rx.suffixes.contains c = true
     | none => rx.suffixOptional = true)

theorem afterSep_mem (rx : RegexParts) (r r1 : List Char) (h : r1 ∈ afterSep rx r) :
    r = rx.sep :: r1 ∨ (rx.sepOptional = true ∧ r = r1) := by
  unfold afterSep at h
  rcases List.mem_append.1 h with h | h
  · cases r with
    | nil => simp at h
    | cons c r' =>
      by_cases hc : c = rx.sep
      · simp [hc] at h; left; rw [hc, h]
      · simp [hc] at h
  · by_cases ho : rx.sepOptional = true
    · simp [ho] at h; right; exact ⟨ho, h.symm⟩
    · simp [ho] at h

theorem sufSplits_mem (rx : RegexParts) (r : List Char) (ds : List Char × Option Char) (h : ds ∈ sufSplits rx r) :
    r = ds.1 ++ ds.2.toList ∧
      (match ds.2 with
       | some c => rx.suffixes.contains c = true
       | none => rx.suffixOptional = true) := by
  unfold sufSplits at h
  rcases List.mem_append.1 h with h | h
  · cases hl : r.getLast? with
    | none => rw [hl] at h; simp at h
    | some c =>
      rw [hl] at h
      dsimp only at h
      by_cases hc : rx.suffixes.contains c = true
      · rw [if_pos hc, List.mem_singleton] at h
        subst h
        obtain ⟨ys, rfl⟩ := List.getLast?_eq_some_iff.1 hl
        exact ⟨by simp, hc⟩
      · rw [if_neg hc] at h; simp at h
  · by_cases ho : rx.suffixOptional = true
    · rw [if_pos ho, List.mem_singleton] at h
      subst h
      exact ⟨by simp, ho⟩
    · rw [if_neg ho] at h; simp at h

theorem matchCore_sound (rx : RegexParts) (name : List Char) (q : Parsed) (h : matchCore rx name = some q) :
    WellFormed rx q ∧ ∃ b : Bool, (b = false → rx.sepOptional = true) ∧ name = render rx q b := by
  cases name with
  | nil => simp [matchCore] at h
  | cons p r =>
    simp only [matchCore] at h
    by_cases hp : rx.prefixes.contains p = true
    · rw [if_pos hp] at h
      obtain ⟨r1, hr1, h1⟩ := List.exists_of_findSome?_eq_some h
      obtain ⟨ds, hds, h2⟩ := List.exists_of_findSome?_eq_some h1
      by_cases ha : rx.alts.any (inAlt · ds.1) = true
      · rw [if_pos ha] at h2
        cases h2
        obtain ⟨e1, e2⟩ := sufSplits_mem rx r1 ds hds
        refine ⟨⟨hp, ha, e2⟩, ?_⟩
        rcases afterSep_mem rx r r1 hr1 with e | ⟨ho, e⟩
        · exact ⟨true, by simp, by simp [render, e, e1]⟩
        · exact ⟨false, fun _ => ho, by simp [render, e, e1]⟩
      · rw [if_neg ha] at h2; cases h2
    · rw [if_neg hp] at h; cases h

theorem matchCore_complete (rx : RegexParts) (q : Parsed) (hq : WellFormed rx q) (withSep : Bool)
    (hs : withSep = false → rx.sepOptional = true) : (matchCore rx (render rx q withSep)).isSome = true := by
  obtain ⟨hp, ha, hsuf⟩ := hq
  simp only [render, matchCore]
  rw [if_pos hp, List.findSome?_isSome_iff]
  refine ⟨q.digits ++ q.suf.toList, ?_, ?_⟩
  · unfold afterSep
    cases withSep with
    | true => simp
    | false => simp [hs rfl]
  · rw [List.findSome?_isSome_iff]
    refine ⟨(q.digits, q.suf), ?_, by simp [ha]⟩
    unfold sufSplits
    cases hsf : q.suf with
    | none =>
      rw [hsf] at hsuf
      simp only [Option.toList_none, List.append_nil]
      exact List.mem_append_right _ (by simp [hsuf])
    | some c =>
      rw [hsf] at hsuf
      simp only at hsuf
      have hm : c ∈ rx.suffixes := by simpa using hsuf
      apply List.mem_append_left
      simp [hm]

/-! ### at most one parse -/

/-- `c` is in one of the digit classes -/
def isDigitChar (rx : RegexParts) (c : Char) : Bool := rx.alts.any fun a => decide (a.lo ≤ c) && decide (c ≤ a.hi)

/-- side conditions under which a string has at most one parse: every alternative of group 2 needs at least one
character; neither the separator nor a suffix character is in a digit class -/
def Unambiguous (rx : RegexParts) : Bool :=
  rx.alts.all (fun a => decide (1 ≤ a.min)) && !isDigitChar rx rx.sep && rx.suffixes.all fun c => !isDigitChar rx c

theorem WellFormed.digits_isDigit {rx : RegexParts} {q : Parsed} (hq : WellFormed rx q) :
    ∀ c ∈ q.digits, isDigitChar rx c = true := by
  obtain ⟨a, hma, hin⟩ := List.any_eq_true.1 hq.2.1
  simp only [inAlt, Bool.and_eq_true, decide_eq_true_eq, List.all_eq_true] at hin
  exact fun c hc => List.any_eq_true.2 ⟨a, hma, by simpa using hin.2 c hc⟩

theorem WellFormed.suf_mem {rx : RegexParts} {q : Parsed} (hq : WellFormed rx q) : ∀ c ∈ q.suf.toList, c ∈ rx.suffixes := by
  obtain ⟨_, _, hs⟩ := hq
  intro c hc
  cases hsf : q.suf with
  | none => rw [hsf] at hc; simp at hc
  | some c' =>
    rw [hsf] at hc hs
    simp only [Option.toList_some, List.mem_singleton] at hc
    subst hc
    simpa using hs

theorem wf_digits (rx : RegexParts) (hu : Unambiguous rx = true) (q : Parsed) (hq : WellFormed rx q) :
    q.digits ≠ [] ∧ (∀ c ∈ q.digits, isDigitChar rx c = true) ∧ ∀ c ∈ q.suf.toList, isDigitChar rx c = false := by
  simp only [Unambiguous, Bool.and_eq_true, List.all_eq_true, decide_eq_true_eq, Bool.not_eq_true'] at hu
  obtain ⟨⟨hmin, _⟩, hsuf⟩ := hu
  refine ⟨fun h0 => ?_, hq.digits_isDigit, fun c hc => by simpa using hsuf c (hq.suf_mem c hc)⟩
  obtain ⟨a, hma, hin⟩ := List.any_eq_true.1 hq.2.1
  simp only [inAlt, Bool.and_eq_true, decide_eq_true_eq, List.all_eq_true] at hin
  have := hmin a hma
  rw [h0] at hin
  simp at hin
  omega

theorem split_unique (P : Char → Bool) (d d' s s' : List Char) (hd : ∀ c ∈ d, P c = true) (hd' : ∀ c ∈ d', P c = true)
    (hs : ∀ c ∈ s, P c = false) (hs' : ∀ c ∈ s', P c = false) (h : d ++ s = d' ++ s') : d = d' ∧ s = s' := by
  have key : ∀ (d s : List Char), (∀ c ∈ d, P c = true) → (∀ c ∈ s, P c = false) → (d ++ s).takeWhile P = d := by
    intro d s hd hs
    rw [List.takeWhile_append_of_pos hd]
    cases s with
    | nil => simp
    | cons c r => simp [List.takeWhile, hs c (by simp)]
  have e : d = d' := by rw [← key d s hd hs, h, key d' s' hd' hs']
  subst e
  exact ⟨rfl, List.append_cancel_left h⟩

theorem toList_inj (a b : Option Char) (h : a.toList = b.toList) : a = b := by
  cases a <;> cases b <;> simp_all

theorem render_inj (rx : RegexParts) (hu : Unambiguous rx = true) (q q' : Parsed) (hq : WellFormed rx q)
    (hq' : WellFormed rx q') (b b' : Bool) (h : render rx q b = render rx q' b') : q = q' ∧ b = b' := by
  obtain ⟨hne, hd, hs⟩ := wf_digits rx hu q hq
  obtain ⟨hne', hd', hs'⟩ := wf_digits rx hu q' hq'
  have hsep : isDigitChar rx rx.sep = false := by
    simp only [Unambiguous, Bool.and_eq_true, Bool.not_eq_true'] at hu
    exact hu.1.2
  simp only [render, List.cons.injEq] at h
  obtain ⟨hpre, ht⟩ := h
  have same : ∀ (x y : Parsed), x.pre = y.pre → x.digits ++ x.suf.toList = y.digits ++ y.suf.toList →
      (∀ c ∈ x.digits, isDigitChar rx c = true) → (∀ c ∈ y.digits, isDigitChar rx c = true) →
      (∀ c ∈ x.suf.toList, isDigitChar rx c = false) → (∀ c ∈ y.suf.toList, isDigitChar rx c = false) → x = y := by
    intro x y h1 h2 a1 a2 a3 a4
    obtain ⟨e1, e2⟩ := split_unique (isDigitChar rx) _ _ _ _ a1 a2 a3 a4 h2
    cases x; cases y
    simp only at h1 e1 e2
    rw [h1, e1, toList_inj _ _ e2]
  have mixed : ∀ (x y : Parsed), y.digits ≠ [] → (∀ c ∈ y.digits, isDigitChar rx c = true) →
      [rx.sep] ++ (x.digits ++ x.suf.toList) = y.digits ++ y.suf.toList → False := by
    intro x y hn a2 h2
    cases hy : y.digits with
    | nil => exact hn hy
    | cons c r =>
      rw [hy] at h2 a2
      simp only [List.cons_append, List.cons.injEq] at h2
      have := a2 c (by simp)
      rw [← h2.1, hsep] at this
      cases this
  cases b <;> cases b'
  · exact ⟨same q q' hpre (by simpa using ht) hd hd' hs hs', rfl⟩
  · exact (mixed q' q hne hd (by simpa using ht.symm)).elim
  · exact (mixed q q' hne' hd' (by simpa using ht)).elim
  · exact ⟨same q q' hpre (by simpa using ht) hd hd' hs hs', rfl⟩

theorem matchCore_render (rx : RegexParts) (hu : Unambiguous rx = true) (q : Parsed) (hq : WellFormed rx q) (withSep : Bool)
    (hs : withSep = false → rx.sepOptional = true) : matchCore rx (render rx q withSep) = some q := by
  have h := matchCore_complete rx q hq withSep hs
  cases hm : matchCore rx (render rx q withSep) with
  | none => rw [hm] at h; cases h
  | some q' =>
    obtain ⟨hq', b', _, hr⟩ := matchCore_sound rx _ q' hm
    rw [(render_inj rx hu q q' hq hq' _ _ hr).1]

/-! ### `re.search` / `re.match` / `re.fullmatch` on the anchored pattern -/

/-- a newline is not a character of the pattern (so `$` before a trailing newline is the only way to accept one) -/
def nlFree (rx : RegexParts) : Bool :=
  !rx.prefixes.contains '\n' && !(rx.sep == '\n') && !isDigitChar rx '\n' && !rx.suffixes.contains '\n'

theorem render_no_nl (rx : RegexParts) (hn : nlFree rx = true) (q : Parsed) (hq : WellFormed rx q) (b : Bool) :
    '\n' ∉ render rx q b := by
  simp only [nlFree, Bool.and_eq_true, Bool.not_eq_true', beq_eq_false_iff_ne, ne_eq] at hn
  obtain ⟨⟨⟨h1, h2⟩, h3⟩, h4⟩ := hn
  intro hm
  simp only [render, List.mem_cons, List.mem_append] at hm
  rcases hm with hm | hm | hm | hm
  · have hp := hq.1
    rw [← hm, h1] at hp; cases hp
  · cases b
    · simp at hm
    · simp only [if_true, List.mem_singleton] at hm; exact h2 hm.symm
  · have := hq.digits_isDigit _ hm
    rw [h3] at this; cases this
  · have := List.contains_iff_mem.2 (hq.suf_mem _ hm)
    rw [h4] at this; cases this

/-- the names accepted, with their groups: exactly the renderings of the well-formed parses, optionally followed by one
newline unless `fullmatch` is used -/
theorem matchName_iff (rx : RegexParts) (fn : String) (hanch : rx.anchoredStart = true ∧ rx.anchoredEnd = true)
    (hu : Unambiguous rx = true) (hn : nlFree rx = true) (name : List Char) (q : Parsed) :
    matchName rx fn name = some q ↔
      WellFormed rx q ∧ ∃ b : Bool, (b = false → rx.sepOptional = true) ∧
        (name = render rx q b ∨ (fn ≠ "fullmatch" ∧ name = render rx q b ++ ['\n'])) := by
  unfold matchName
  rw [hanch.1, hanch.2]
  simp only [Bool.and_self, if_true]
  constructor
  · intro h
    cases hm : matchCore rx name with
    | some q' =>
      rw [hm] at h
      cases h
      obtain ⟨hq, b, hb, hr⟩ := matchCore_sound rx name q hm
      exact ⟨hq, b, hb, Or.inl hr⟩
    | none =>
      rw [hm] at h
      simp only at h
      by_cases hc : (fn != "fullmatch" && name.getLast? == some '\n') = true
      · rw [if_pos hc] at h
        simp only [Bool.and_eq_true, bne_iff_ne, ne_eq, beq_iff_eq] at hc
        obtain ⟨ys, rfl⟩ := List.getLast?_eq_some_iff.1 hc.2
        simp only [List.dropLast_concat] at h
        obtain ⟨hq, b, hb, hr⟩ := matchCore_sound rx ys q h
        exact ⟨hq, b, hb, Or.inr ⟨hc.1, by rw [hr]⟩⟩
      · rw [if_neg hc] at h; cases h
  · rintro ⟨hq, b, hb, hr | ⟨hf, hr⟩⟩
    · rw [hr, matchCore_render rx hu q hq b hb]
    · have hnone : matchCore rx name = none := by
        cases hm : matchCore rx name with
        | none => rfl
        | some q' =>
          obtain ⟨hq', b', _, hr'⟩ := matchCore_sound rx name q' hm
          have hmem : '\n' ∈ name := by rw [hr]; simp
          rw [hr'] at hmem
          exact (render_no_nl rx hn q' hq' _ hmem).elim
      rw [hnone]
      simp only
      have hl : name.getLast? = some '\n' := by rw [hr]; simp
      have hc : (fn != "fullmatch" && name.getLast? == some '\n') = true := by
        simp only [Bool.and_eq_true, bne_iff_ne, ne_eq, beq_iff_eq]; exact ⟨hf, hl⟩
      rw [if_pos hc, hr]
      simp only [List.dropLast_concat]
      exact matchCore_render rx hu q hq b hb

/-! ### the pattern, the match function and the dispatch extracted NOW -/

open Generated.CalcGlue


/-- a parse the CURRENT `REGEX_CIJ` allows, spelled out -/
def GoodParse (q : Parsed) : Prop :=
  (q.pre = 'c' ∨ q.pre = 's') ∧
  ((q.digits.length = 2 ∧ ∀ c ∈ q.digits, '1' ≤ c ∧ c ≤ '6') ∨ (q.digits.length = 4 ∧ ∀ c ∈ q.digits, '1' ≤ c ∧ c ≤ '3')) ∧
  (q.suf = none ∨ q.suf = some 's' ∨ q.suf = some 't')

theorem wf_gen (q : Parsed) : WellFormed regexParts q ↔ GoodParse q := by
  obtain ⟨p, d, s⟩ := q
  simp only [WellFormed, GoodParse, regexParts, inAlt, List.contains_cons, List.contains_nil, Bool.or_false, Bool.or_eq_true,
    beq_iff_eq, List.any_cons, List.any_nil, Bool.and_eq_true, decide_eq_true_eq, List.all_eq_true]
  refine and_congr Iff.rfl (and_congr ?_ ?_)
  · exact or_congr (and_congr (by omega) Iff.rfl) (and_congr (by omega) Iff.rfl)
  · cases s with
    | none => simp
    | some c => simp

/-- the names the CURRENT pattern and match function accept, with their groups -/
theorem matchName_gen (name : List Char) (q : Parsed) :
    matchName regexParts getattrMatchFn name = some q ↔
      GoodParse q ∧ ∃ u, (u = [] ∨ u = ['_']) ∧ ∃ nl, (nl = [] ∨ nl = ['\n']) ∧
        name = q.pre :: (u ++ (q.digits ++ q.suf.toList)) ++ nl := by
  rw [matchName_iff regexParts getattrMatchFn (by decide) (by decide) (by decide), wf_gen]
  refine and_congr Iff.rfl ?_
  have hfn : getattrMatchFn ≠ "fullmatch" := by decide
  constructor
  · rintro ⟨b, _, h | ⟨_, h⟩⟩
    · cases b
      · exact ⟨[], Or.inl rfl, [], Or.inl rfl, by simp [h, render]⟩
      · exact ⟨['_'], Or.inr rfl, [], Or.inl rfl, by simp [h, render, regexParts]⟩
    · cases b
      · exact ⟨[], Or.inl rfl, ['\n'], Or.inr rfl, by simp [h, render]⟩
      · exact ⟨['_'], Or.inr rfl, ['\n'], Or.inr rfl, by simp [h, render, regexParts]⟩
  · rintro ⟨u, hu, nl, hnl, h⟩
    rcases hu with rfl | rfl <;> rcases hnl with rfl | rfl
    · exact ⟨false, fun _ => rfl, Or.inl (by simp [h, render])⟩
    · exact ⟨false, fun _ => rfl, Or.inr ⟨hfn, by simp [h, render]⟩⟩
    · exact ⟨true, by simp, Or.inl (by simp [h, render, regexParts])⟩
    · exact ⟨true, by simp, Or.inr ⟨hfn, by simp [h, render, regexParts]⟩⟩

/-! ### `c_(res.group(2))` never raises on an accepted name -/

theorem char_between (lo hi c : Char) (h1 : lo ≤ c) (h2 : c ≤ hi) :
    c ∈ (List.range (hi.toNat + 1 - lo.toNat)).map fun k => Char.ofNat (lo.toNat + k) := by
  have e1 : lo.toNat ≤ c.toNat := UInt32.le_iff_toNat_le.1 (Char.le_def.1 h1)
  have e2 : c.toNat ≤ hi.toNat := UInt32.le_iff_toNat_le.1 (Char.le_def.1 h2)
  refine List.mem_map.2 ⟨c.toNat - lo.toNat, List.mem_range.2 (by omega), ?_⟩
  rw [show lo.toNat + (c.toNat - lo.toNat) = c.toNat by omega, Char.ofNat_toNat]

theorem char_16 (c : Char) (h1 : '1' ≤ c) (h2 : c ≤ '6') : c ∈ ['1', '2', '3', '4', '5', '6'] := by
  obtain ⟨a, ha, rfl⟩ : ∃ a < 6, Char.ofNat (49 + a) = c := by simpa using char_between '1' '6' c h1 h2
  interval_cases a <;> decide

theorem char_13 (c : Char) (h1 : '1' ≤ c) (h2 : c ≤ '3') : c ∈ ['1', '2', '3'] := by
  obtain ⟨a, ha, rfl⟩ : ∃ a < 3, Char.ofNat (49 + a) = c := by simpa using char_between '1' '3' c h1 h2
  interval_cases a <;> decide

/-- all strings of length `n` over `cs` -/
def strsOver (cs : List Char) : Nat → List (List Char)
  | 0 => [[]]
  | n + 1 => cs.flatMap fun c => (strsOver cs n).map (c :: ·)

theorem mem_strsOver (cs : List Char) : ∀ (d : List Char), (∀ c ∈ d, c ∈ cs) → d ∈ strsOver cs d.length
  | [], _ => by simp [strsOver]
  | c :: r, h => by
    simp only [List.length_cons, strsOver, List.mem_flatMap, List.mem_map]
    exact ⟨c, h c (by simp), r, mem_strsOver cs r (fun x hx => h x (by simp [hx])), rfl⟩

/-- the digit strings of the current pattern, enumerated -/
def digitStrings : List (List Char) := strsOver ['1', '2', '3', '4', '5', '6'] 2 ++ strsOver ['1', '2', '3'] 4

theorem good_digits (q : Parsed) (hq : GoodParse q) : q.digits ∈ digitStrings := by
  obtain ⟨_, hd, _⟩ := hq
  unfold digitStrings
  rcases hd with ⟨hl, hc⟩ | ⟨hl, hc⟩
  · apply List.mem_append_left
    rw [← hl]
    exact mem_strsOver _ _ (fun c hm => char_16 c (hc c hm).1 (hc c hm).2)
  · apply List.mem_append_right
    rw [← hl]
    exact mem_strsOver _ _ (fun c hm => char_13 c (hc c hm).1 (hc c hm).2)

/-- the Voigt pair a digit string names: `IJ` ↦ (I, J); `ijkl` ↦ (voigt ij, voigt kl) -/
def pairOfDigits (d : List Char) : Int × Int :=
  let n (c : Char) : Int := Int.ofNat (c.toNat - '0'.toNat)
  match d with
  | [a, b] => (n a, n b)
  | [a, b, c, e] => (vidx (n a) (n b), vidx (n c) (n e))
  | _ => (0, 0)

/-- every accepted digit string is a key: the canonical key of the unordered Voigt pair it names -/
theorem create_digits : ∀ d ∈ digitStrings,
    Modulus.create [.str (String.ofList d)] = some (keyOfVoigt (canon (pairOfDigits d))) ∧
      canon (pairOfDigits d) ∈ keys21 := by
  decide +kernel

/-! ### `__getattr__`: which store serves an accepted name -/

/-- what `__getattr__` does with an accepted name, as a function of its groups: `c…` names need the key in
`modulus_keys` and are served from `modulus_isothermal` exactly when the suffix is `t`, otherwise from `modulus_adiabatic`;
`s…` names need the key in `_compliances` (the inverse of the ADIABATIC stiffness) and are served from it for suffix `s` or none;
with suffix `t` AttributeError (there is no isothermal compliance table).  (Before the repair of the source the inner test read
`res.group(1) == 't'`, which never holds, and `s11t` returned the adiabatic compliance: that spelling no longer checks against this.) -/
def expected (hasKey : String → Modulus → Bool) (q : Parsed) : Outcome :=
  let key := keyOfVoigt (canon (pairOfDigits q.digits))
  if q.pre = 'c' then
    if hasKey "modulus_keys" key then
      (if q.suf = some 't' then .served "modulus_isothermal" key else .served "modulus_adiabatic" key)
    else .attributeError
  else
    if hasKey "_compliances" key then
      (if q.suf = some 't' then .attributeError else .served "_compliances" key)
    else .attributeError

theorem resolve_gen (hasKey : String → Modulus → Bool) (name : String) :
    resolve regexParts getattrMatchFn getattrBranches hasKey name =
      match matchName regexParts getattrMatchFn name.toList with
      | none => .attributeError
      | some q => expected hasKey q := by
  unfold resolve
  cases hm : matchName regexParts getattrMatchFn name.toList with
  | none => rfl
  | some q =>
    obtain ⟨hq, _⟩ := (matchName_gen _ q).1 hm
    have hk := (create_digits q.digits (good_digits q hq)).1
    obtain ⟨hp, _, hs⟩ := hq
    obtain ⟨p, d, s⟩ := q
    simp only at hp hs hk
    -- the prefix selects the branch (by unfolding); what is left is the membership test and the test on the suffix
    rcases hp with rfl | rfl <;>
      (show (match Modulus.create [.str (String.ofList d)] with | none => _ | some key => _) = _
       rw [hk]; dsimp only [expected]
       rcases hs with rfl | rfl | rfl <;> cases hasKey _ (keyOfVoigt (canon (pairOfDigits d))) <;> rfl)

/-! ### the lookups of the hand-written model (`getC`, `getS`: the names `cIJ`, `sIJ`) are this dispatch -/

/-! `Stores.get` / `Stores.hasKey` on the store names the dispatch table mentions -/

theorem hasKey_modulus_keys {β : Type} (s : Stores β) (k : Modulus) :
    s.hasKey "modulus_keys" k = s.keys.any fun k' => decide (k' = k) := rfl

theorem hasKey_compliances {β : Type} (s : Stores β) (k : Modulus) :
    s.hasKey "_compliances" k = (find s.compliances k).isSome := rfl

theorem get_adiabatic {β : Type} (s : Stores β) : s.get "modulus_adiabatic" = some s.adiabatic := rfl
theorem get_isothermal {β : Type} (s : Stores β) : s.get "modulus_isothermal" = some s.isothermal := rfl
theorem get_compliances {β : Type} (s : Stores β) : s.get "_compliances" = some s.compliances := rfl

theorem hasKey_modulus_keys_iff {β : Type} (s : Stores β) (k : Modulus) :
    s.hasKey "modulus_keys" k = true ↔ k ∈ s.keys := by
  simp [hasKey_modulus_keys]

theorem lookup_eq_expected {β : Type} (s : Stores β) (name : String) (q : Parsed)
    (h : matchName regexParts getattrMatchFn name.toList = some q) :
    lookup regexParts getattrMatchFn getattrBranches s name =
      match expected s.hasKey q with
      | .served st key => (s.get st).bind fun d => find d key
      | _ => none := by
  unfold lookup
  rw [resolve_gen, h]
  rfl

open Classical in
theorem lookup_c_gen {β : Type} (s : Stores β) (hkeys : s.keys = s.adiabatic.map (·.1)) (name : String) (q : Parsed)
    (h : matchName regexParts getattrMatchFn name.toList = some q) (hc : q.pre = 'c') :
    lookup regexParts getattrMatchFn getattrBranches s name =
      if q.suf = some 't' then
        (if keyOfVoigt (canon (pairOfDigits q.digits)) ∈ s.keys then find s.isothermal (keyOfVoigt (canon (pairOfDigits q.digits)))
         else none)
      else find s.adiabatic (keyOfVoigt (canon (pairOfDigits q.digits))) := by
  rw [lookup_eq_expected s name q h]
  unfold expected
  simp only [if_pos hc]
  by_cases hmem : keyOfVoigt (canon (pairOfDigits q.digits)) ∈ s.keys
  · rw [if_pos ((hasKey_modulus_keys_iff s _).2 hmem), if_pos hmem]
    by_cases ht : q.suf = some 't'
    · rw [if_pos ht, if_pos ht]; rfl
    · rw [if_neg ht, if_neg ht]; rfl
  · rw [if_neg (fun hh => hmem ((hasKey_modulus_keys_iff s _).1 hh)), if_neg hmem,
      find_none_of_not_mem _ _ (hkeys ▸ hmem), ite_self]

theorem lookup_s_gen {β : Type} (s : Stores β) (name : String) (q : Parsed)
    (h : matchName regexParts getattrMatchFn name.toList = some q) (hc : q.pre ≠ 'c') :
    lookup regexParts getattrMatchFn getattrBranches s name =
      if q.suf = some 't' then none else find s.compliances (keyOfVoigt (canon (pairOfDigits q.digits))) := by
  rw [lookup_eq_expected s name q h]
  unfold expected
  simp only [if_neg hc]
  by_cases hs : s.hasKey "_compliances" (keyOfVoigt (canon (pairOfDigits q.digits))) = true
  · rw [if_pos hs]
    by_cases ht : q.suf = some 't'
    · rw [if_pos ht, if_pos ht]
    · rw [if_neg ht, if_neg ht]; rfl
  · have hn : find s.compliances (keyOfVoigt (canon (pairOfDigits q.digits))) = none :=
      Option.not_isSome_iff_eq_none.1 hs
    rw [if_neg hs, hn, ite_self]

theorem resolve_s_t_gen (hasKey : String → Modulus → Bool) (name : String) (d : List Char)
    (hm : matchName regexParts getattrMatchFn name.toList = some ⟨'s', d, some 't'⟩) :
    resolve regexParts getattrMatchFn getattrBranches hasKey name = .attributeError := by
  rw [resolve_gen, hm]
  show expected hasKey ⟨'s', d, some 't'⟩ = _
  unfold expected
  have hsc : ¬ (⟨'s', d, some 't'⟩ : Parsed).pre = 'c' := by show ¬ 's' = 'c'; decide
  rw [if_neg hsc]
  split
  · rw [if_pos rfl]
  · rfl

/-- the names `cIJ` / `sIJ` the averages read: accepted, with these groups, and `attrKey` is the key they name -/
theorem names_IJ : ∀ p ∈ allPairs,
    matchName regexParts getattrMatchFn ("c" ++ toString p.1 ++ toString p.2).toList
        = some ⟨'c', (toString p.1 ++ toString p.2).toList, none⟩ ∧
    matchName regexParts getattrMatchFn ("s" ++ toString p.1 ++ toString p.2).toList
        = some ⟨'s', (toString p.1 ++ toString p.2).toList, none⟩ ∧
    attrKey p.1 p.2 = some (keyOfVoigt (canon (pairOfDigits (toString p.1 ++ toString p.2).toList))) := by
  decide +kernel

/-! ### the reported compliance under a label is the entry of THE inverse, whatever the order of the keys -/

theorem keys_perm (inp inp' : Inputs ℝ) (hk : Keys inp) (hp : inp.modAd.Perm inp'.modAd) : Keys inp' :=
  ⟨fun k hk1 => hk.canon k ((hp.map _).mem_iff.2 hk1), (hp.map _).nodup_iff.1 hk.nodup,
   fun p hp1 => (hp.map _).mem_iff.1 (hk.ortho p hp1)⟩

theorem Cmat_perm (inp inp' : Inputs ℝ) (hk : Keys inp) (hp : inp.modAd.Perm inp'.modAd) (t v : Nat) (i j : Int)
    (hij : (i, j) ∈ allPairs) : Cmat inp t v i j = Cmat inp' t v i j := by
  rw [(Cmat_eq inp hk t v i j hij).1, (Cmat_eq inp' (keys_perm inp inp' hk hp) t v i j hij).1]
  unfold val
  have hperm : (kvAt inp.modAd t v).Perm (kvAt inp'.modAd t v) := hp.map _
  have hnd : ((kvAt inp.modAd t v).map (·.1)).Nodup := by rw [map_fst_kvAt]; exact hk.nodup
  rw [OrderFree.find_perm hperm hnd]

/-! ### shared state, in-place operations -/

open Generated.CalcGlue in
/-- nothing in the module can carry state from one object (or one call) to another: no class has a base class, a
metaclass or a class decorator; class bodies contain only definitions and constants; the module level only constants
and the logger; no mutable default argument; no `global` / `nonlocal`; every decorator is `property` or `LazyProperty`
(the one of the `lazy_property` package: cache in the INSTANCE attribute `_<name>`); no name is defined twice in a
class; the only special methods are `__init__`, `__getattr__`, `__getitem__` -/
def NoSharedState : Prop :=
  (∀ e ∈ classBases, e.2 = []) ∧ (∀ e ∈ classAssigns, immutableKind e.2.2 = true) ∧ classOtherStatements = [] ∧
  (∀ e ∈ moduleAssigns, immutableKind e.2 = true) ∧ moduleOtherStatements = [] ∧ nonConstDefaults = [] ∧
  scopeDeclarations = [] ∧ lazyPropertyImport = ["lazy_property.LazyProperty"] ∧
  (∀ m ∈ methodFacts, m.kind = "method" ∨ m.kind = "property" ∨ m.kind = "LazyProperty") ∧
  (∀ e ∈ classNames, e.2.Nodup) ∧
  (∀ e ∈ classDunders, ∀ n ∈ e.2, n = "__init__" ∨ n = "__getattr__" ∨ n = "__getitem__")

instance : Decidable NoSharedState := by unfold NoSharedState; infer_instance

open Generated.CalcGlue in
/-- no property body (plain or lazy) of any class performs an in-place operation on anything reachable from `self`
without a copy, nor rebinds an attribute; the only METHOD that writes into an existing container is
`_calculate_compliances`, which fills the dict it has just created and assigned (`self._compliances = {}`) -/
def NoInplace : Prop :=
  (∀ m ∈ methodFacts, m.kind ≠ "method" → m.inplace = []) ∧
  (methodFacts.filter fun m => !m.inplace.isEmpty).map (fun m => (m.cls, m.name)) = [("Calculator", "_calculate_compliances")]

instance : Decidable NoInplace := by unfold NoInplace; infer_instance

/-! ### the property graph of `CijVolumeBaseInterface` as a read-through memo -/

open Cij.Memo Cij.LazyGraph in
/-- whatever was read before (`before`: any list of property names, repeated or not), the values the read of `p` sees
from the cache / computes are the pure denotations — for any ranked table -/
theorem reads_history_free {β : Type} [Inhabited β] (tab : Tab) (hr : ranked tab = true) (f : String → List β → β)
    (before : List String) (p : String) :
    ∃ vs t', history (defsOf tab f) (fuelOf tab) (before.flatMap (expandOp tab) ++ expandOp tab p) [] = some (vs, t') ∧
      vs.drop (before.flatMap (expandOp tab)).length = (expandOp tab p).map (specOf (rank tab) (defsOf tab f)) := by
  have hdefs := defsOf_readsBelow (β := β) hr f
  obtain ⟨⟨vs, t'⟩, h⟩ := Option.isSome_iff_exists.1
    (history_total hdefs (fuelOf tab) (rank_lt_fuel hr) (before.flatMap (expandOp tab) ++ expandOp tab p) [])
  obtain ⟨hv, _⟩ := history_sound (specOf_spec hdefs) (fuelOf tab) _ [] vs t' (consistent_nil _) h
  refine ⟨vs, t', h, ?_⟩
  rw [hv, List.map_append, ← List.length_map (f := specOf (rank tab) (defsOf tab f)) (as := before.flatMap (expandOp tab)),
    List.drop_left]

/-! ### normal attribute lookup versus `__getattr__` -/

open Generated.CalcGlue

/-- the two interface classes as translated NOW -/
def volumeBaseShape : AttrShape := shapeOf classNames initAttrs laterAttrs lazyCacheAttrs "CijVolumeBaseInterface"
def pressureBaseShape : AttrShape := shapeOf classNames initAttrs laterAttrs lazyCacheAttrs "CijPressureBaseInterface"

/-- every name the class or one of its methods can put in the way of `__getattr__` -/
def AttrShape.all (sh : AttrShape) : List String := sh.classNames ++ sh.initAttrs ++ sh.laterAttrs ++ sh.lazyCaches

theorem defined_mem (sh : AttrShape) (name : String) (h : sh.defined name = true) : name ∈ sh.all := by
  simp only [AttrShape.defined, AttrShape.always, AttrShape.sometimes, Bool.or_eq_true, Bool.and_eq_true,
    List.contains_iff_mem] at h
  simp only [AttrShape.all, List.mem_append]
  rcases h with (h | h) | ⟨_, h | h⟩
  · exact Or.inl (Or.inl (Or.inl h))
  · exact Or.inl (Or.inl (Or.inr h))
  · exact Or.inl (Or.inr h)
  · exact Or.inr h

/-- normal lookup is not dynamic: no base class (so the MRO is the class and `object`), no `__getattribute__` / `__setattr__` /
`__slots__` / `__dict__` / `setattr` / `delattr` / `vars` anywhere in the classes, no attribute stored on another object than `self`,
`LazyProperty` is the one of the `lazy_property` package (cache attribute `_<name>` on the instance) -/
def StaticLookup : Prop :=
  (∀ e ∈ classBases, e.2 = []) ∧ dynamicAttrUses = [] ∧ foreignAttrStores = [] ∧
  (∀ e ∈ classNames, ∀ n ∈ e.2, n ≠ "__getattribute__" ∧ n ≠ "__setattr__" ∧ n ≠ "__delattr__" ∧ n ≠ "__slots__" ∧ n ≠ "__dict__") ∧
  lazyPropertyImport = ["lazy_property.LazyProperty"] ∧
  (∀ e ∈ lazyCacheAttrs, e.2 = ((methodFacts.filter fun m => m.cls == e.1 && m.kind == "LazyProperty").map fun m => "_" ++ m.name))

instance : Decidable StaticLookup := by unfold StaticLookup; infer_instance

theorem accepted_not_dunder (name : String) (q : Parsed) (h : matchName regexParts getattrMatchFn name.toList = some q) :
    dunderLike name = false := by
  obtain ⟨⟨hp, _, _⟩, u, _, nl, _, hn⟩ := (matchName_gen _ q).1 h
  unfold dunderLike
  rw [hn]
  rcases hp with hp | hp <;> rw [hp] <;> cases u <;> simp

theorem accepted_not_builtin (builtin : String → Bool) (hb : ∀ n, builtin n = true → dunderLike n = true) (name : String)
    (q : Parsed) (h : matchName regexParts getattrMatchFn name.toList = some q) : builtin name = false := by
  cases hbn : builtin name with
  | false => rfl
  | true => have := accepted_not_dunder name q h; rw [hb name hbn] at this; cases this

theorem accepted_not_defined (sh : AttrShape) (hall : ∀ d ∈ sh.all, matchName regexParts getattrMatchFn d.toList = none)
    (name : String) (q : Parsed) (h : matchName regexParts getattrMatchFn name.toList = some q) : sh.defined name = false := by
  cases hd : sh.defined name with
  | false => rfl
  | true => rw [hall name (defined_mem sh name hd)] at h; cases h

theorem not_defined_split (sh : AttrShape) (name : String) (h : sh.defined name = false) :
    sh.always name = false ∧ sh.sometimes name = false := by
  simp only [AttrShape.defined, Bool.or_eq_false_iff] at h
  exact h

theorem getattrOf_undefined {ρ : Type} (sh : AttrShape) (builtin : String → Bool) (f : String → ρ) (name : String)
    (hd : sh.defined name = false) (hb : builtin name = false) : getattrOf sh builtin f name = .fallback (f name) := by
  obtain ⟨h1, h2⟩ := not_defined_split sh name hd
  simp [getattrOf, h1, h2, hb]

theorem getattrOf_always {ρ : Type} (sh : AttrShape) (builtin : String → Bool) (f : String → ρ) (name : String)
    (hd : sh.always name = true) : getattrOf sh builtin f name = .attribute name := by
  simp [getattrOf, hd]

theorem volumeBase_names_rejected : ∀ d ∈ volumeBaseShape.all, matchName regexParts getattrMatchFn d.toList = none := by
  decide +kernel
theorem pressureBase_names_rejected : ∀ d ∈ pressureBaseShape.all, matchName regexParts getattrMatchFn d.toList = none := by
  decide +kernel

end Cij.CalcGlue
