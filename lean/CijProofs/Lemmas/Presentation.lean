/-
  Helper lemmas for C13 — results do not depend on how the same physical data are presented.  `averageOverModes` is a quotient of two
  list sums, so it does not see a permutation of (row, weight) pairs, of the modes in a row, or a common factor on the weights; arrays
  are written as maps over ONE list of records, so that "the same permutation of all arrays" is one `List.Perm`.  Everything the
  least-squares solvers read is a sum over the rows; the least-squares polynomial is unique up to an affine change of abscissa
  (`affine_unique`).  Static table: columns picked by a permutation of `range n` (`recolumn`, `SameRead`).
-/
import CijProofs.Lemmas.NonShearCalculus
import CijProofs.Lemmas.Interp
import CijProofs.Lemmas.LeastSq
import CijProofs.Lemmas.FullModulus
import CijProofs.Lemmas.ElastDat
import Mathlib.Algebra.BigOperators.Group.List.Basic
import Mathlib.Algebra.Polynomial.Eval.Degree
import Mathlib.Analysis.SpecialFunctions.Pow.Real

/-! ## NonShear: the weighted mode average -/
namespace Cij.NonShear

theorem sumL_eq_list_sum (l : List ℝ) : sumL l = l.sum := by
  induction l with
  | nil => simp
  | cons a l ih => simp [ih]

theorem sumL_perm {l l' : List ℝ} (h : l.Perm l') : sumL l = sumL l' := by
  rw [sumL_eq_list_sum, sumL_eq_list_sum, h.sum_eq]

theorem mean_perm {r r' : List ℝ} (h : r.Perm r') : mean r = mean r' := by
  unfold mean
  rw [sumL_perm h, h.length_eq]

theorem mean_zeroFirst (r : List ℝ) : mean (zeroFirst 3 r) = sumL (r.drop 3) / (r.length : ℝ) := by
  simp [mean, zeroFirst_length, sumL_zeroFirst]

/-- `average_over_modes` on a `[q][m]` slice with at least one q-point, as a quotient of two sums: the Γ row enters through
`zeroFirst 3`, every other q-point through the pair (row, weight) -/
theorem average_cons (r0 : List ℝ) (rs : List (List ℝ)) (w0 : ℝ) (ws : List ℝ) :
    averageOverModes (r0 :: rs) (w0 :: ws)
      = (mean (zeroFirst 3 r0) * w0 + ((rs.zip ws).map fun p => mean p.1 * p.2).sum) / (w0 + ws.sum) := by
  unfold averageOverModes clearGamma
  simp only [List.map_cons, List.zipWith_cons_cons, sumL_cons]
  rw [zipWith_eq_map_zip, sumL_eq_list_sum, sumL_eq_list_sum, List.zip_map_left, List.map_map]
  rfl

theorem average_perm_q (r0 : List ℝ) (w0 : ℝ) (rs rs' : List (List ℝ)) (ws ws' : List ℝ)
    (hl : rs.length = ws.length) (hl' : rs'.length = ws'.length) (h : (rs.zip ws).Perm (rs'.zip ws')) :
    averageOverModes (r0 :: rs) (w0 :: ws) = averageOverModes (r0 :: rs') (w0 :: ws') := by
  rw [average_cons, average_cons, (h.map _).sum_eq]
  have e : ws = (rs.zip ws).map Prod.snd := (List.map_snd_zip (by omega)).symm
  have e' : ws' = (rs'.zip ws').map Prod.snd := (List.map_snd_zip (by omega)).symm
  rw [e, e', (h.map Prod.snd).sum_eq]

theorem zw2_mapq {κ : Type} (l : List κ) (f : ℝ → ℝ → ℝ) (a b : κ → List ℝ) :
    zw2 f (l.map a) (l.map b) = l.map fun q => List.zipWith f (a q) (b q) := by
  unfold zw2
  induction l with
  | nil => rfl
  | cons q l ih => simp only [List.map_cons, List.zipWith_cons_cons, ih]

theorem map2_mapq {κ : Type} (l : List κ) (f : ℝ → ℝ) (a : κ → List ℝ) :
    map2 f (l.map a) = l.map fun q => (a q).map f := by
  simp [map2, List.map_map, Function.comp_def]

theorem average_perm_q_map {κ : Type} (A : κ → List ℝ) (wt : κ → ℝ) (g : κ) (qs qs' : List κ) (h : qs.Perm qs') :
    averageOverModes ((g :: qs).map A) ((g :: qs).map wt) = averageOverModes ((g :: qs').map A) ((g :: qs').map wt) := by
  simp only [List.map_cons]
  apply average_perm_q
  · simp
  · simp
  · rw [List.zip_map', List.zip_map']
    exact h.map _

/-- every non-Γ row may be listed in another order; of the Γ row only the entries after the
three acoustic slots matter, as a multiset -/
theorem average_perm_modes (r0 r0' : List ℝ) (rs rs' : List (List ℝ)) (w : List ℝ)
    (hΓ : (r0.drop 3).Perm (r0'.drop 3)) (hlen : r0.length = r0'.length) (hrs : List.Forall₂ List.Perm rs rs') :
    averageOverModes (r0 :: rs) w = averageOverModes (r0' :: rs') w := by
  unfold averageOverModes clearGamma
  have h0 : mean (zeroFirst 3 r0) = mean (zeroFirst 3 r0') := by
    rw [mean_zeroFirst, mean_zeroFirst, sumL_perm hΓ, hlen]
  have hm : rs.map mean = rs'.map mean := by
    induction hrs with
    | nil => rfl
    | cons hab _ ih => simp only [List.map_cons, mean_perm hab, ih]
  simp only [List.map_cons, h0, hm]

theorem average_perm_modes_map {μ : Type} (φ : μ → ℝ) (g g' : List μ) (S S' : List (List μ)) (w : List ℝ)
    (hΓ : (g.drop 3).Perm (g'.drop 3)) (hlen : g.length = g'.length) (hS : List.Forall₂ List.Perm S S') :
    averageOverModes ((g :: S).map (List.map φ)) w = averageOverModes ((g' :: S').map (List.map φ)) w := by
  simp only [List.map_cons]
  apply average_perm_modes
  · rw [← List.map_drop, ← List.map_drop]; exact hΓ.map φ
  · simp [hlen]
  · induction hS with
    | nil => exact List.Forall₂.nil
    | cons hab _ ih => exact List.Forall₂.cons (hab.map φ) ih

theorem zipWith_scale (c : ℝ) (xs ws : List ℝ) :
    sumL (List.zipWith (fun x wq => x * wq) xs (ws.map fun x => c * x))
      = c * sumL (List.zipWith (fun x wq => x * wq) xs ws) := by
  induction xs generalizing ws with
  | nil => simp
  | cons x xs ih => cases ws with
    | nil => simp
    | cons a ws => simp only [List.map_cons, List.zipWith_cons_cons, sumL_cons, ih]; ring

/-- `numpy.average(…, weights=w)` divides by Σw: a common factor on the weights cancels -/
theorem average_weight_scale (X : List (List ℝ)) (w : List ℝ) (c : ℝ) (hc : c ≠ 0) (hw : sumL w ≠ 0) :
    averageOverModes X (w.map fun x => c * x) = averageOverModes X w := by
  unfold averageOverModes
  have hs : sumL (w.map fun x => c * x) = c * sumL w := by
    have := sumL_map_mul_left w c id
    simpa using this
  rw [zipWith_scale, hs]
  field_simp

end Cij.NonShear

/-! ## the interpolation loop under a re-indexing of the (q, m) positions -/
namespace Cij.Interp

/-- position `(j, k)` is a Γ-point acoustic entry (the loop of `interpolate_modes` skips it: `j == 0 and k < 3`) -/
def isΓac (jk : ℕ × ℕ) : Bool := jk.1 == 0 && decide (jk.2 < 3)

theorem cell_of_isΓac_eq {α : Type} [Neg α] [Zero α] [ExpLog α] (m : Method) (order : ℕ) (I : Interpolant α) (vols vArray : List α)
    (jk jk' : ℕ × ℕ) (h : isΓac jk' = isΓac jk) (ser : List α) :
    cell m order I vols vArray jk'.1 jk'.2 ser = cell m order I vols vArray jk.1 jk.2 ser := by
  simp only [isΓac] at h
  unfold cell
  rw [h]

theorem exists_error_iff_not_ok {ε β : Type} (x : Except ε β) : (∃ e, x = .error e) ↔ ¬ ∃ r, x = .ok r := by
  cases x with
  | ok r => simp
  | error e => simp

theorem inj_on_rect_of_leftInverse {σ τ : ℕ × ℕ → ℕ × ℕ} {n m : ℕ} (inv : ∀ j < n, ∀ k < m, τ (σ (j, k)) = (j, k)) :
    ∀ j < n, ∀ k < m, ∀ j' < n, ∀ k' < m, σ (j, k) = σ (j', k') → (j, k) = (j', k') :=
  fun j hj k hk j' hj' k' hk' h => by rw [← inv j hj k hk, ← inv j' hj' k' hk', h]

/-! ## least squares: everything the solvers read is a sum over the rows -/

section RowPerm
variable {K : Type} [Field K]

theorem fst_perm_of_zip_perm {β γ : Type} {xs xs' : List β} {ys ys' : List γ} (hl : xs.length = ys.length)
    (hl' : xs'.length = ys'.length) (h : (xs.zip ys).Perm (xs'.zip ys')) : xs.Perm xs' := by
  have e : xs = (xs.zip ys).map Prod.fst := (List.map_fst_zip (by omega)).symm
  have e' : xs' = (xs'.zip ys').map Prod.fst := (List.map_fst_zip (by omega)).symm
  rw [e, e']
  exact h.map _

theorem powerSum_perm {xs xs' : List K} (h : xs.Perm xs') (k : ℕ) : powerSum xs k = powerSum xs' k := by
  unfold powerSum
  rw [sumL_eq_sum, sumL_eq_sum, (h.map _).sum_eq]

theorem moment_perm {xs xs' ys ys' : List K} (h : (xs.zip ys).Perm (xs'.zip ys')) (k : ℕ) :
    moment xs ys k = moment xs' ys' k := by
  unfold moment
  rw [sumL_eq_sum, sumL_eq_sum, zipWith_eq_map_zip', zipWith_eq_map_zip', (h.map _).sum_eq]

theorem normalMatrix_perm {xs xs' : List K} (h : xs.Perm xs') (n : ℕ) : normalMatrix xs n = normalMatrix xs' n := by
  unfold normalMatrix
  simp only [powerSum_perm h]

theorem normalRhs_perm {xs xs' ys ys' : List K} (h : (xs.zip ys).Perm (xs'.zip ys')) (n : ℕ) :
    normalRhs xs ys n = normalRhs xs' ys' n := by
  unfold normalRhs
  simp only [moment_perm h]

theorem moment_residuals_perm {xs xs' ys ys' : List K} (h : (xs.zip ys).Perm (xs'.zip ys')) (a : List K) (k : ℕ) :
    moment xs (residuals xs ys a) k = moment xs' (residuals xs' ys' a) k := by
  rw [moment_residuals, moment_residuals, (h.map _).sum_eq]

variable [DecidableEq K]

theorem normalEq_perm {xs xs' ys ys' : List K} (h : (xs.zip ys).Perm (xs'.zip ys')) (order : ℕ) (a : List K) :
    normalEq xs ys order a = normalEq xs' ys' order a := by
  unfold normalEq
  simp only [moment_residuals_perm h]

/-- `mode_gamma.lstsq_polyfit` does not see the order of the rows -/
theorem lstsqPolyfit_perm {xs xs' ys ys' : List K} (hl : xs.length = ys.length) (hl' : xs'.length = ys'.length)
    (h : (xs.zip ys).Perm (xs'.zip ys')) (order : ℕ) : lstsqPolyfit xs ys order = lstsqPolyfit xs' ys' order := by
  unfold lstsqPolyfit
  simp only [normalMatrix_perm (fst_perm_of_zip_perm hl hl' h), normalRhs_perm h, normalEq_perm h]

end RowPerm
end Cij.Interp

namespace Cij.LeastSq
section RowPerm
variable {α : Type} [Field α]

theorem normalAug_perm {xs xs' ys ys' : List α} (hl : xs.length = ys.length) (hl' : xs'.length = ys'.length)
    (h : (xs.zip ys).Perm (xs'.zip ys')) (deg : ℕ) : normalAug xs ys deg = normalAug xs' ys' deg := by
  have hx := Cij.Interp.fst_perm_of_zip_perm hl hl' h
  unfold normalAug
  refine List.map_congr_left fun j _ => ?_
  congr 1
  · refine List.map_congr_left fun k _ => ?_
    rw [sumL_eq_sum, sumL_eq_sum, (hx.map _).sum_eq]
  · rw [sumL_eq_sum, sumL_eq_sum, zipWith_eq_map_zip, zipWith_eq_map_zip, (h.map _).sum_eq]

theorem normalResidual_perm {xs xs' ys ys' : List α} (h : (xs.zip ys).Perm (xs'.zip ys')) (p : List α) (j : ℕ) :
    normalResidual xs ys p j = normalResidual xs' ys' p j := by
  unfold normalResidual
  rw [sumL_eq_sum, sumL_eq_sum, zipWith_eq_map_zip, zipWith_eq_map_zip, (h.map _).sum_eq]

variable [BEq α]

theorem normalEqHolds_perm {xs xs' ys ys' : List α} (h : (xs.zip ys).Perm (xs'.zip ys')) (deg : ℕ) (p : List α) :
    normalEqHolds xs ys deg p = normalEqHolds xs' ys' deg p := by
  unfold normalEqHolds
  simp only [normalResidual_perm h]

/-- `numpy.polyfit` (the model of it) does not see the order of the rows -/
theorem polyfit_perm {xs xs' ys ys' : List α} (hl : xs.length = ys.length) (hl' : xs'.length = ys'.length)
    (h : (xs.zip ys).Perm (xs'.zip ys')) (deg : ℕ) : polyfit xs ys deg = polyfit xs' ys' deg := by
  unfold polyfit
  simp only [hl, hl', bne_self_eq_false, normalAug_perm hl hl' h, normalEqHolds_perm h]

end RowPerm
end Cij.LeastSq

/-! ## uniqueness of the least-squares polynomial and an affine change of abscissa -/
namespace Cij.Interp
section Affine
open Polynomial
variable {K : Type} [Field K]

/-- the normal equations of the fit of degree ≤ `d` to the rows `(x_r, y_r)`, in list-sum form: `Vᵀ(V p − y) = 0` column by
column.  This is what both executable solvers verify before they answer (`normalEq`, `LeastSq.normalEqHolds`). -/
def NormalEqs (xs ys : List K) (d : ℕ) (p : List K) : Prop :=
  p.length ≤ d + 1 ∧ ∀ j < d + 1, ((xs.zip ys).map fun q => q.1 ^ j * (polyval p q.1 - q.2)).sum = 0

theorem natDegree_comp_affine_lt (P : K[X]) (a b : K) (n : ℕ) (h : P.natDegree < n) :
    (P.comp (C a * X + C b)).natDegree < n := by
  refine lt_of_le_of_lt (natDegree_comp_le) ?_
  have : (C a * X + C b : K[X]).natDegree ≤ 1 := natDegree_linear_le
  calc P.natDegree * (C a * X + C b : K[X]).natDegree ≤ P.natDegree * 1 := Nat.mul_le_mul_left _ this
    _ = P.natDegree := Nat.mul_one _
    _ < n := h

variable [LinearOrder K] [IsStrictOrderedRing K]

/-- **Uniqueness under an affine change of abscissa.**  `p` solves the normal equations on `(x_r, y_r)`, `p'` those on
`(a·x_r + b, y_r)` with `a ≠ 0`, there are at least `d + 1` distinct abscissae: then `p'(a·x + b) = p(x)` for EVERY `x`
(the affine image of a polynomial of degree ≤ d is one, and the least-squares polynomial is unique). -/
theorem affine_unique (xs ys : List K) (hlen : xs.length = ys.length) (a b : K) (ha : a ≠ 0) (d : ℕ) (p p' : List K)
    (hp : NormalEqs xs ys d p) (hp' : NormalEqs (xs.map fun x => a * x + b) ys d p')
    (hdist : d + 1 ≤ xs.toFinset.card) : ∀ x, polyval p' (a * x + b) = polyval p x := by
  obtain ⟨hl, hm⟩ := hp
  obtain ⟨hl', hm'⟩ := hp'
  set Q : K[X] := (toPoly p').comp (C a * X + C b) with hQ
  have hQe : ∀ x, Q.eval x = polyval p' (a * x + b) := fun x => by simp [hQ, polyval_eq_eval]
  have hdD : (Q - toPoly p).natDegree < d + 1 :=
    lt_of_le_of_lt (natDegree_sub_le _ _)
      (max_lt (natDegree_comp_affine_lt _ a b _ (natDegree_toPoly_lt p' _ hl' (Nat.succ_pos _)))
        (natDegree_toPoly_lt p _ hl (Nat.succ_pos _)))
  have hm2 : ∀ j < d + 1,
      ((xs.zip ys).map fun q => (a * q.1 + b) ^ j * (polyval p' (a * q.1 + b) - q.2)).sum = 0 := fun j hj => by
    have := hm' j hj
    rwa [List.zip_map_left, List.map_map] at this
  -- the difference has vanishing moments on the original rows, hence is zero
  have h0 : Q - toPoly p = 0 := by
    refine eq_zero_of_moments_eq_zero xs _ (d + 1) hdD hdist fun k hk => ?_
    -- x^k is a polynomial of degree ≤ d in a·x + b, so the residual of p' is orthogonal to it as well
    set R : K[X] := (X ^ k).comp (C a⁻¹ * X + C (-(a⁻¹ * b))) with hR
    have hRe : ∀ x, R.eval (a * x + b) = x ^ k := fun x => by
      simp only [hR, eval_comp, eval_add, eval_mul, eval_C, eval_X, eval_pow]
      congr 1
      field_simp
      ring
    have h2 := moments_kill (xs.zip ys) (fun q => a * q.1 + b) (fun q => polyval p' (a * q.1 + b) - q.2) (d + 1) hm2 R
      (natDegree_comp_affine_lt _ _ _ _ (by rwa [natDegree_X_pow]))
    simp only [hRe] at h2
    have e : (fun q : K × K => q.1 ^ k * (Q - toPoly p).eval q.1)
        = fun q => q.1 ^ k * (polyval p' (a * q.1 + b) - q.2) + (-1) * (q.1 ^ k * (polyval p q.1 - q.2)) := by
      funext q
      simp only [eval_sub, hQe, ← polyval_eq_eval]
      ring
    rw [← map_zip_fst (fun x => x ^ k * (Q - toPoly p).eval x) xs ys hlen.le, e, List.sum_map_add, List.sum_map_mul_left,
      h2, hm k hk]
    simp
  intro x
  rw [← hQe, sub_eq_zero.mp h0, polyval_eq_eval]
theorem normalEqs_unique (xs ys : List K) (hlen : xs.length = ys.length) (d : ℕ) (p p' : List K)
    (hp : NormalEqs xs ys d p) (hp' : NormalEqs xs ys d p') (hdist : d + 1 ≤ xs.toFinset.card) :
    ∀ x, polyval p' x = polyval p x := by
  have hp'' : NormalEqs (xs.map fun x => (1 : K) * x + 0) ys d p' := by simpa using hp'
  intro x
  have := affine_unique xs ys hlen 1 0 one_ne_zero d p p' hp hp'' hdist x
  simpa using this

end Affine

section Tie
variable {K : Type} [Field K] [DecidableEq K]

theorem normalEqs_of_normalEq (xs ys : List K) (order : ℕ) (a : List K) (h : normalEq xs ys order a = true) :
    NormalEqs xs ys order a := by
  obtain ⟨hl, hm⟩ := (normalEq_iff xs ys order a).mp h
  exact ⟨hl.le, hm⟩

end Tie
end Cij.Interp

namespace Cij.LeastSq
section Tie
variable {α : Type} [Field α] [LinearOrder α] [IsStrictOrderedRing α]

omit [LinearOrder α] [IsStrictOrderedRing α] in
theorem polyval_eq_interp (p : List α) (x : α) : polyval p x = Cij.Interp.polyval p x := rfl

omit [IsStrictOrderedRing α] in
/-- what `polyfit` returns solves the normal equations in the list-sum form of `Interp.NormalEqs` -/
theorem normalEqs_of_polyfit (xs ys : List α) (deg : ℕ) (p : List α) (h : polyfit xs ys deg = some p) :
    xs.length = ys.length ∧ Cij.Interp.NormalEqs xs ys deg p := by
  obtain ⟨hlen, hl, hn⟩ := polyfit_spec xs ys deg p h
  refine ⟨hlen, hl.le, fun j hj => ?_⟩
  have := hn j hj
  unfold normalResidual at this
  rw [sumL_eq_sum, zipWith_eq_map_zip] at this
  simp only [powN_eq] at this
  exact this

end Tie
end Cij.LeastSq

/-! ## static table: columns listed in another order -/
namespace Cij.ElastDat
open Cij Cij.Lex
section Pick
variable {β γ : Type}

/-- the entries of `l` listed in the order `idx` (`[l[i] for i in idx]`; an index out of range is skipped) -/
def pick (idx : List Nat) (l : List β) : List β := idx.filterMap (l[·]?)

theorem filterMap_range_getElem? (l : List β) : (List.range l.length).filterMap (l[·]?) = l := by
  induction l using List.reverseRecOn with
  | nil => rfl
  | append_singleton l a ih =>
    rw [List.length_append, List.length_singleton, List.range_succ, List.filterMap_append]
    have h1 : (List.range l.length).filterMap ((l ++ [a])[·]?) = (List.range l.length).filterMap (l[·]?) := by
      apply List.filterMap_congr
      intro i hi
      rw [List.getElem?_append_left (List.mem_range.mp hi)]
    rw [h1, ih]
    simp

/-- a permutation of `range n` lists every column exactly once -/
theorem pick_perm (idx : List Nat) (l : List β) (h : idx.Perm (List.range l.length)) : (pick idx l).Perm l := by
  have := h.filterMap (l[·]?)
  rwa [filterMap_range_getElem?] at this

theorem pick_map (f : β → γ) (idx : List Nat) (l : List β) : pick idx (l.map f) = (pick idx l).map f := by
  unfold pick
  rw [List.map_filterMap]
  apply List.filterMap_congr
  intro i _
  simp

theorem pick_zip (idx : List Nat) (l : List β) (m : List γ) (hlen : l.length = m.length) :
    pick idx (l.zip m) = (pick idx l).zip (pick idx m) := by
  unfold pick
  induction idx with
  | nil => rfl
  | cons i idx ih =>
    rw [List.filterMap_cons, List.filterMap_cons, List.filterMap_cons, ih, List.zip_eq_zipWith, List.getElem?_zipWith]
    -- the two columns are equally long: both entries exist or neither does
    by_cases hi : i < l.length
    · rw [List.getElem?_eq_getElem hi, List.getElem?_eq_getElem (hlen ▸ hi)]
      rfl
    · rw [List.getElem?_eq_none (by omega), List.getElem?_eq_none (by omega)]

theorem pick_length (idx : List Nat) (l : List β) (h : ∀ i ∈ idx, i < l.length) : (pick idx l).length = idx.length := by
  unfold pick
  induction idx with
  | nil => rfl
  | cons i idx ih =>
    have hi : i < l.length := h i (by simp)
    simp only [List.filterMap_cons, List.getElem?_eq_getElem hi, List.length_cons]
    rw [ih fun j hj => h j (by simp [hj])]

theorem mem_pick (idx : List Nat) (l : List β) (x : β) (h : x ∈ pick idx l) : x ∈ l := by
  unfold pick at h
  obtain ⟨i, _, hi⟩ := List.mem_filterMap.mp h
  exact List.mem_of_getElem? hi

theorem mapM_eq_some_iff (f : β → Option γ) (l : List β) (r : List γ) : l.mapM f = some r ↔ l.map f = r.map some := by
  induction l generalizing r with
  | nil => cases r <;> simp
  | cons a l ih =>
    cases r with
    | nil => simp [List.mapM_cons, Option.bind_eq_some_iff]
    | cons c r => simp [List.mapM_cons, Option.bind_eq_some_iff, ih]

theorem pick_mapM (f : β → Option γ) (idx : List Nat) (l : List β) (r : List γ) (h : l.mapM f = some r) :
    (pick idx l).mapM f = some (pick idx r) := by
  rw [mapM_eq_some_iff] at h ⊢
  rw [← pick_map, h, pick_map]

end Pick

section Lookup
variable {κ ν : Type} [DecidableEq κ]

theorem lookup_of_mem_nodup (l : List (κ × ν)) (hnd : (l.map Prod.fst).Nodup) (k : κ) (v : ν) (h : (k, v) ∈ l) :
    l.lookup k = some v := by
  induction l with
  | nil => cases h
  | cons e l ih =>
    obtain ⟨k', v'⟩ := e
    simp only [List.map_cons, List.nodup_cons] at hnd
    rcases List.mem_cons.mp h with heq | hmem
    · cases heq; simp [List.lookup]
    · have hne : k ≠ k' := fun hk => hnd.1 (hk ▸ List.mem_map.mpr ⟨(k, v), hmem, rfl⟩)
      rw [List.lookup_cons]
      have : (k == k') = false := by simpa using hne
      rw [this]
      exact ih hnd.2 hmem

/-- two listings of the same key ↦ value pairs (distinct keys) are the same map -/
theorem lookup_perm (l l' : List (κ × ν)) (h : l'.Perm l) (hnd : (l.map Prod.fst).Nodup) (k : κ) :
    l'.lookup k = l.lookup k := by
  have hnd' : (l'.map Prod.fst).Nodup := (h.map Prod.fst).nodup_iff.mpr hnd
  -- with distinct keys, `lookup k = some v` says that the pair `(k, v)` is listed
  have key : ∀ (l : List (κ × ν)), (l.map Prod.fst).Nodup → ∀ v, l.lookup k = some v ↔ (k, v) ∈ l := fun l hl v =>
    ⟨fun e => by obtain ⟨l₁, l₂, rfl, -⟩ := List.lookup_eq_some_iff.mp e; simp, lookup_of_mem_nodup l hl k v⟩
  exact Option.ext fun v => by rw [key l' hnd', key l hnd, h.mem_iff]

end Lookup

section Recolumn
variable {Num : Type}

/-- the table `t` with its component columns listed in the order `idx` under the names `names'` -/
def TableFile.recolumn (t : TableFile Num) (idx : List Nat) (names' : List Token) : TableFile Num :=
  { t with names := names', rows := t.rows.map fun r => (r.1, pick idx r.2) }

/-- two parses denote the same data: same header numbers, same lattice block, and volume by volume the same volume and
the same map key ↦ value (as a list: a permutation; as a dictionary: equal look-ups) -/
def SameData (d d' : ElastData Num) : Prop :=
  d'.vref = d.vref ∧ d'.nv = d.nv ∧ d'.cellmass = d.cellmass ∧ d'.lattice = d.lattice ∧
    List.Forall₂ (fun v v' : ElastVolume Num => v'.volume = v.volume ∧ v'.moduli.Perm v.moduli ∧
      ∀ k, v'.moduli.lookup k = v.moduli.lookup k) d.volumes d'.volumes

/-- both reads fail, or both succeed with the same data -/
def SameRead (o o' : Option (ElastData Num)) : Prop :=
  match o, o' with
  | some d, some d' => SameData d d'
  | none, none => True
  | _, _ => False

theorem recolumn_ok (F : NumFmt Num) (t : TableFile Num) (kv : Key) (keys : List Key) (h : t.Ok F kv keys)
    (idx : List Nat) (names' : List Token)
    (hnames : names'.map findModulusKey = (pick idx t.names).map findModulusKey) :
    (t.recolumn idx names').Ok F kv (pick idx keys) := by
  refine ⟨h.vref, h.mass, ?_, h.vkey, ?_, ?_⟩
  · simpa [TableFile.recolumn] using h.nv
  · show names'.mapM findModulusKey = _
    rw [mapM_eq_some_iff, hnames, ← mapM_eq_some_iff]
    exact pick_mapM findModulusKey idx t.names keys h.keys
  · intro r hr
    simp only [TableFile.recolumn, List.mem_map] at hr
    obtain ⟨r0, hr0, rfl⟩ := hr
    have := h.rows r0 hr0
    exact ⟨this.1, fun c hc => this.2 c (mem_pick idx r0.2 c hc)⟩

theorem volume_recolumn (kv : Key) (keys : List Key) (hnd : keys.Nodup) (idx : List Nat)
    (hidx : idx.Perm (List.range keys.length)) (r : Row Num) (hw : keys.length = r.2.length) :
    (Row.volume (kv :: pick idx keys) (r.1, pick idx r.2)).volume = (Row.volume (kv :: keys) r).volume ∧
    (Row.volume (kv :: pick idx keys) (r.1, pick idx r.2)).moduli.Perm (Row.volume (kv :: keys) r).moduli ∧
    ∀ k, (Row.volume (kv :: pick idx keys) (r.1, pick idx r.2)).moduli.lookup k = (Row.volume (kv :: keys) r).moduli.lookup k := by
  have hw' : keys.length = (r.2.map Prod.snd).length := by rw [List.length_map, hw]
  have hnd' : (pick idx keys).Nodup := (pick_perm idx keys hidx).nodup_iff.mpr hnd
  have e' : Row.volume (kv :: pick idx keys) (r.1, pick idx r.2) = ⟨r.1.2, pick idx (keys.zip (r.2.map Prod.snd))⟩ := by
    simp only [Row.volume, List.tail_cons, dictOfZip_nodup _ _ hnd', pick_map, pick_zip idx keys _ hw']
  have e : Row.volume (kv :: keys) r = ⟨r.1.2, keys.zip (r.2.map Prod.snd)⟩ := by
    simp only [Row.volume, List.tail_cons, dictOfZip_nodup _ _ hnd]
  have hperm : (pick idx (keys.zip (r.2.map Prod.snd))).Perm (keys.zip (r.2.map Prod.snd)) :=
    pick_perm _ _ (by rwa [List.length_zip, ← hw', Nat.min_self])
  rw [e, e']
  exact ⟨rfl, hperm, fun k => lookup_perm _ _ hperm (nodup_map_fst_zip keys _ hnd) k⟩

end Recolumn
end Cij.ElastDat

/-! ## records: one q-point / one mode at one (T, V) grid point, and what the classes compute there -/
namespace Cij.NonShear

/-- one q-point as the code holds it at one (T, V) point: its rows of `freq_array` and of the three
`calculator.mode_gamma` arrays, and its weight.  Arrays are the projections of a list of these, so ONE `List.Perm`
of records is "the same permutation applied to all five arrays". -/
structure QPoint where
  freq : List ℝ
  mg0 : List ℝ
  mg1 : List ℝ
  mg2 : List ℝ
  w : ℝ

/-- one mode of one q-point at one (T, V) point: its entries of `freq_array` and of the three mode-γ arrays -/
structure ModeRec where
  f : ℝ
  m0 : ℝ
  m1 : ℝ
  m2 : ℝ

/-- the five quantities the phonon-contribution classes compute at one (T, V) point from the `[q][m]` slices, for ANY
prefactors `p` (longitudinal and off-diagonal classes differ only in `p`): zero-point and thermal part of both classes and
the isothermal→adiabatic term.  `value_isothermal`, `value_adiabatic` are sums of these (+ a pressure term that does not
read the arrays). -/
noncomputable def pointValues (h k hdk : ℝ) (na : ℕ) (T V cv : ℝ) (p : Pref ℝ)
    (freq mg0 mg1 mg2 : List (List ℝ)) (w : List ℝ) : List ℝ :=
  [zeroPointLongAt h na V (modeGamma p mg0 mg1 mg2) freq w,
   thermalLongAt k hdk na T V (modeGamma p mg0 mg1 mg2) freq w,
   zeroPointOffAt h na V (modeGamma p mg0 mg1 mg2) freq w,
   thermalOffAt k hdk na T V (modeGamma p mg0 mg1 mg2) freq w,
   isoToAdiaAt k hdk na T V cv (modeGamma p mg0 mg1 mg2) freq w]

/-- the four results of the non-shear classes at one (T, V) point of one volume slice: `value_isothermal` and `value_adiabatic`
of the longitudinal and of the off-diagonal class (`P` = `pressures[t][v]`, `cv` = `heat_capacity[t][v]`) -/
noncomputable def values (c : Consts ℝ) (T P cv : ℝ) (s : VolSlice ℝ) (w : List ℝ) : List ℝ :=
  [valueIsothermalLongAt c w T s, valueIsothermalOffAt c w T P s, valueAdiabaticLongAt c w T cv s,
   valueAdiabaticOffAt c w T P cv s]

theorem values_eq_of_pointValues (c : Consts ℝ) (T P cv : ℝ) (s s' : VolSlice ℝ) (w w' : List ℝ)
    (hV : s'.V = s.V) (he0 : s'.e0 = s.e0) (he1 : s'.e1 = s.e1) (hp : s'.pstatic = s.pstatic)
    (hL : pointValues c.h c.k c.hdk c.na T s.V cv (prefactorsLong s.e0 s.e1) s.freq s.mg0 s.mg1 s.mg2 w
      = pointValues c.h c.k c.hdk c.na T s.V cv (prefactorsLong s.e0 s.e1) s'.freq s'.mg0 s'.mg1 s'.mg2 w')
    (hO : pointValues c.h c.k c.hdk c.na T s.V cv (prefactorsOff s.e0 s.e1) s.freq s.mg0 s.mg1 s.mg2 w
      = pointValues c.h c.k c.hdk c.na T s.V cv (prefactorsOff s.e0 s.e1) s'.freq s'.mg0 s'.mg1 s'.mg2 w') :
    values c T P cv s w = values c T P cv s' w' := by
  simp only [pointValues, List.cons.injEq, and_true] at hL hO
  obtain ⟨l1, l2, -, -, l5⟩ := hL
  obtain ⟨-, -, o3, o4, o5⟩ := hO
  unfold values valueAdiabaticLongAt valueAdiabaticOffAt valueIsothermalLongAt valueIsothermalOffAt mgLong mgOff
  rw [hV, he0, he1, hp, l1, l2, l5, o3, o4, o5]

theorem isothermal_of_values {c : Consts ℝ} {T P cv : ℝ} {s s' : VolSlice ℝ} {w w' : List ℝ}
    (h : values c T P cv s w = values c T P cv s' w') :
    valueIsothermalLongAt c w T s = valueIsothermalLongAt c w' T s' ∧
    valueIsothermalOffAt c w T P s = valueIsothermalOffAt c w' T P s' := by
  simp only [values, List.cons.injEq, and_true] at h
  exact ⟨h.1, h.2.1⟩

/-- the volume slice whose arrays are the projections of a list of q-point records -/
def sliceOfQ (V e0 e1 pst : ℝ) (qs : List QPoint) : VolSlice ℝ :=
  { V := V, e0 := e0, e1 := e1, pstatic := pst, freq := qs.map (·.freq), mg0 := qs.map (·.mg0), mg1 := qs.map (·.mg1),
    mg2 := qs.map (·.mg2) }

/-- the volume slice whose arrays are the images of a spectrum of mode records -/
def sliceOfM (V e0 e1 pst : ℝ) (S : List (List ModeRec)) : VolSlice ℝ :=
  { V := V, e0 := e0, e1 := e1, pstatic := pst, freq := S.map (List.map (·.f)), mg0 := S.map (List.map (·.m0)),
    mg1 := S.map (List.map (·.m1)), mg2 := S.map (List.map (·.m2)) }

end Cij.NonShear

/-! ## Eulerian strain with another reference volume -/
namespace Cij.FullModulus

/-- qha `calculate_eulerian_strain(v0, v) = 1/2 · ((v0 / v)^(2/3) − 1)` -/
noncomputable def eulerian (v0 v : ℝ) : ℝ := 1 / 2 * ((v0 / v) ^ ((2 : ℝ) / 3) - 1)

/-- changing the reference volume `V₀ → V₀'` (what reordering the rows of the static table does: `V₀ = volumes[0]`)
changes every Eulerian strain by ONE affine map `f ↦ c·f + (c − 1)/2`, `c = (V₀'/V₀)^(2/3) > 0` -/
theorem eulerian_affine (v0 v0' v : ℝ) (h0 : 0 < v0) (h0' : 0 < v0') (hv : 0 < v) :
    eulerian v0' v = (v0' / v0) ^ ((2 : ℝ) / 3) * eulerian v0 v + ((v0' / v0) ^ ((2 : ℝ) / 3) - 1) / 2 := by
  unfold eulerian
  have e : v0' / v = (v0' / v0) * (v0 / v) := by field_simp
  rw [e, Real.mul_rpow (by positivity) (by positivity)]
  ring

theorem eulerian_factor_pos (v0 v0' : ℝ) (h0 : 0 < v0) (h0' : 0 < v0') : 0 < (v0' / v0) ^ ((2 : ℝ) / 3) :=
  Real.rpow_pos_of_pos (by positivity) _

end Cij.FullModulus
