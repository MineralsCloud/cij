/- Lemmas about `CijModel/Interp.lean`.  Its list-level numeric code is read through Mathlib's `Polynomial` (`toPoly`, `newtonPoly`), so
that degree bounds and root counting decide uniqueness and exactness; the rest is what the double loop returns, index by index. -/
import CijModel.Interp
import Mathlib.Algebra.Polynomial.Roots
import Mathlib.Algebra.Polynomial.Derivative
import Mathlib.Algebra.Order.BigOperators.Ring.List
import Mathlib.Algebra.BigOperators.Ring.List
import Mathlib.Tactic.Ring
import Mathlib.Tactic.Linarith
import Mathlib.Tactic.FieldSimp
import Mathlib.Analysis.SpecialFunctions.Log.Basic
import Mathlib.Analysis.SpecialFunctions.Pow.Real

namespace Cij.Interp
open Polynomial

section PolyRing
variable {R : Type} [CommRing R]

theorem npow_eq_pow (x : R) (n : ℕ) : npow x n = x ^ n := by
  induction n with
  | zero => simp [npow]
  | succ n ih => simp [npow, ih, pow_succ]

/-- the polynomial denoted by a numpy coefficient list (highest power first) -/
noncomputable def toPoly : List R → R[X]
  | [] => 0
  | c :: cs => C c * X ^ cs.length + toPoly cs

theorem foldl_horner (x : R) (p : List R) (a : R) :
    p.foldl (fun acc c => acc * x + c) a = a * x ^ p.length + (toPoly p).eval x := by
  induction p generalizing a with
  | nil => simp [toPoly]
  | cons c cs ih =>
    simp only [List.foldl_cons, ih, toPoly, List.length_cons, eval_add, eval_mul, eval_C, eval_pow, eval_X]
    ring

theorem polyval_eq_eval (p : List R) (x : R) : polyval p x = (toPoly p).eval x := by
  unfold polyval
  rw [foldl_horner]; simp

theorem natDegree_toPoly_le (p : List R) : (toPoly p).natDegree ≤ p.length - 1 := by
  induction p with
  | nil => simp [toPoly]
  | cons c cs ih =>
    simp only [toPoly, List.length_cons, Nat.add_sub_cancel]
    refine (natDegree_add_le _ _).trans (max_le (natDegree_C_mul_X_pow_le _ _) (ih.trans (Nat.sub_le _ _)))

theorem natDegree_toPoly_lt (p : List R) (n : ℕ) (h : p.length ≤ n) (hn : 0 < n) : (toPoly p).natDegree < n := by
  have := natDegree_toPoly_le p
  omega

theorem natDegree_sub_toPoly_lt (p q : List R) (n : ℕ) (hp : p.length ≤ n) (hq : q.length ≤ n) (hn : 0 < n) :
    (toPoly p - toPoly q).natDegree < n :=
  lt_of_le_of_lt (natDegree_sub_le _ _) (max_lt (natDegree_toPoly_lt p n hp hn) (natDegree_toPoly_lt q n hq hn))

theorem length_polyder (c : R) (cs : List R) : (polyder (c :: cs)).length = cs.length := by
  induction cs generalizing c with
  | nil => rfl
  | cons d ds ih => rw [polyder, List.length_cons, ih, List.length_cons]

theorem toPoly_polyder (p : List R) : toPoly (polyder p) = derivative (toPoly p) := by
  induction p using polyder.induct with
  | case1 => simp [polyder, toPoly]
  | case2 c => simp [polyder, toPoly]
  | case3 c c' cs ih =>
    rw [polyder, toPoly, ih, length_polyder]
    simp only [toPoly, List.length_cons, derivative_add, derivative_mul, derivative_C, zero_mul, zero_add,
      derivative_X_pow, Nat.add_sub_cancel, map_mul, map_natCast]
    push_cast
    ring

end PolyRing

section Newton
variable {K : Type} [Field K]

/-- `Π_j (X − x_j)` -/
noncomputable def nodePoly : List (K × K) → K[X]
  | [] => 1
  | n :: l => (X - C n.1) * nodePoly l

/-- `Σ_k c_k Π_{j<k} (X − x_j)` in nested form -/
noncomputable def newtonPoly : List (K × K) → K[X]
  | [] => 0
  | n :: l => C n.2 + (X - C n.1) * newtonPoly l

/-- the state of `newtonFold` denoted by a pair of polynomials: values and two derivatives at `x` -/
noncomputable def stOf (A W : K[X]) (x : K) : Triple K × Triple K :=
  ((A.eval x, (derivative A).eval x, (derivative (derivative A)).eval x),
   (W.eval x, (derivative W).eval x, (derivative (derivative W)).eval x))

/-- `A ↦ A + c_k W`, `W ↦ W (X − x_k)`: Leibniz for the two derivatives -/
theorem newtonFold_cons_stOf (x xk ck : K) (l : List (K × K)) (A W : K[X]) :
    newtonFold x ((xk, ck) :: l) (stOf A W x) = newtonFold x l (stOf (A + C ck * W) (W * (X - C xk)) x) := by
  simp only [stOf, newtonFold, derivative_add, derivative_mul, derivative_C, zero_mul, zero_add, eval_add, eval_mul, eval_C,
    derivative_sub, derivative_X, sub_zero, mul_one, eval_sub, eval_X, add_assoc]

theorem newtonFold_stOf (x : K) (l : List (K × K)) (A W : K[X]) :
    newtonFold x l (stOf A W x) = stOf (A + W * newtonPoly l) (W * nodePoly l) x := by
  induction l generalizing A W with
  | nil => simp [newtonFold, newtonPoly, nodePoly]
  | cons n l ih =>
    obtain ⟨xk, ck⟩ := n
    have eA : A + C ck * W + W * (X - C xk) * newtonPoly l = A + W * (C ck + (X - C xk) * newtonPoly l) := by ring
    rw [newtonFold_cons_stOf, ih, newtonPoly, nodePoly, eA, mul_assoc]

theorem newtonInit_eq (x : K) : (newtonInit : Triple K × Triple K) = stOf 0 1 x := by
  simp [newtonInit, stOf]

theorem newtonEval_eq (l : List (K × K)) (x : K) :
    newtonEval l x = ((newtonPoly l).eval x, (derivative (newtonPoly l)).eval x,
      (derivative (derivative (newtonPoly l))).eval x) := by
  unfold newtonEval
  rw [newtonInit_eq x, newtonFold_stOf]
  simp [stOf]

theorem newtonProd_eq (l : List (K × K)) (x : K) : newtonProd l x = (nodePoly l).eval x := by
  unfold newtonProd
  rw [newtonInit_eq x, newtonFold_stOf]
  simp [stOf]

theorem newtonPoly_append (l : List (K × K)) (n : K × K) :
    newtonPoly (l ++ [n]) = newtonPoly l + C n.2 * nodePoly l := by
  induction l with
  | nil => simp [newtonPoly, nodePoly]
  | cons m l ih => simp only [List.cons_append, newtonPoly, nodePoly, ih]; ring

theorem nodePoly_eval_mem (l : List (K × K)) (x : K) (h : x ∈ l.map Prod.fst) : (nodePoly l).eval x = 0 := by
  induction l with
  | nil => simp at h
  | cons m l ih =>
    simp only [List.map_cons, List.mem_cons] at h
    simp only [nodePoly, eval_mul, eval_sub, eval_X, eval_C]
    rcases h with h | h
    · simp [h]
    · simp [ih h]

theorem nodePoly_eval_ne (l : List (K × K)) (x : K) (h : x ∉ l.map Prod.fst) : (nodePoly l).eval x ≠ 0 := by
  induction l with
  | nil => simp [nodePoly]
  | cons m l ih =>
    simp only [List.map_cons, List.mem_cons, not_or] at h
    simp only [nodePoly, eval_mul, eval_sub, eval_X, eval_C]
    exact mul_ne_zero (sub_ne_zero.mpr h.1) (ih h.2)

theorem natDegree_newtonPoly_le (l : List (K × K)) : (newtonPoly l).natDegree ≤ l.length - 1 := by
  induction l with
  | nil => simp [newtonPoly]
  | cons m l ih =>
    simp only [newtonPoly, List.length_cons, Nat.add_sub_cancel]
    refine (natDegree_add_le _ _).trans (max_le (by simp) ?_)
    cases l with
    | nil => simp [newtonPoly]
    | cons m' l' =>
      refine natDegree_mul_le.trans ?_
      have h1 : (X - C m.1 : K[X]).natDegree = 1 := natDegree_X_sub_C _
      simp only [List.length_cons, Nat.add_sub_cancel] at ih ⊢
      omega

theorem newtonBuild_interp (data pre built : List (K × K))
    (hnodes : built.map Prod.fst = pre.map Prod.fst)
    (hint : ∀ p ∈ pre, (newtonPoly built).eval p.1 = p.2)
    (hnd : ((pre ++ data).map Prod.fst).Nodup) :
    (∀ p ∈ pre ++ data, (newtonPoly (newtonBuild data built)).eval p.1 = p.2) ∧
      (newtonBuild data built).length = pre.length + data.length := by
  induction data generalizing pre built with
  | nil =>
    have := congrArg List.length hnodes
    simp only [List.length_map] at this
    simpa [newtonBuild, this] using hint
  | cons d data ih =>
    obtain ⟨xk, yk⟩ := d
    rw [newtonBuild]
    have hx : xk ∉ built.map Prod.fst := by
      rw [hnodes]
      simp only [List.map_append, List.map_cons] at hnd
      have := (List.nodup_append.mp hnd).2.2
      intro hmem
      exact this xk hmem xk (by simp) rfl
    have hW := nodePoly_eval_ne built xk hx
    have key := ih (pre ++ [(xk, yk)]) (built ++ [(xk, (yk - (newtonEval built xk).1) / newtonProd built xk)])
      (by simp [hnodes])
      (by
        intro p hp
        rw [newtonPoly_append, newtonEval_eq, newtonProd_eq]
        simp only [eval_add, eval_mul, eval_C]
        rcases List.mem_append.mp hp with hp | hp
        · have : (nodePoly built).eval p.1 = 0 :=
            nodePoly_eval_mem built p.1 (by rw [hnodes]; exact List.mem_map_of_mem hp)
          rw [this, hint p hp]; ring
        · simp only [List.mem_singleton] at hp
          subst hp
          field_simp
          ring)
      (by simpa using hnd)
    constructor
    · intro p hp
      exact key.1 p (by simpa using hp)
    · rw [key.2]; simp; omega

end Newton

section Lsq

theorem zipWith_eq_map_zip' {α β γ : Type} (f : α → β → γ) (xs : List α) (ys : List β) :
    List.zipWith f xs ys = (xs.zip ys).map fun p => f p.1 p.2 :=
  (List.map_zip_eq_zipWith (f := fun p => f p.1 p.2)).symm

theorem zipWith_zipWith' {α β γ δ : Type} (g : α → γ → δ) (f : α → β → γ) (xs : List α) (ys : List β) :
    List.zipWith g xs (List.zipWith f xs ys) = (xs.zip ys).map fun p => g p.1 (f p.1 p.2) := by
  induction xs generalizing ys with
  | nil => simp
  | cons x xs ih => cases ys <;> simp [ih]

theorem map_zip_fst {α β γ : Type} (f : α → γ) (xs : List α) (ys : List β) (h : xs.length ≤ ys.length) :
    (xs.zip ys).map (fun p => f p.1) = xs.map f := by
  have e : (fun p : α × β => f p.1) = f ∘ Prod.fst := rfl
  rw [e, ← List.map_map, List.map_fst_zip h]

variable {K : Type} [Field K]

theorem sumL_eq_sum (l : List K) : sumL l = l.sum := by
  induction l with
  | nil => simp [sumL]
  | cons x l ih => simp only [sumL, List.foldr_cons, List.sum_cons] at ih ⊢; rw [ih]

theorem moment_residuals (xs ys a : List K) (k : ℕ) :
    moment xs (residuals xs ys a) k = ((xs.zip ys).map fun p => p.1 ^ k * (polyval a p.1 - p.2)).sum := by
  unfold moment residuals
  rw [sumL_eq_sum, zipWith_zipWith']
  simp only [npow_eq_pow]

theorem list_sum_finset_sum {ι β : Type} (l : List β) (s : Finset ι) (f : ι → β → K) :
    (l.map fun p => ∑ i ∈ s, f i p).sum = ∑ i ∈ s, (l.map (f i)).sum := by
  induction l with
  | nil => simp
  | cons x l ih => simp [ih, Finset.sum_add_distrib]

theorem moments_kill {β : Type} (pts : List β) (x e : β → K) (n : ℕ)
    (h : ∀ k < n, (pts.map fun p => x p ^ k * e p).sum = 0) (Q : K[X]) (hQ : Q.natDegree < n) :
    (pts.map fun p => Q.eval (x p) * e p).sum = 0 := by
  have : (fun p => Q.eval (x p) * e p) = fun p => ∑ i ∈ Finset.range n, Q.coeff i * (x p ^ i * e p) := by
    funext p
    rw [eval_eq_sum_range' hQ, Finset.sum_mul]
    exact Finset.sum_congr rfl fun i _ => by ring
  rw [this, list_sum_finset_sum]
  refine Finset.sum_eq_zero fun i hi => ?_
  rw [List.sum_map_mul_left, h i (Finset.mem_range.mp hi), mul_zero]

theorem coeff_toPoly_length (p : List K) : (toPoly p).coeff p.length = 0 := by
  cases p with
  | nil => simp [toPoly]
  | cons c cs =>
    apply coeff_eq_zero_of_natDegree_lt
    have := natDegree_toPoly_le (c :: cs)
    simp only [List.length_cons, Nat.add_sub_cancel] at this ⊢
    omega

theorem toPoly_injective (a c : List K) (h : a.length = c.length) (heq : toPoly a = toPoly c) : a = c := by
  induction a generalizing c with
  | nil => cases c with
    | nil => rfl
    | cons _ _ => simp at h
  | cons a0 as ih => cases c with
    | nil => simp at h
    | cons c0 cs =>
      simp only [List.length_cons, Nat.add_right_cancel_iff] at h
      simp only [toPoly] at heq
      have hc := congrArg (fun q => q.coeff as.length) heq
      simp only [coeff_add, coeff_C_mul, coeff_X_pow, if_true, mul_one] at hc
      rw [coeff_toPoly_length, h, if_pos rfl, coeff_toPoly_length] at hc
      simp only [mul_one, add_zero] at hc
      subst hc
      rw [h] at heq
      rw [ih cs h (add_left_cancel heq)]

variable [LinearOrder K] [IsStrictOrderedRing K]

/-- root counting: `Σ_r P(x_r)² = 0` by `moments_kill`, so `P` has `n` roots -/
theorem eq_zero_of_moments_eq_zero (xs : List K) (P : K[X]) (n : ℕ) (hdeg : P.natDegree < n) (hdist : n ≤ xs.toFinset.card)
    (hm : ∀ k < n, (xs.map fun x => x ^ k * P.eval x).sum = 0) : P = 0 := by
  have hk := moments_kill xs (fun x => x) (fun x => P.eval x) n hm P hdeg
  have hnn : ∀ v ∈ xs.map fun x => P.eval x * P.eval x, 0 ≤ v := fun v hv => by
    obtain ⟨x, _, rfl⟩ := List.mem_map.mp hv
    exact mul_self_nonneg _
  refine eq_zero_of_natDegree_lt_card_of_eval_eq_zero' P xs.toFinset (fun x hx => ?_) (lt_of_lt_of_le hdeg hdist)
  exact mul_self_eq_zero.mp (List.all_zero_of_le_zero_le_of_sum_eq_zero hnn hk
    (List.mem_map_of_mem (f := fun x => P.eval x * P.eval x) (List.mem_toFinset.mp hx)))

end Lsq

section Loop

theorem stride_map {β γ : Type} (f : β → γ) (i : ℕ) (l : List β) : stride i (l.map f) = (stride i l).map f := by
  unfold stride
  rw [List.map_filterMap, List.length_map]
  refine List.filterMap_congr fun k _ => ?_
  simp [List.getElem?_map]

theorem thin_map {β γ : Type} (f : β → γ) (order : ℕ) (l : List β) : thin order (l.map f) = (thin order l).map f := by
  unfold thin
  rw [List.length_map, stride_map]

theorem stride_nodup {β : Type} (i : ℕ) (l : List β) (h : l.Nodup) : (stride i l).Nodup := by
  unfold stride
  rcases Nat.eq_zero_or_pos i with rfl | hi
  · simp
  · refine List.Nodup.filterMap ?_ List.nodup_range
    intro a a' b hb hb'
    simp only [Option.mem_def] at hb hb'
    obtain ⟨h1, e1⟩ := List.getElem?_eq_some_iff.mp hb
    obtain ⟨h2, e2⟩ := List.getElem?_eq_some_iff.mp hb'
    have := (List.Nodup.getElem_inj_iff h).mp (e1.trans e2.symm)
    exact Nat.eq_of_mul_eq_mul_right hi this

theorem thin_nodup {β : Type} (order : ℕ) (l : List β) (h : l.Nodup) : (thin order l).Nodup :=
  stride_nodup _ l h

theorem thin_subset {β : Type} (order : ℕ) (l : List β) : ∀ x ∈ thin order l, x ∈ l := by
  intro x hx
  unfold thin stride at hx
  obtain ⟨k, _, hk⟩ := List.mem_filterMap.mp hx
  exact List.mem_of_getElem? hk

theorem stride_pairwise {β : Type} (R : β → β → Prop) (k : ℕ) (hk : 0 < k) (l : List β) (h : l.Pairwise R) :
    (stride k l).Pairwise R := by
  unfold stride
  refine List.Pairwise.filterMap _ ?_ (List.pairwise_lt_range)
  intro i i' hii b hb b' hb'
  obtain ⟨h1, rfl⟩ := List.getElem?_eq_some_iff.mp hb
  obtain ⟨h2, rfl⟩ := List.getElem?_eq_some_iff.mp hb'
  exact List.pairwise_iff_getElem.mp h _ _ h1 h2 (Nat.mul_lt_mul_of_pos_right hii hk)

theorem thin_pairwise {β : Type} (R : β → β → Prop) (order : ℕ) (l : List β) (h : l.Pairwise R) :
    (thin order l).Pairwise R := by
  unfold thin
  rcases Nat.eq_zero_or_pos (thinInterval l.length order) with h0 | hpos
  · rw [h0]; simp [stride]
  · exact stride_pairwise R _ hpos l h

theorem thin_length_congr {β γ : Type} (order : ℕ) (l : List β) (l' : List γ) (h : l.length = l'.length) :
    (thin order l).length = (thin order l').length := by
  have e1 : (thin order l).length = (thin order (l.map fun _ => ())).length := by rw [thin_map, List.length_map]
  have e2 : (thin order l').length = (thin order (l'.map fun _ => ())).length := by rw [thin_map, List.length_map]
  rw [e1, e2, List.map_const', List.map_const', h]

theorem collect_eq_ok {β : Type} (l : List (Except Err β)) (r : List β) :
    collect l = .ok r ↔ l = r.map .ok := by
  induction l generalizing r with
  | nil => cases r <;> simp [collect]
  | cons e l ih =>
    cases e with
    | error err => cases r <;> simp [collect]
    | ok v =>
      cases r with
      | nil => cases hc : collect l <;> simp [collect, hc]
      | cons w ws =>
        rw [List.map_cons, List.cons.injEq, Except.ok.injEq, ← ih ws]
        cases hc : collect l <;> simp [collect, hc]

theorem collect_range_ok {β : Type} (f : ℕ → Except Err β) (n : ℕ) (r : List β) (h : collect ((List.range n).map f) = .ok r)
    (i : ℕ) (hi : i < n) : ∃ v, f i = .ok v ∧ r[i]? = some v := by
  rw [collect_eq_ok] at h
  have hi' := congrArg (·[i]?) h
  simp only [List.getElem?_map, List.getElem?_range hi, Option.map_some] at hi'
  cases hr : r[i]? with
  | none => rw [hr] at hi'; cases hi'
  | some v =>
    rw [hr, Option.map_some, Option.some.injEq] at hi'
    exact ⟨v, hi', rfl⟩

theorem cellsOf_cell {β : Type} (cf : ℕ → ℕ → Except Err β) (nq np : ℕ) (c : List (List β)) (hc : cellsOf cf nq np = .ok c)
    (j k : ℕ) (hj : j < nq) (hk : k < np) : ∃ col, cf j k = .ok col ∧ c[j]?.bind (·[k]?) = some col := by
  obtain ⟨row, hrow, hcj⟩ := collect_range_ok _ nq c hc j hj
  obtain ⟨col, hcol, hrk⟩ := collect_range_ok _ np row hrow k hk
  exact ⟨col, hcol, by rw [hcj, Option.bind_some, hrk]⟩

end Loop

section Real

noncomputable instance : ExpLog ℝ := ⟨Real.exp, Real.log⟩

theorem finishMode_eq (I : Interpolant ℝ) (nodeVols nodeFreqs vArray : List ℝ) (s s' s'' : ℝ → ℝ)
    (hI : I (nodeVols.map Real.log) (nodeFreqs.map Real.log) (vArray.map Real.log)
        = .ok ((vArray.map Real.log).map fun x => (s x, s' x, s'' x))) :
    finishMode I nodeVols nodeFreqs vArray
      = .ok (vArray.map fun v => (Real.exp (s (Real.log v)), -s' (Real.log v), -s'' (Real.log v))) := by
  unfold finishMode
  simp only [ExpLog.log, ExpLog.exp]
  rw [hI]
  simp [List.map_map, Function.comp_def, bind, Except.bind, pure, Except.pure]

/-- a kernel exact on the polynomial `c` at the log nodes makes the mode output exact on the whole grid -/
theorem finishMode_poly_law (I : Interpolant ℝ) (nv vArray c : List ℝ)
    (hI : I (nv.map Real.log) ((nv.map Real.log).map (polyval c)) (vArray.map Real.log)
        = .ok ((vArray.map Real.log).map fun x => (polyval c x, polyval (polyder c) x, polyval (polyderN 2 c) x))) :
    finishMode I nv (nv.map fun V => Real.exp (polyval c (Real.log V))) vArray
      = .ok (vArray.map fun v => (Real.exp (polyval c (Real.log v)), -polyval (polyder c) (Real.log v),
          -polyval (polyderN 2 c) (Real.log v))) := by
  have hys : (nv.map fun V => Real.exp (polyval c (Real.log V))).map Real.log = (nv.map Real.log).map (polyval c) := by
    simp [List.map_map, Function.comp_def]
  exact finishMode_eq I nv _ vArray (polyval c) (polyval (polyder c)) (polyval (polyderN 2 c)) (by rw [hys]; exact hI)

theorem interpolateMode_lsqPoly {α : Type} [Neg α] [Zero α] [ExpLog α] (order : ℕ) (I : Interpolant α) (vols freqs vArray : List α) :
    interpolateMode .lsqPoly order I vols freqs vArray = finishMode I vols freqs vArray := by
  simp [interpolateMode, modeNodes, bind, Except.bind]

theorem interpolateMode_thinned {α : Type} [Neg α] [Zero α] [ExpLog α] (m : Method)
    (hm : m = .lagrange ∨ m = .krogh ∨ m = .pchip ∨ m = .akima) (order : ℕ) (ho : order ≠ 0) (I : Interpolant α)
    (vols freqs vArray : List α) :
    interpolateMode m order I vols freqs vArray = finishMode I (thin order vols).reverse (thin order freqs).reverse vArray := by
  rcases hm with rfl | rfl | rfl | rfl <;> simp [interpolateMode, modeNodes, ho, bind, Except.bind]

theorem power_law_log (w0 V0 g V : ℝ) (hw : 0 < w0) (hV0 : 0 < V0) (hV : 0 < V) :
    Real.log (w0 * (V / V0) ^ (-g)) = polyval [-g, Real.log w0 + g * Real.log V0] (Real.log V) := by
  have h1 : 0 < (V / V0) ^ (-g) := Real.rpow_pos_of_pos (div_pos hV hV0) _
  rw [Real.log_mul hw.ne' h1.ne', Real.log_rpow (div_pos hV hV0), Real.log_div hV.ne' hV0.ne']
  simp [polyval]; ring

theorem log_nodes_card (vols : List ℝ) (hpos : ∀ V ∈ vols, 0 < V) : (vols.map Real.log).toFinset.card = vols.toFinset.card := by
  have : (vols.map Real.log).toFinset = vols.toFinset.image Real.log := Multiset.toFinset_map _ (vols : Multiset ℝ)
  rw [this]
  exact Finset.card_image_of_injOn fun a ha b hb hab =>
    Real.log_injOn_pos (Set.mem_Ioi.mpr (hpos a (List.mem_toFinset.mp ha))) (Set.mem_Ioi.mpr (hpos b (List.mem_toFinset.mp hb))) hab

end Real

section NormalEq
variable {K : Type} [Field K] [DecidableEq K]

theorem normalEq_iff (xs ys : List K) (order : ℕ) (a : List K) :
    normalEq xs ys order a = true ↔
      a.length = order + 1 ∧
        ∀ k < order + 1, ((xs.zip ys).map fun p => p.1 ^ k * (polyval a p.1 - p.2)).sum = 0 := by
  simp only [normalEq, Bool.and_eq_true, beq_iff_eq, List.all_eq_true, List.mem_range, moment_residuals]

end NormalEq

section Entry
variable {α : Type} [Neg α] [Zero α] [ExpLog α]

/-- entry `[t][j][k]` of an assembled array -/
def entry (A : List (List (List α))) (t j k : ℕ) : Option α := (A[t]?.bind (·[j]?)).bind (·[k]?)

omit [Neg α] [ExpLog α] in
theorem assemble_entry (ntv : ℕ) (c : List (List (List (Triple α)))) (sel : Triple α → α) (t j k : ℕ) (ht : t < ntv)
    (col : List (Triple α)) (hjk : c[j]?.bind (·[k]?) = some col) :
    entry (assemble ntv c sel) t j k = some (sel (col.getD t (0, 0, 0))) := by
  obtain ⟨row, hrow, hcol⟩ := Option.bind_eq_some_iff.mp hjk
  simp [entry, assemble, List.getElem?_range ht, hrow, hcol]

theorem modes_cell (m : Method) (order : ℕ) (I : Interpolant α) (vols vArray : List α) (nq np : ℕ)
    (freqs : List (List (List α))) (F G D : List (List (List α)))
    (h : interpolateModes m order I vols vArray nq np freqs = .ok (F, G, D))
    (t j k : ℕ) (ht : t < vArray.length) (hj : j < nq) (hk : k < np) :
    ∃ col, cell m order I vols vArray j k (series freqs j k) = .ok col ∧
      entry F t j k = some (col.getD t (0, 0, 0)).1 ∧ entry G t j k = some (col.getD t (0, 0, 0)).2.1 ∧
      entry D t j k = some (col.getD t (0, 0, 0)).2.2 := by
  unfold interpolateModes at h
  cases hc : cells m order I vols vArray nq np freqs with
  | error e => rw [hc] at h; cases h
  | ok c =>
    rw [hc] at h
    simp only [bind, Except.bind, pure, Except.pure, Except.ok.injEq, Prod.mk.injEq] at h
    obtain ⟨rfl, rfl, rfl⟩ := h
    obtain ⟨col, hcol, hjk⟩ := cellsOf_cell (fun j k => cell m order I vols vArray j k (series freqs j k)) nq np c hc j k hj hk
    exact ⟨col, hcol, assemble_entry _ c _ t j k ht col hjk, assemble_entry _ c _ t j k ht col hjk,
      assemble_entry _ c _ t j k ht col hjk⟩

end Entry

end Cij.Interp
