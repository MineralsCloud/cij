/-
  Meaning of the pressure-range guard translated from cij/core/qha_adapter.py (Generated/AdapterGuard.lean) on the two
  fields cij reads from qha, and the proof that the hand-written model `V2P.desiredPressureStatus` IS that meaning.
-/
import CijModel.V2P
import CijModel.GuardExpr
import Generated.AdapterGuard
namespace Cij.AdapterGuardSource
open Cij.V2P Cij.GuardExpr

section
variable {α : Type} [OfNat α 0] [LT α] [DecidableLT α]

/-- the array one side of the guard reduces: `none` = a field or a selection the (T,V)/(P) data of the model has no meaning for
(the tie is then broken: the theorem below cannot hold) -/
def sideArray (s : Side) (pTvGpa : List (List α)) (desiredGpa : List α) : Option (List α) :=
  if s.field = "p_tv_gpa" then
    match s.sel with
    | .lastColumn => some (lastColumn pTvGpa)
    | .firstColumn => some (pTvGpa.map fun row => row.headD 0)
    | .all => none
  else if s.field = "desired_pressures_gpa" then
    match s.sel with
    | .all => some desiredGpa
    | _ => none
  else none

/-- Python exception raised by the guard → the model's error enum -/
def errOf (name : String) : Option Err :=
  if name = "ValueError" then some .valueError else if name = "IndexError" then some .indexError
  else if name = "AttributeError" then some .attributeError else none

/-- semantics of `if <left> <op> <right>: raise E`; as in numpy, `a[:, -1]` of a table with an empty row is an IndexError and
`min()`/`max()` of an empty array a ValueError -/
def evalGuard (g : Guard) (pTvGpa : List (List α)) (desiredGpa : List α) : Option (Except Err Unit) :=
  match sideArray g.left pTvGpa desiredGpa, sideArray g.right pTvGpa desiredGpa, errOf g.raises with
  | some l, some r, some e =>
    if pTvGpa.any (fun row => row.isEmpty) then some (.error .indexError) else
    match reduce g.left.red l, reduce g.right.red r with
    | some a, some b => some (if cmp g.op a b then .error e else .ok ())
    | _, _ => some (.error .valueError)
  | _, _, _ => none

/-- **The model's range check is the guard written in qha_adapter.py now**, for every (T,V) pressure table and every requested
grid, over every scalar type with a decidable `<`. -/
theorem desiredPressureStatus_is_source (pTvGpa : List (List α)) (desiredGpa : List α) :
    evalGuard Generated.pressureGuard pTvGpa desiredGpa = some (desiredPressureStatus pTvGpa desiredGpa) := by
  unfold evalGuard desiredPressureStatus
  simp only [Generated.pressureGuard, sideArray, errOf, if_true]
  by_cases hemp : pTvGpa.any (fun row => row.isEmpty) = true
  · simp [hemp]
  · simp only [hemp]
    cases hl : lastColumn pTvGpa with
    | nil => simp [reduce, listMin]
    | cons x xs =>
      cases hr : desiredGpa with
      | nil => simp [reduce, listMin, listMax]
      | cons y ys => simp [reduce, listMin, listMax, cmp]

end

/-- the loading sequence: the file is handed to qha, the grid refined, and the range guard applied LAST, on the refined grid -/
theorem load_order_is_source :
    Generated.adapterLoadCalls = [("read_input", "qha_input"), ("refine_grid", ""), ("desired_pressure_status", "")] :=
  rfl

end Cij.AdapterGuardSource
