/-
  More about read-through memoisation (core Lean only):
  totality of histories under a rank, several objects, monotonicity of the memo table (a cached value is never
  replaced), existence and uniqueness of the pure denotation of a ranked property graph, and the graph built from a
  translated `(name, isLazy, reads)` table (`CijModel/LazyGraph.lean`).
-/
import CijProofs.Lemmas.Memo
import CijModel.LazyGraph
namespace Cij.Memo

variable {ν β : Type} [DecidableEq ν]

/-! ### histories: totality, concatenation -/

theorem history_total {rk : ν → Nat} {defs : ν → Body ν β} (hdefs : ∀ n, ReadsBelow rk (rk n) (defs n))
    (fuel : Nat) (hf : ∀ n, rk n < fuel) : ∀ (ns : List ν) (t : Table ν β), (history defs fuel ns t).isSome := by
  intro ns
  induction ns with
  | nil => intro t; rfl
  | cons n ns ih =>
    intro t
    obtain ⟨⟨v1, t1⟩, hr⟩ := Option.isSome_iff_exists.1 (readProp_total hdefs fuel n t (hf n))
    rw [history_cons, hr, Option.bind_some, Option.isSome_map]
    exact ih t1

theorem history_append (defs : ν → Body ν β) (fuel : Nat) : ∀ (a b : List ν) (t : Table ν β),
    history defs fuel (a ++ b) t =
      (history defs fuel a t).bind fun p => (history defs fuel b p.2).map fun q => (p.1 ++ q.1, q.2) := by
  intro a
  induction a with
  | nil =>
    intro b t
    show history defs fuel b t = (history defs fuel b t).map fun q => ([] ++ q.1, q.2)
    cases history defs fuel b t <;> rfl
  | cons n ns ih =>
    intro b t
    rw [List.cons_append, history_cons, history_cons]
    cases readProp defs fuel n t with
    | none => rfl
    | some p =>
      rw [Option.bind_some, Option.bind_some, ih]
      cases history defs fuel ns p.2 with
      | none => rfl
      | some q =>
        simp only [Option.map_some, Option.bind_some]
        cases history defs fuel b q.2 <;> rfl

/-! ### several objects, each with its own table -/

theorem historyMulti_cons {ι : Type} [DecidableEq ι] (defs : ι → ν → Body ν β) (fuel : Nat) (i : ι) (n : ν)
    (ops : List (ι × ν)) (ts : ι → Table ν β) :
    historyMulti defs fuel ((i, n) :: ops) ts =
      (readProp (defs i) fuel n (ts i)).bind fun p =>
        (historyMulti defs fuel ops fun j => if j = i then p.2 else ts j).map fun q => (p.1 :: q.1, q.2) := by
  rw [historyMulti]
  cases readProp (defs i) fuel n (ts i) <;> rfl

theorem historyMulti_sound {ι : Type} [DecidableEq ι] {spec : ι → ν → β} {defs : ι → ν → Body ν β}
    (hspec : ∀ i n, spec i n = denote (spec i) (defs i n)) (fuel : Nat) :
    ∀ (ops : List (ι × ν)) (ts : ι → Table ν β) vs ts', (∀ i, Consistent (spec i) (ts i)) →
      historyMulti defs fuel ops ts = some (vs, ts') →
      vs = ops.map (fun o => spec o.1 o.2) ∧ ∀ i, Consistent (spec i) (ts' i) := by
  intro ops
  induction ops with
  | nil => intro ts vs ts' ht h; cases h; exact ⟨rfl, ht⟩
  | cons o ops ih =>
    obtain ⟨i, n⟩ := o
    intro ts vs ts' ht h
    rw [historyMulti_cons, Option.bind_eq_some_iff] at h
    obtain ⟨⟨v1, t1⟩, hr, h⟩ := h
    obtain ⟨⟨vs1, ts1⟩, hh, h⟩ := Option.map_eq_some_iff.1 h
    cases h
    obtain ⟨rfl, ht1⟩ := readProp_sound (hspec i) fuel n (ts i) v1 t1 (ht i) hr
    have hts : ∀ j, Consistent (spec j) (if j = i then t1 else ts j) := by
      intro j
      by_cases hji : j = i
      · subst hji; rw [if_pos rfl]; exact ht1
      · rw [if_neg hji]; exact ht j
    obtain ⟨rfl, ht2⟩ := ih _ vs1 ts1 hts hh
    exact ⟨rfl, ht2⟩

theorem historyMulti_total {ι : Type} [DecidableEq ι] {rk : ι → ν → Nat} {defs : ι → ν → Body ν β}
    (hdefs : ∀ i n, ReadsBelow (rk i) (rk i n) (defs i n)) (fuel : Nat) (hf : ∀ i n, rk i n < fuel) :
    ∀ (ops : List (ι × ν)) (ts : ι → Table ν β), (historyMulti defs fuel ops ts).isSome := by
  intro ops
  induction ops with
  | nil => intro ts; rfl
  | cons o ops ih =>
    obtain ⟨i, n⟩ := o
    intro ts
    obtain ⟨⟨v1, t1⟩, hr⟩ := Option.isSome_iff_exists.1 (readProp_total (hdefs i) fuel n (ts i) (hf i n))
    rw [historyMulti_cons, hr, Option.bind_some, Option.isSome_map]
    exact ih _

omit [DecidableEq ν] in
/-- the values of object `i` picked out of an interleaved run -/
theorem filter_zip_values {ι : Type} [DecidableEq ι] (spec : ι → ν → β) (i : ι) : ∀ (ops : List (ι × ν)),
    ((List.zip ops (ops.map fun o => spec o.1 o.2)).filter (fun p => decide (p.1.1 = i))).map (·.2) =
      ((ops.filter (fun o => decide (o.1 = i))).map (·.2)).map (spec i)
  | [] => by simp
  | (j, n) :: ops => by
    have ih := filter_zip_values spec i ops
    by_cases hji : j = i
    · subst hji; simpa using ih
    · simpa [hji] using ih

/-! ### the memo table only grows: a cached value is never replaced -/

/-- `t'` agrees with `t` on everything `t` has -/
def Extends (t t' : Table ν β) : Prop := ∀ m v, t.get? m = some v → t'.get? m = some v

theorem Extends.refl (t : Table ν β) : Extends t t := fun _ _ h => h
theorem Extends.trans {t t' t'' : Table ν β} (h : Extends t t') (h' : Extends t' t'') : Extends t t'' :=
  fun m v hm => h' m v (h m v hm)

def MonoReader (rd : ν → Table ν β → Option (β × Table ν β)) : Prop :=
  ∀ n t v t', rd n t = some (v, t') → Extends t t'

theorem runWith_extends {rd : ν → Table ν β → Option (β × Table ν β)} (hrd : MonoReader rd) :
    ∀ (b : Body ν β) (t : Table ν β) v t', runWith rd b t = some (v, t') → Extends t t' := by
  intro b
  induction b with
  | ret v0 => intro t v t' h; cases h; exact Extends.refl _
  | read n k ih =>
    intro t v t' h
    obtain ⟨v1, t1, hr, h⟩ := runWith_read_eq_some h
    exact (hrd n t v1 t1 hr).trans (ih v1 t1 v t' h)

theorem readProp_extends (defs : ν → Body ν β) : ∀ fuel, MonoReader (readProp defs fuel) := by
  intro fuel
  induction fuel with
  | zero => intro n t v t' h; cases h
  | succ f ih =>
    intro n t v t' h
    rcases readProp_eq_some h with ⟨_, rfl⟩ | ⟨hg, t1, hr, rfl⟩
    · exact Extends.refl _
    · intro m w hm
      rw [get?_cons]
      by_cases hnm : n = m
      · subst hnm; rw [hg] at hm; cases hm
      · rw [if_neg hnm]; exact runWith_extends ih (defs n) t v t1 hr m w hm

/-- after `obj.n` the value is in the cache -/
theorem readProp_cached (defs : ν → Body ν β) (fuel : Nat) (n : ν) (t : Table ν β) (v : β) (t' : Table ν β)
    (h : readProp defs fuel n t = some (v, t')) : t'.get? n = some v := by
  cases fuel with
  | zero => cases h
  | succ f =>
    rcases readProp_eq_some h with ⟨hg, rfl⟩ | ⟨_, t1, _, rfl⟩
    · exact hg
    · rw [get?_cons, if_pos rfl]

theorem history_extends (defs : ν → Body ν β) (fuel : Nat) :
    ∀ (ns : List ν) (t : Table ν β) vs t', history defs fuel ns t = some (vs, t') → Extends t t' := by
  intro ns
  induction ns with
  | nil => intro t vs t' h; cases h; exact Extends.refl _
  | cons n ns ih =>
    intro t vs t' h
    obtain ⟨v1, t1, vs1, hr, hh, _⟩ := history_cons_eq_some h
    exact (readProp_extends defs fuel n t v1 t1 hr).trans (ih t1 vs1 t' hh)

/-- read `n`, then anything, then `n` again: the same value comes back — no hypothesis on the bodies at all -/
theorem read_twice_same (defs : ν → Body ν β) (fuel : Nat) (n : ν) (ns : List ν) (t : Table ν β)
    (vs : List β) (t' : Table ν β) (h : history defs fuel (n :: (ns ++ [n])) t = some (vs, t')) :
    ∃ v mid, vs = v :: (mid ++ [v]) := by
  obtain ⟨v1, t1, vs1, hr, hh, rfl⟩ := history_cons_eq_some h
  rw [history_append, Option.bind_eq_some_iff] at hh
  obtain ⟨⟨mid, t2⟩, h2, hh⟩ := hh
  obtain ⟨⟨last, t3⟩, h3, hh⟩ := Option.map_eq_some_iff.1 hh
  cases hh
  -- the second read of `n` finds the value the first one stored
  have hc : t2.get? n = some v1 :=
    history_extends defs fuel ns t1 mid t2 h2 n v1 (readProp_cached defs fuel n t v1 t1 hr)
  cases fuel with
  | zero => cases hr
  | succ f =>
    rw [history_cons, readProp_hit defs f hc] at h3
    cases h3
    exact ⟨v1, mid, rfl⟩

/-! ### the pure denotation of a ranked graph exists and is unique -/

omit [DecidableEq ν] in
theorem denote_congr {rk : ν → Nat} {r : Nat} {b : Body ν β} (hb : ReadsBelow rk r b) {s1 s2 : ν → β}
    (h : ∀ m, rk m < r → s1 m = s2 m) : denote s1 b = denote s2 b := by
  induction hb with
  | ret v => rfl
  | read n k hn _ ih =>
    simp only [denote]
    rw [h n hn]
    exact ih (s2 n)

/-- `k` rounds of "evaluate every body with the previous round's values" -/
def specN [Inhabited β] (defs : ν → Body ν β) : Nat → ν → β
  | 0, _ => default
  | k + 1, n => denote (specN defs k) (defs n)

omit [DecidableEq ν] in
theorem specN_stable [Inhabited β] {rk : ν → Nat} {defs : ν → Body ν β} (hdefs : ∀ n, ReadsBelow rk (rk n) (defs n)) :
    ∀ (r : Nat) (n : ν) (k k' : Nat), rk n ≤ r → rk n < k → rk n < k' → specN defs k n = specN defs k' n := by
  intro r
  induction r with
  | zero =>
    intro n k k' hr hk hk'
    cases k with
    | zero => omega
    | succ k =>
      cases k' with
      | zero => omega
      | succ k' =>
        simp only [specN]
        exact denote_congr (hdefs n) (fun m hm => by omega)
  | succ r ih =>
    intro n k k' hr hk hk'
    cases k with
    | zero => omega
    | succ k =>
      cases k' with
      | zero => omega
      | succ k' =>
        simp only [specN]
        exact denote_congr (hdefs n) (fun m hm => ih m k k' (by omega) (by omega) (by omega))

/-- the value of property `n` as a pure function of the object's inputs -/
def specOf [Inhabited β] (rk : ν → Nat) (defs : ν → Body ν β) (n : ν) : β := specN defs (rk n + 1) n

omit [DecidableEq ν] in
theorem specOf_spec [Inhabited β] {rk : ν → Nat} {defs : ν → Body ν β} (hdefs : ∀ n, ReadsBelow rk (rk n) (defs n))
    (n : ν) : specOf rk defs n = denote (specOf rk defs) (defs n) := by
  show denote (specN defs (rk n)) (defs n) = denote (specOf rk defs) (defs n)
  exact denote_congr (hdefs n) (fun m hm => specN_stable hdefs (rk m) m (rk n) (rk m + 1) (Nat.le_refl _) hm (by omega))

omit [DecidableEq ν] in
theorem spec_unique {rk : ν → Nat} {defs : ν → Body ν β} (hdefs : ∀ n, ReadsBelow rk (rk n) (defs n))
    {s1 s2 : ν → β} (h1 : ∀ n, s1 n = denote s1 (defs n)) (h2 : ∀ n, s2 n = denote s2 (defs n)) :
    ∀ n, s1 n = s2 n := by
  have key : ∀ (r : Nat) (n : ν), rk n ≤ r → s1 n = s2 n := by
    intro r
    induction r with
    | zero =>
      intro n hr
      rw [h1 n, h2 n]
      exact denote_congr (hdefs n) (fun m hm => by omega)
    | succ r ih =>
      intro n hr
      rw [h1 n, h2 n]
      exact denote_congr (hdefs n) (fun m hm => ih m (by omega))
  exact fun n => key (rk n) n (Nat.le_refl _)

end Cij.Memo

/-! ### the graph built from a translated `(name, isLazy, reads)` table -/
namespace Cij.LazyGraph
open Cij.Memo

theorem readsBelow_chain {ν β : Type} {rk : ν → Nat} {r : Nat} (f : List β → β) :
    ∀ (ds : List ν) (acc : List β), (∀ d ∈ ds, rk d < r) → ReadsBelow rk r (chain f ds acc) := by
  intro ds
  induction ds with
  | nil => intro acc _; exact ReadsBelow.ret _
  | cons d ds ih =>
    intro acc h
    exact ReadsBelow.read d _ (h d (by simp)) (fun v => ih (v :: acc) (fun d' hd' => h d' (by simp [hd'])))

/-- the body of a lazy property denotes `f (values of the properties it reads, in reading order)` -/
theorem denote_chain {ν β : Type} (spec : ν → β) (f : List β → β) :
    ∀ (ds : List ν) (acc : List β), denote spec (chain f ds acc) = f (acc.reverse ++ ds.map spec) := by
  intro ds
  induction ds with
  | nil => intro acc; simp [chain, denote]
  | cons d ds ih => intro acc; simp [chain, denote, ih]

theorem lookup_mem {tab : Tab} {n : String} {b : Bool} {deps : List String} (h : lookup tab n = some (b, deps)) :
    (n, b, deps) ∈ tab := by
  unfold lookup at h
  cases hf : tab.find? (fun r => r.1 == n) with
  | none => simp [hf] at h
  | some r =>
    simp [hf] at h
    have hm := List.mem_of_find?_eq_some hf
    have hn : r.1 = n := by simpa using List.find?_some hf
    obtain ⟨r1, r2⟩ := r
    simp at hn h
    subst hn; subst h
    exact hm

theorem ranked_row {tab : Tab} (h : ranked tab = true) {r : Row} (hr : r ∈ tab) :
    rank tab r.1 ≤ tab.length ∧ ∀ d ∈ lazyDeps tab r.1, rank tab d < rank tab r.1 := by
  unfold ranked at h
  have := (List.all_eq_true.1 h) r hr
  simp only [Bool.and_eq_true, decide_eq_true_eq, List.all_eq_true] at this
  exact this

theorem defsOf_readsBelow {β : Type} {tab : Tab} (h : ranked tab = true) (f : String → List β → β) (n : String) :
    ReadsBelow (rank tab) (rank tab n) (defsOf tab f n) := by
  unfold defsOf
  apply readsBelow_chain
  cases hl : lookup tab n with
  | none => simp [lazyDeps, hl]
  | some p =>
    obtain ⟨b, deps⟩ := p
    exact (ranked_row h (lookup_mem hl)).2

theorem rank_lt_fuel {tab : Tab} (h : ranked tab = true) (n : String) : rank tab n < fuelOf tab := by
  unfold fuelOf
  cases hl : lookup tab n with
  | none =>
    have : rank tab n = 0 := by unfold rank; cases tab.length <;> simp [rankFuel, hl]
    omega
  | some p =>
    obtain ⟨b, deps⟩ := p
    have := (ranked_row h (lookup_mem hl)).1
    simp only at this
    omega

/-- every state the driver op reports is defined (the model never runs out of fuel on a ranked table) -/
theorem cacheStates_total {β : Type} {tab : Tab} (h : ranked tab = true) (f : String → List β → β) :
    ∀ (ops : List String) (t : Table String β), ∀ s ∈ cacheStates tab f ops t, s.isSome = true := by
  intro ops
  induction ops with
  | nil => intro t s hs; simp [cacheStates] at hs
  | cons op ops ih =>
    intro t s hs
    unfold cacheStates at hs
    obtain ⟨⟨vs, t'⟩, hh⟩ := Option.isSome_iff_exists.1
      (history_total (defsOf_readsBelow h f) (fuelOf tab) (rank_lt_fuel h) (expandOp tab op) t)
    simp only [hh, List.mem_cons] at hs
    rcases hs with rfl | hs
    · rfl
    · exact ih t' s hs

end Cij.LazyGraph
