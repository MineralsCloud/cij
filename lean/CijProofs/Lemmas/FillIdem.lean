/-
  For `c14_fill_idempotent`: a table that already carries a
  relation-compatible tensor — every modulus column equal to the tensor's component, every absent symbol a component
  that is dropped — is a FIXED POINT of `fill`, provided the supplied components still determine the tensor; and what `fill`
  returns is such a table (read off the closed form of the write-back loop, `finish_closed`).
-/
import CijProofs.Lemmas.FillPerm
set_option linter.unusedSectionVars false
namespace Cij.Fill
variable {α : Type} [Field α] [LinearOrder α] [IsStrictOrderedRing α]

/-- `t` is what `fill` returns for the tensors `xs`: modulus columns carry the components, the absent components
are negligible (they were dropped), nothing droppable is present -/
structure IsFilled (P : Params α) (t : Table α) (xs : List (List α)) : Prop where
  cols : ∀ c ∈ t, ∀ p ∈ symPairs, c.1.toLower = p.2 → c.2 = colOf xs p.1
  missing : ∀ p ∈ symPairs, (∀ c ∈ t, c.1.toLower ≠ p.2) → allClose0 P.dropAtol (colOf xs p.1) = true
  kept : ∀ c ∈ t, matchesCdd c.1.toLower.toList = true → allClose0 P.dropAtol c.2 = false

/-- one write-back on a filled table (plus already appended negligible columns): nothing changes, or one more
negligible column is appended -/
theorem writeBack_filled {P : Params α} {t : Table α} {xs : List (List α)} (hf : IsFilled P t xs)
    (extra : Table α) (p : Nat × String) (hp : p ∈ symPairs)
    (hex : ∀ e ∈ extra, e.1 ∈ symbolNames ∧ e.1 ≠ p.2) :
    writeBack (t ++ extra) p.2 (colOf xs p.1) = t ++ extra ∨
    (writeBack (t ++ extra) p.2 (colOf xs p.1) = t ++ (extra ++ [(p.2, colOf xs p.1)]) ∧
      allClose0 P.dropAtol (colOf xs p.1) = true) := by
  unfold writeBack
  split
  · rename_i hit hfind
    left
    have hh : hit.1.toLower = p.2 := by simpa using List.find?_some hfind
    have hid : ∀ c ∈ t ++ extra, (if c.1 == hit.1 then (c.1, colOf xs p.1) else c) = c := by
      intro c hc
      by_cases hce : c.1 = hit.1
      · have hcl : c.1.toLower = p.2 := by rw [hce]; exact hh
        rcases List.mem_append.1 hc with hct | hce'
        · have := hf.cols c hct p hp hcl
          have hb : (c.1 == hit.1) = true := by simp [hce]
          rw [if_pos hb, ← this]
        · obtain ⟨hs, hne⟩ := hex c hce'
          rw [symbols_lower c.1 hs] at hcl
          exact absurd hcl hne
      · simp [hce]
    calc List.map (fun c => if c.1 == hit.1 then (c.1, colOf xs p.1) else c) (t ++ extra)
        = List.map id (t ++ extra) := List.map_congr_left hid
      _ = t ++ extra := List.map_id _
  · rename_i hnone
    right
    have hno : ∀ c ∈ t, c.1.toLower ≠ p.2 := by
      intro c hc
      have := List.find?_eq_none.1 hnone c (List.mem_append_left _ hc)
      simpa using this
    exact ⟨by rw [List.append_assoc], hf.missing p hp hno⟩

theorem foldl_filled {P : Params α} {t : Table α} {xs : List (List α)} (hf : IsFilled P t xs) :
    ∀ (l : List (Nat × String)), (∀ p ∈ l, p ∈ symPairs) → (l.map (·.2)).Nodup →
    ∀ extra : Table α, (∀ e ∈ extra, e.1 ∈ symbolNames ∧ e.1 ∉ l.map (·.2) ∧ allClose0 P.dropAtol e.2 = true) →
    ∃ extra', l.foldl (fun acc p => writeBack acc p.2 (xs.map fun x => x.getD p.1 0)) (t ++ extra) = t ++ extra' ∧
      ∀ e ∈ extra', e.1 ∈ symbolNames ∧ allClose0 P.dropAtol e.2 = true := by
  intro l
  induction l with
  | nil => intro _ _ extra hex; exact ⟨extra, rfl, fun e he => ⟨(hex e he).1, (hex e he).2.2⟩⟩
  | cons p l ih =>
    intro hl hnd extra hex
    simp only [List.foldl_cons]
    have hp : p ∈ symPairs := hl p List.mem_cons_self
    have hnd' : (l.map (·.2)).Nodup := (List.nodup_cons.1 (by simpa using hnd)).2
    have hpl : p.2 ∉ l.map (·.2) := (List.nodup_cons.1 (by simpa using hnd)).1
    have hex1 : ∀ e ∈ extra, e.1 ∈ symbolNames ∧ e.1 ≠ p.2 := by
      intro e he
      refine ⟨(hex e he).1, fun h => (hex e he).2.1 ?_⟩
      simp [h]
    rcases writeBack_filled hf extra p hp hex1 with h | ⟨h, hclose⟩
    · have h' : writeBack (t ++ extra) p.2 (xs.map fun x => x.getD p.1 0) = t ++ extra := h
      rw [h']
      exact ih (fun q hq => hl q (List.mem_cons_of_mem _ hq)) hnd' extra
        (fun e he => ⟨(hex e he).1, fun hm => (hex e he).2.1 (by simp [List.mem_map] at hm ⊢; exact Or.inr hm), (hex e he).2.2⟩)
    · have h' : writeBack (t ++ extra) p.2 (xs.map fun x => x.getD p.1 0) =
          t ++ (extra ++ [(p.2, colOf xs p.1)]) := h
      rw [h']
      apply ih (fun q hq => hl q (List.mem_cons_of_mem _ hq)) hnd'
      intro e he
      rcases List.mem_append.1 he with he | he
      · exact ⟨(hex e he).1, fun hm => (hex e he).2.1 (by simp [List.mem_map] at hm ⊢; exact Or.inr hm), (hex e he).2.2⟩
      · simp only [List.mem_singleton] at he
        subst he
        exact ⟨symPairs_names p hp, hpl, hclose⟩

/-- writing back what is already there and dropping what is already dropped is the identity.  (Not through `finish_closed`:
a filled table may have columns that differ by letter case only.) -/
theorem finish_filled {P : Params α} {t : Table α} {xs : List (List α)} (hf : IsFilled P t xs) :
    finish P t xs = t := by
  obtain ⟨extra', hw, hex⟩ := foldl_filled hf symPairs (fun _ h => h) symPairs_names_nodup []
    (fun e he => by simp at he)
  have hwa : writeAll t xs = t ++ extra' := by
    unfold writeAll
    simpa [symPairs] using hw
  unfold finish
  rw [hwa, List.filter_append]
  have h1 : t.filter (fun c => !(matchesCdd c.1.toLower.toList && allClose0 P.dropAtol c.2)) = t := by
    apply List.filter_eq_self.2
    intro c hc
    cases hm : matchesCdd c.1.toLower.toList with
    | false => simp
    | true => simp [hf.kept c hc hm]
  have h2 : extra'.filter (fun c => !(matchesCdd c.1.toLower.toList && allClose0 P.dropAtol c.2)) = [] := by
    apply List.filter_eq_nil_iff.2
    intro e he
    obtain ⟨hs, hc⟩ := hex e he
    rw [symbols_lower e.1 hs, symbolNames_match e.1 hs, hc]
    simp
  rw [h1, h2, List.append_nil]

/-! ### the second solve returns the tensor the table already carries -/

theorem mem_zipWith_exists {β γ δ : Type} (f : β → γ → δ) (l1 : List β) (l2 : List γ) (e : δ)
    (h : e ∈ List.zipWith f l1 l2) : ∃ q ∈ List.zip l1 l2, e = f q.1 q.2 := by
  rw [← List.map_uncurry_zip_eq_zipWith] at h
  obtain ⟨q, hq, rfl⟩ := List.mem_map.1 h
  exact ⟨q, hq, rfl⟩

theorem recognise_cols {t : Table α} {sel : List (Option Nat)} (h : recognise (t.map (·.1)) = .ok sel) :
    (selIdxOf sel).length = (selColsOf sel t).length ∧
    ∀ q ∈ List.zip (selIdxOf sel) (selColsOf sel t), ∃ c ∈ t, c.2 = q.2 ∧ (q.1, c.1.toLower) ∈ symPairs := by
  rw [recognise_ok h, selIdxOf_eq, selColsOf_eq]
  refine ⟨by simp, fun q hq => ?_⟩
  rw [List.zip_map', List.mem_map] at hq
  obtain ⟨e, he, rfl⟩ := hq
  obtain ⟨c, hc, hce⟩ := List.mem_filterMap.1 he
  cases hi : symIdx c.1 with
  | none => simp [hi] at hce
  | some i =>
    simp only [hi, Option.map_some, Option.some.injEq] at hce
    subst hce
    exact ⟨c, hc, rfl, idxOf?_symPairs hi⟩

theorem getD_colOf (xs : List (List α)) (j k : Nat) (hk : k < xs.length) :
    (colOf xs j).getD k 0 = (xs[k]).getD j 0 := by
  simp [colOf, List.getD_eq_getElem?_getD, hk]

theorem residual_zero_of_carried {t : Table α} {xs : List (List α)}
    (hcols : ∀ c ∈ t, ∀ p ∈ symPairs, c.1.toLower = p.2 → c.2 = colOf xs p.1)
    {sel : List (Option Nat)} (hrec : recognise (t.map (·.1)) = .ok sel) (rel : Rows)
    (hrel : ∀ x ∈ xs, ∀ r ∈ rel,
      dot (castRow (α := α) r) x = (Int.cast r.rhs : α) / (Int.cast (Int.ofNat r.den) : α))
    (k : Nat) (hk : k < xs.length) :
    ∀ e ∈ residualVec (stackA (α := α) (selIdxOf sel) rel) (stackB (selColsOf sel t) rel k) xs[k], e = 0 := by
  obtain ⟨hl, hq⟩ := recognise_cols hrec
  rw [residualVec_stack _ _ rel k _ hl (recognise_lt hrec)]
  intro e he
  rcases List.mem_append.1 he with he | he
  · obtain ⟨q, hqm, rfl⟩ := mem_zipWith_exists _ _ _ e he
    obtain ⟨c, hc, h1, h2⟩ := hq q hqm
    have := hcols c hc (q.1, c.1.toLower) h2 rfl
    rw [← h1, this, getD_colOf xs q.1 k hk]
    simp
  · obtain ⟨r, hr, rfl⟩ := List.mem_map.1 he
    rw [hrel xs[k] (List.getElem_mem hk) r hr]
    simp

/-- a determined stacked system whose table carries relation-compatible tensors `xs`: the solve stage returns `xs` and the
decision stage accepts -/
theorem solved_of_carried {P : Params α} {t : Table α} {xs : List (List α)}
    {sel : List (Option Nat)} (hrec : recognise (t.map (·.1)) = .ok sel) {rel : Rows}
    {s : Solved α} (hs : solveStage (stackA (α := α) (selIdxOf sel) rel)
            ((List.range (nRows t)).map fun k => stackB (selColsOf sel t) rel k) = some s)
    (hfull : s.rankDeficient = false)
    (hrows : xs.length = nRows t) (hlen : ∀ x ∈ xs, x.length = nsym)
    (hrel : ∀ x ∈ xs, ∀ r ∈ rel,
      dot (castRow (α := α) r) x = (Int.cast r.rhs : α) / (Int.cast (Int.ofNat r.den) : α))
    (hcols : ∀ c ∈ t, ∀ p ∈ symPairs, c.1.toLower = p.2 → c.2 = colOf xs p.1) (hatol : 0 ≤ P.residualAtol) :
    s.xs = xs ∧ verdict P s = .ok () := by
  obtain ⟨hmap, _, hssq⟩ := solveStage_eq_some hs
  have hsl : s.xs.length = nRows t := by rw [← (mapM_eq_some_iff.1 hmap).length_eq]; simp
  have hl := (recognise_cols hrec).1
  -- the solution is the tensor the table carries
  have hxs : s.xs = xs := by
    apply List.ext_getElem (by rw [hsl, hrows])
    intro k h1 h2
    have hkn : k < nRows t := by rw [← hsl]; exact h1
    have hz : k < (List.zip ((List.range (nRows t)).map fun k => stackB (selColsOf sel t) rel k) s.xs).length := by
      simp [hsl, hkn]
    have hmem : (stackB (selColsOf sel t) rel k, s.xs[k]) ∈
        List.zip ((List.range (nRows t)).map fun k => stackB (selColsOf sel t) rel k) s.xs := by
      rw [List.mem_iff_getElem]
      exact ⟨k, hz, by simp [List.getElem_zip]⟩
    exact solveStage_consistent hs hfull _ hmem (by simp [stackA, stackB, hl]) xs[k]
      (hlen _ (List.getElem_mem h2)) (residual_zero_of_carried hcols hrec rel hrel k h2)
  -- hence the residuals vanish and the verdict is "accept"
  have hres0 : ∀ r ∈ s.residuals, r = 0 := by
    intro r hr
    unfold Solved.residuals at hr
    rw [hssq, hxs] at hr
    obtain ⟨q, hq, rfl⟩ := mem_zipWith_exists _ _ _ r hr
    obtain ⟨k, hk, hqk⟩ := List.mem_iff_getElem.1 hq
    have hk2 : k < xs.length := by
      simp only [List.length_zip, List.length_map, List.length_range] at hk
      omega
    have hk1 : k < nRows t := by rw [← hrows]; exact hk2
    rw [List.getElem_zip] at hqk
    have e1 : q.1 = stackB (selColsOf sel t) rel k := by rw [← hqk]; simp
    have e2 : q.2 = xs[k] := by rw [← hqk]
    rw [e1, e2]
    unfold sumSq
    exact dot_all_zero _ _ (residual_zero_of_carried hcols hrec rel hrel k hk2)
  have hv : verdict P s = .ok () := by
    unfold verdict
    have h1 : (s.residuals.any fun r => decide (P.residualAtol < r)) = false := by
      rw [List.any_eq_false]
      intro r hr
      rw [hres0 r hr]
      simpa using hatol
    simp [hfull, h1]
  exact ⟨hxs, hv⟩

/-- **fixed point.**  A table that carries relation-compatible tensors `xs` (one per volume row) and whose supplied
components still determine the tensor (`rankDeficient = false`) is returned unchanged by `fill`. -/
theorem fill_filled (env : Env) (sys : String) (P : Params α) (t : Table α) (xs : List (List α))
    {sel : List (Option Nat)} (hrec : recognise (t.map (·.1)) = .ok sel)
    {rel : Rows} (hres : resolve env sys = .ok rel)
    (hne : (selIdxOf sel).isEmpty = false)
    {s : Solved α} (hs : solveStage (stackA (α := α) (selIdxOf sel) rel)
            ((List.range (nRows t)).map fun k => stackB (selColsOf sel t) rel k) = some s)
    (hfull : s.rankDeficient = false)
    (hrows : xs.length = nRows t) (hlen : ∀ x ∈ xs, x.length = nsym)
    (hrel : ∀ x ∈ xs, ∀ r ∈ rel,
      dot (castRow (α := α) r) x = (Int.cast r.rhs : α) / (Int.cast (Int.ofNat r.den) : α))
    (hf : IsFilled P t xs) (hatol : 0 ≤ P.residualAtol) :
    fill env (some sys) P t = .ok t := by
  obtain ⟨hxs, hv⟩ := solved_of_carried (P := P) hrec hs hfull hrows hlen hrel hf.cols hatol
  simp only [fill, hrec, hres]
  rw [fillWith_of_solved hne hs, hv]
  simp only
  rw [hxs, finish_filled hf]

/-! ### what the first fill returns is a filled table -/

theorem mem_finish_closed (P : Params α) (xs : List (List α)) {t : Table α} (hnd : NoCaseDup t) (c : String × List α) :
    c ∈ finish P t xs ↔ keepCol P c = true ∧
      ((∃ c0 ∈ t, updCol xs c0 = c) ∨
        ∃ p ∈ symPairs, (∀ c0 ∈ t, c0.1.toLower ≠ p.2) ∧ (p.2, colOf xs p.1) = c) := by
  simp only [finish_closed P xs hnd, existingPart, newPart, List.mem_append, List.mem_filter, List.mem_map,
    List.mem_filterMap, List.any_eq_true, beq_iff_eq, Option.ite_none_left_eq_some, Option.some.injEq, not_exists,
    not_and]
  rw [← or_and_right, and_comm]

theorem finish_isFilled (P : Params α) {t : Table α} (hnd : NoCaseDup t) {n : Nat} (hrect : ∀ c ∈ t, c.2.length = n)
    {xs : List (List α)} (hn : xs.length = n) :
    IsFilled P (finish P t xs) xs ∧ ∀ c ∈ finish P t xs, c.2.length = n := by
  have hdrop : ∀ c : String × List α, keepCol P c = false → allClose0 P.dropAtol c.2 = true := by
    intro c hc
    simp only [keepCol, Bool.not_eq_false', Bool.and_eq_true] at hc
    exact hc.2
  refine ⟨⟨?_, ?_, ?_⟩, ?_⟩
  · intro c hc p hp hcp
    rcases ((mem_finish_closed P xs hnd c).1 hc).2 with ⟨c0, _, rfl⟩ | ⟨q, hq, _, rfl⟩
    · rw [updCol_fst] at hcp
      rw [updCol_of_symPair xs hp hcp]
    · rw [symbols_lower q.2 (symPairs_names q hq)] at hcp
      rw [List.inj_on_of_nodup_map symPairs_names_nodup hq hp hcp]
  · intro p hp hno
    by_cases hex : ∃ c0 ∈ t, c0.1.toLower = p.2
    · obtain ⟨c0, hc0, hcp⟩ := hex
      have hk : keepCol P (updCol xs c0) = false := by
        by_contra hk
        exact hno _ ((mem_finish_closed P xs hnd _).2 ⟨by simpa using hk, Or.inl ⟨c0, hc0, rfl⟩⟩) (by rw [updCol_fst, hcp])
      simpa [updCol_of_symPair xs hp hcp] using hdrop _ hk
    · have hk : keepCol P (p.2, colOf xs p.1) = false := by
        by_contra hk
        exact hno _ ((mem_finish_closed P xs hnd _).2
          ⟨by simpa using hk, Or.inr ⟨p, hp, fun c0 hc0 h => hex ⟨c0, hc0, h⟩, rfl⟩⟩)
          (symbols_lower p.2 (symPairs_names p hp))
      exact hdrop _ hk
  · intro c hc hm
    have hk := ((mem_finish_closed P xs hnd c).1 hc).1
    simpa [keepCol, hm] using hk
  · intro c hc
    rcases ((mem_finish_closed P xs hnd c).1 hc).2 with ⟨c0, hc0, rfl⟩ | ⟨q, _, _, rfl⟩
    · unfold updCol
      split
      · simp [colOf, hn]
      · exact hrect c0 hc0
    · simp [colOf, hn]

theorem nRows_of_rect {t : Table α} {n : Nat} (hrect : ∀ c ∈ t, c.2.length = n) {sel : List (Option Nat)}
    (hrec : recognise (t.map (·.1)) = .ok sel) (hne : (selIdxOf sel).isEmpty = false) : nRows t = n :=
  nRows_of_rect' hrect (by rintro rfl; simp [recognise_ok hrec, selIdxOf] at hne)

/-- **fill ∘ fill = fill** on the model: if a rectangular table without case-duplicated columns is accepted, the
result satisfies the relations exactly, and the components that survive the drop still determine the tensor, then
filling the result again returns it unchanged. -/
theorem fill_fill (env : Env) (sys : String) (P : Params α) (t : Table α) (n : Nat)
    (hrect : ∀ c ∈ t, c.2.length = n) (hnd : NoCaseDup t)
    {sel₁ : List (Option Nat)} (hrec₁ : recognise (t.map (·.1)) = .ok sel₁)
    {rel : Rows} (hres : resolve env sys = .ok rel) (hne₁ : (selIdxOf sel₁).isEmpty = false)
    {s₁ : Solved α} (hs₁ : solveStage (stackA (α := α) (selIdxOf sel₁) rel)
            ((List.range (nRows t)).map fun k => stackB (selColsOf sel₁ t) rel k) = some s₁)
    (hv₁ : verdict P s₁ = .ok ())
    (hcons : ∀ x ∈ s₁.xs, ∀ r ∈ rel,
      dot (castRow (α := α) r) x = (Int.cast r.rhs : α) / (Int.cast (Int.ofNat r.den) : α))
    {sel₂ : List (Option Nat)} (hrec₂ : recognise ((finish P t s₁.xs).map (·.1)) = .ok sel₂)
    (hne₂ : (selIdxOf sel₂).isEmpty = false)
    {s₂ : Solved α} (hs₂ : solveStage (stackA (α := α) (selIdxOf sel₂) rel)
            ((List.range (nRows (finish P t s₁.xs))).map fun k =>
              stackB (selColsOf sel₂ (finish P t s₁.xs)) rel k) = some s₂)
    (hfull₂ : s₂.rankDeficient = false) (hatol : 0 ≤ P.residualAtol) :
    fill env (some sys) P t = .ok (finish P t s₁.xs) ∧
    fill env (some sys) P (finish P t s₁.xs) = .ok (finish P t s₁.xs) := by
  have hn : nRows t = n := nRows_of_rect hrect hrec₁ hne₁
  have hmap := (solveStage_eq_some hs₁).1
  have hxl : s₁.xs.length = n := by rw [← (mapM_eq_some_iff.1 hmap).length_eq]; simp [hn]
  have hxn := solveStage_xs_length hs₁
  obtain ⟨hfilled, hlen⟩ := finish_isFilled P hnd hrect hxl
  have hn₂ : nRows (finish P t s₁.xs) = n := nRows_of_rect hlen hrec₂ hne₂
  constructor
  · simp only [fill, hrec₁, hres]
    rw [fillWith_of_solved hne₁ hs₁, hv₁]
  · exact fill_filled env sys P _ s₁.xs hrec₂ hres hne₂ hs₂ hfull₂ (by rw [hxl, hn₂]) hxn hcons hfilled hatol

end Cij.Fill
