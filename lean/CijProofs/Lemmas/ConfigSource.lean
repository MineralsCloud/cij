/-
  The hand-written configuration model IS the source code as it is written now: `Generated.ConfigSrc` is printed on every
  run from the abstract syntax of `cij/io/config/config.py` and `validate.py` (`tools/gens/config_src.py`), and each printed
  function equals its model (`update_config_eq` for ALL values and iteration orders, `apply_default_eq`, `parser_eq`,
  `read_config_ok_iff` / `read_config_error`, `validate_config_eq`, `readFile_eq`).
-/
import CijProofs.Lemmas.Config
import CijModel.Schema
import Generated.ConfigSrc

namespace Cij.ConfigSource
open Cij Cij.Config Cij.ConfigPy
open Generated.ConfigSrc

/-- `cij.data.get_data_fname(name)` read and parsed: the two data files the configuration code opens, as translated on this
run (`tools/gen_tables.py: gen_config` reads `cij/data/<name>`; `get_data_fname` is compared with its canonical text by the
plug-in).  Any other name: not a packaged configuration file. -/
def packagedData (name : String) : J :=
  if name = "default/settings.yaml" then Generated.defaultSettings
  else if name = "schema/config.schema.json" then Generated.configSchema
  else .null

/-- two lists with the same elements (checked by evaluation) -/
theorem mem_iff_of_subsets {α : Type} [BEq α] [LawfulBEq α] {A B : List α}
    (h1 : A.all (fun a => B.contains a) = true) (h2 : B.all (fun b => A.contains b) = true) : ∀ n, n ∈ A ↔ n ∈ B := by
  intro n
  simp only [List.all_eq_true, List.contains_iff_mem] at h1 h2
  exact ⟨h1 n, h2 n⟩

/-! ### `update_config` -/

theorem lookupF_recs (ord : List String → List String) (k : String) :
    ∀ u : KV, lookupF k (update_config_recs ord u) = (lookup k u).map (update_config ord)
  | [] => by simp [update_config_recs, lookupF, lookup]
  | (k', v) :: r => by
      simp only [update_config_recs, lookupF, lookup]
      split
      · simp
      · exact lookupF_recs ord k r

/-- the printed function on two dictionaries, with the table of recursive calls replaced by the calls themselves:
one iteration of the loop stores what the hand model's `body'` stores, PROVIDED the recursive calls agree below. -/
theorem body_src_eq (ord : List String → List String) (u d : KV)
    (ih : ∀ k uv, lookup k u = some uv → ∀ dv, update_config ord uv dv = updateConfig ord uv dv) :
    update_config ord (.obj u) (.obj d) =
      match loop (body' ord u d) (ord (keyUnion u d)) with
      | .ok r => .ok (.obj r)
      | .error e => .error e := by
  rw [update_config]
  simp only [forAssign, keySet]
  congr 1
  congr 1
  funext k
  simp only [body', pyIf, pyAnd, pyTest, isDictOf, isDict, getItem, inKeys, hasKey, callOn, lookupF_recs]
  cases h1 : lookup k u with
  | none => cases h2 : lookup k d <;> simp
  | some uv =>
    cases h2 : lookup k d with
    | none => simp
    | some dv =>
      have := ih k uv h1 dv
      cases ho1 : isObj uv <;> cases ho2 : isObj dv <;> simp [this, ho1, ho2]

/-- **The printed `update_config` is the hand model**, for all values and all iteration orders. -/
theorem update_config_eq (ord : List String → List String) :
    ∀ (u d : J), update_config ord u d = updateConfig ord u d
  | .obj ukv, .obj dkv => by
      rw [updateConfig_obj]
      apply body_src_eq
      intro k uv h1 dv
      have hlt := sizeOf_lookup_lt h1
      exact update_config_eq ord uv dv
  | .obj _, .null => by simp [update_config, updateConfig]
  | .obj _, .bool _ => by simp [update_config, updateConfig]
  | .obj _, .num _ _ _ => by simp [update_config, updateConfig]
  | .obj _, .str _ => by simp [update_config, updateConfig]
  | .obj _, .arr _ => by simp [update_config, updateConfig]
  | .null, _ => by simp [update_config, updateConfig]
  | .bool _, _ => by simp [update_config, updateConfig]
  | .num _ _ _, _ => by simp [update_config, updateConfig]
  | .str _, _ => by simp [update_config, updateConfig]
  | .arr _, _ => by simp [update_config, updateConfig]
termination_by u => sizeOf u

/-! ### `apply_default_config` -/

theorem apply_default_eq (ord : List String → List String) (u : J) :
    apply_default_config ord packagedData u = applyDefaultConfig ord u := by
  simp only [apply_default_config, applyDefaultConfig, packagedData]
  exact update_config_eq ord _ _

/-! ### `read_config` -/

/-- `Config.parserFor` (the hand model of the suffix dispatch) is the printed chain applied to `Path(fname).suffix` -/
theorem parser_eq (fname : String) :
    parserFor fname = match read_config_parser (pathSuffix fname) with
      | some p => .ok p
      | none => .error .runtimeError := by
  simp only [parserFor, read_config_parser, List.mem_cons, List.mem_nil_iff, or_false]
  by_cases h1 : pathSuffix fname = ".yml" ∨ pathSuffix fname = ".yaml"
  · simp [h1]
  · by_cases h2 : pathSuffix fname = ".json" <;> simp [h1, h2]

/-- the printed chain as a table: which suffixes are read, and by which parser -/
theorem parser_some_iff (s : String) (p : Parser) :
    read_config_parser s = some p ↔
      ((s = ".yml" ∨ s = ".yaml") ∧ p = .yaml) ∨ (s = ".json" ∧ p = .json) := by
  simp only [read_config_parser, List.mem_cons, List.mem_nil_iff, or_false]
  by_cases h1 : s = ".yml"
  · subst h1; cases p <;> simp
  · by_cases h2 : s = ".yaml"
    · subst h2; cases p <;> simp
    · by_cases h3 : s = ".json"
      · subst h3; cases p <;> simp
      · simp [h1, h2, h3]

variable {ε : Type}

/-- **What `read_config` returns**: exactly the value its parser made of the file — for the parser the suffix selects —
and, when `validate` is set, only if `validate_config` accepted THAT value. -/
theorem read_config_ok_iff (raised : ε) (parse : Parser → Except ε J) (vc : J → Except ε Unit)
    (s : String) (v : Bool) (cfg : J) :
    read_config raised parse vc s v = .ok cfg ↔
      ∃ p, read_config_parser s = some p ∧ parse p = .ok cfg ∧ (v = true → vc cfg = .ok ()) := by
  unfold read_config andThen
  cases hp : read_config_parser s with
  | none => simp
  | some p =>
    have hex : (∃ p', some p = some p' ∧ parse p' = .ok cfg ∧ (v = true → vc cfg = .ok ())) ↔
        (parse p = .ok cfg ∧ (v = true → vc cfg = .ok ())) := by
      constructor
      · rintro ⟨p', hp', h⟩; cases hp'; exact h
      · intro h; exact ⟨p, rfl, h⟩
    rw [hex]
    cases hq : parse p with
    | error e => simp [hq]
    | ok c =>
      cases v with
      | false => simp [hq]
      | true =>
        cases hv : vc c with
        | error e =>
          simp only [hq, hv, if_true, true_implies, Except.ok.injEq]
          constructor
          · intro h; cases h
          · rintro ⟨rfl, h⟩; rw [hv] at h; cases h
        | ok u =>
          simp only [hq, hv, if_true, true_implies, Except.ok.injEq]
          constructor
          · rintro rfl; exact ⟨rfl, hv⟩
          · exact fun h => h.1

/-- … and what it raises: the else-branch exception for an unsupported suffix, the parser's exception, or — only when
`validate` is set — the exception `validate_config` raised on the parsed value. -/
theorem read_config_error (raised : ε) (parse : Parser → Except ε J) (vc : J → Except ε Unit)
    (s : String) (v : Bool) (e : ε) :
    read_config raised parse vc s v = .error e ↔
      (read_config_parser s = none ∧ e = raised) ∨
      (∃ p, read_config_parser s = some p ∧ parse p = .error e) ∨
      (∃ p c, read_config_parser s = some p ∧ parse p = .ok c ∧ v = true ∧ vc c = .error e) := by
  simp only [read_config, andThen]
  cases hp : read_config_parser s with
  | none => simp [eq_comm]
  | some p =>
    simp only [Option.some.injEq, exists_eq_left', reduceCtorEq, false_and, false_or]
    cases hq : parse p with
    | error e' => simp [hq]
    | ok c =>
      cases v with
      | false => simp
      | true =>
        cases hv : vc c with
        | error e' =>
          simp only [hv, if_true, Except.error.injEq, reduceCtorEq, false_or, true_and]
          constructor
          · rintro rfl; exact ⟨p, c, rfl, hq, hv⟩
          · rintro ⟨p', c', rfl, h1, h2⟩
            rw [hq] at h1; cases h1; rw [hv] at h2; cases h2; rfl
        | ok u =>
          simp only [hv, if_true, reduceCtorEq, false_or, true_and]
          constructor
          · intro h; cases h
          · rintro ⟨p', c', rfl, h1, h2⟩
            rw [hq] at h1; cases h1; rw [hv] at h2; cases h2

/-! ### `validate_config` -/

theorem validate_config_eq (jsv : J → J → Except ε Unit) (cfg : J) :
    validate_config packagedData jsv cfg = jsv cfg Generated.configSchema := by
  simp [validate_config, packagedData]

/-! ### the file flow `read_config(fname)` with the modelled validator -/

inductive FileErr where
  | unsupportedSuffix     -- the `else: raise …` of `read_config`
  | parseError            -- whatever the YAML / JSON parser raises (parsers are not modelled)
  | validationError       -- `jsonschema.ValidationError`
  deriving DecidableEq, Repr

/-- `jsonschema.validate(instance=i, schema=s)` as modelled by `Schema.validate` (raises iff the evaluator rejects) -/
def jsonschemaValidate (i s : J) : Except FileErr Unit :=
  if Schema.validate s i = true then .ok () else .error .validationError

/-- `read_config(fname, validate)` as printed, on a file with suffix `sfx` that its parser reads as `content`, with
`validate_config` as printed and `jsonschema.validate` as modelled -/
def readFile (content : J) (sfx : String) (validate : Bool) : Except FileErr J :=
  read_config FileErr.unsupportedSuffix (fun _ => .ok content) (validate_config packagedData jsonschemaValidate) sfx validate

theorem readFile_eq (content : J) (sfx : String) (validate : Bool) :
    readFile content sfx validate =
      match read_config_parser sfx with
      | none => .error .unsupportedSuffix
      | some _ => if validate = true ∧ Schema.validateConfig content = false then .error .validationError else .ok content := by
  simp only [readFile, read_config, andThen, validate_config_eq, jsonschemaValidate, Schema.validateConfig]
  cases read_config_parser sfx with
  | none => rfl
  | some p =>
    cases validate with
    | false => simp
    | true =>
      simp only []
      by_cases h : Schema.validate Generated.configSchema content = true
      · simp [h]
      · have h' : Schema.validate Generated.configSchema content = false := by simpa using h
        simp [h']

end Cij.ConfigSource
