/-
  The glue of `CijModel/Interp.lean` (`finishMode`, `modeNodes`) IS what `cij/core/mode_gamma.py` says: the translator
  (`tools/gen_tables.py: gen_modegamma_spec`) extracts, on every run, for each `interpolate_mode_*` function the shape of the
  returned triple and the node preparation; the theorems below compare them with the model's definitions.
-/
import CijModel.Interp
import Generated.ModeGammaSpec

namespace Cij.Interp

/-- the Python function a method dispatches to (`interpolate_modes`) -/
def Method.pyFunction : Method → Option String
  | .spline => some "interpolate_mode_spline"
  | .lagrange => some "interpolate_mode_lagrange"
  | .krogh => some "interpolate_mode_krogh"
  | .pchip | .akima | .hermite => some "interpolate_mode_ppoly"
  | .lsqPoly => some "interpolate_mode_lsq_poly"
  | .unknown => none

/-- interpretation of one extracted triple element `(exp?, negated?, derivative order)` on the samples `(s, s', s'')` -/
def applyElem {α : Type} [Neg α] [ExpLog α] (t : Triple α) (e : Bool × Bool × Nat) : α :=
  let v := match e.2.2 with | 0 => t.1 | 1 => t.2.1 | _ => t.2.2
  let v := if e.1 then ExpLog.exp v else v
  if e.2.1 then -v else v

/-- interpretation of the extracted node preparation `(thinned?, flipped?)` -/
def nodesBySpec {β : Type} (sp : Bool × Bool) (order : Nat) (l : List β) : List β :=
  let l := if sp.1 then thin order l else l
  if sp.2 then l.reverse else l

/-- what `finishMode` implements: `(exp s, −s', −s'')` -/
def canonicalPattern : List (Bool × Bool × Nat) := [(true, false, 0), (false, true, 1), (false, true, 2)]

/-- every `interpolate_mode_*` function of the source returns the canonical triple pattern -/
theorem return_pattern_is_source : ∀ e ∈ Generated.modeReturnPattern, e.2 = canonicalPattern := by decide

/-- every method dispatches to a function the translator found -/
theorem every_method_has_source (m : Method) (f : String) (h : m.pyFunction = some f) :
    (Generated.modeReturnPattern.lookup f).isSome = true ∧ (Generated.modeNodesSpec.lookup f).isSome = true := by
  cases m <;> simp [Method.pyFunction] at h <;> subst h <;> decide

/-- `finishMode` maps the kernel's samples exactly as the extracted (canonical) pattern says -/
theorem finish_is_pattern {α : Type} [Neg α] [Zero α] [ExpLog α] (I : Interpolant α) (nv nf va : List α) :
    finishMode I nv nf va = (do
      let r ← I (nv.map ExpLog.log) (nf.map ExpLog.log) (va.map ExpLog.log)
      pure (r.map fun t => (applyElem t (true, false, 0), applyElem t (false, true, 1), applyElem t (false, true, 2)))) := by
  rfl

/-- `modeNodes` prepares the nodes exactly as the source function the method dispatches to does (order ≥ 1) -/
theorem mode_nodes_is_source {β : Type} (m : Method) (f : String) (h : m.pyFunction = some f) (order : Nat) (ho : order ≠ 0)
    (vols freqs : List β) :
    ∃ sp, Generated.modeNodesSpec.lookup f = some sp ∧
      modeNodes m order vols freqs = .ok (nodesBySpec sp order vols, nodesBySpec sp order freqs) := by
  cases m <;> simp [Method.pyFunction] at h <;> subst h <;>
    simp [Generated.modeNodesSpec, List.lookup, modeNodes, nodesBySpec, ho]

end Cij.Interp
