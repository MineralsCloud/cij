/- Lemmas for C13 `interp_perm_equivariant_total`: when the loop of
`interpolate_modes` returns — exactly when every cell does — and a re-indexing of the (q, m) rectangle that is injective
and maps the rectangle into itself is onto it. -/
import CijProofs.Lemmas.Presentation
import Mathlib.Data.Finset.Card
import Mathlib.Data.Finset.Prod

namespace Cij.Interp

theorem collect_isOk_iff {β : Type} (l : List (Except Err β)) :
    (∃ r, collect l = .ok r) ↔ ∀ x ∈ l, ∃ v, x = .ok v := by
  constructor
  · rintro ⟨r, hr⟩ x hx
    rw [(collect_eq_ok l r).mp hr] at hx
    obtain ⟨v, -, rfl⟩ := List.mem_map.mp hx
    exact ⟨v, rfl⟩
  · intro h
    induction l with
    | nil => exact ⟨[], rfl⟩
    | cons e l ih =>
      obtain ⟨v, rfl⟩ := h e (by simp)
      obtain ⟨vs, hvs⟩ := ih fun x hx => h x (List.mem_cons_of_mem _ hx)
      exact ⟨v :: vs, by simp [collect, hvs]⟩

section Glue
variable {α : Type} [Neg α] [Zero α] [ExpLog α]

theorem cells_isOk_iff (m : Method) (order : ℕ) (I : Interpolant α) (vols vArray : List α) (nq np : ℕ)
    (freqs : List (List (List α))) :
    (∃ c, cells m order I vols vArray nq np freqs = .ok c) ↔
      ∀ j < nq, ∀ k < np, ∃ col, cell m order I vols vArray j k (series freqs j k) = .ok col := by
  unfold cells
  rw [collect_isOk_iff]
  constructor
  · intro h j hj k hk
    have h1 := h _ (List.mem_map.mpr ⟨j, List.mem_range.mpr hj, rfl⟩)
    exact (collect_isOk_iff _).mp h1 _ (List.mem_map.mpr ⟨k, List.mem_range.mpr hk, rfl⟩)
  · intro h x hx
    obtain ⟨j, hj, rfl⟩ := List.mem_map.mp hx
    rw [collect_isOk_iff]
    intro y hy
    obtain ⟨k, hk, rfl⟩ := List.mem_map.mp hy
    exact h j (List.mem_range.mp hj) k (List.mem_range.mp hk)

/-- `interpolate_modes` returns iff its double loop does (the assembly of the three arrays cannot raise) -/
theorem interpolateModes_isOk_iff (m : Method) (order : ℕ) (I : Interpolant α) (vols vArray : List α) (nq np : ℕ)
    (freqs : List (List (List α))) :
    (∃ r, interpolateModes m order I vols vArray nq np freqs = .ok r) ↔
      ∀ j < nq, ∀ k < np, ∃ col, cell m order I vols vArray j k (series freqs j k) = .ok col := by
  rw [← cells_isOk_iff]
  unfold interpolateModes
  cases cells m order I vols vArray nq np freqs <;> simp [bind, Except.bind, pure, Except.pure]

end Glue

theorem rect_surj (nq np : ℕ) (σ : ℕ × ℕ → ℕ × ℕ)
    (hrange : ∀ j k, j < nq → k < np → (σ (j, k)).1 < nq ∧ (σ (j, k)).2 < np)
    (hinj : ∀ j k j' k', j < nq → k < np → j' < nq → k' < np → σ (j, k) = σ (j', k') → (j, k) = (j', k')) :
    ∀ j' k', j' < nq → k' < np → ∃ j k, j < nq ∧ k < np ∧ σ (j, k) = (j', k') := by
  intro j' k' hj' hk'
  set S : Finset (ℕ × ℕ) := Finset.range nq ×ˢ Finset.range np with hS
  have hmem : ∀ p : ℕ × ℕ, p ∈ S ↔ p.1 < nq ∧ p.2 < np := by
    intro p; simp [hS, Finset.mem_product]
  obtain ⟨a, ha, hb⟩ := Finset.surj_on_of_inj_on_of_card_le (s := S) (t := S) (fun a _ => σ a)
    (fun a ha => by
      obtain ⟨h1, h2⟩ := (hmem a).mp ha
      exact (hmem _).mpr (hrange a.1 a.2 h1 h2))
    (fun a a' ha ha' h => by
      obtain ⟨h1, h2⟩ := (hmem a).mp ha
      obtain ⟨h1', h2'⟩ := (hmem a').mp ha'
      exact hinj a.1 a.2 a'.1 a'.2 h1 h2 h1' h2' h)
    le_rfl (j', k') ((hmem _).mpr ⟨hj', hk'⟩)
  obtain ⟨h1, h2⟩ := (hmem a).mp ha
  exact ⟨a.1, a.2, h1, h2, hb.symm⟩

end Cij.Interp
