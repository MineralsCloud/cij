/-
  The model of `fill_cij` (`CijModel/Fill.lean`, `CijModel/FillCall.lean`) IS what `cij/util/fill.py` and `cij/cli/fill.py` say
  now: semantics for the data and expression trees the translator plug-in `tools/gens/fill_src.py` extracts into
  `Generated/FillSpec.lean` on every run, and the lemmas that identify the model's pieces with those semantics.
  (The property-level statements are the `fill_model_is_source_*` theorems of `Properties/C09.lean`.)

  * `evalBool`: boolean trees (`and`/`or`/`not`, scalar comparison, `numpy.any(array cmp scalar)`, flags, path probes) over an
    environment that gives the names their values; `evalRefusals`: the first `if … : raise Warning(msg)` whose test holds.
  * `evalArr`: array trees (`@`, `-`, `+`, `** k`, `numpy.sum(·, axis=0)`) for ONE volume column: `a` a matrix, `x`, `b` vectors
    (numpy's arrays carry one column per volume; axis 0 runs over the equations, so column-wise the sum is over the vector).
  * `parseRegex`/`search`: the fragment of Python's `re` syntax that the two literals use (literal characters, `\d` on ASCII
    digits, capture groups) with `re.search` semantics (a match anywhere).
  * `lineRows`: an equation line `lhs = r1 = r2 …` as rows, from the extracted separator positions and signs.
  * `chooseKey`/`setColumn`: the write-back key and pandas' `frame[key] = col`.
  * `allcloseGeneric`: `numpy.allclose(col, target, atol, rtol)`.
-/
import CijProofs.Lemmas.Fill
import CijModel.FillCall
import CijModel.ElastDat
import CijModel.Voigt
import Generated.FillSpec

set_option linter.unusedSectionVars false
namespace Cij.FillSource
open Cij Cij.Fill Generated

/-! ### symbols -/

theorem symbols_are_source : Fill.symbolNames = Generated.fillSymbols := by decide +kernel

theorem nsym_is_source : Fill.nsym = Generated.fillSymbols.length := by decide +kernel

/-- the order of the 21 symbols is the order of the canonical keys of the Voigt model (C10) -/
theorem symbols_are_keys21 :
    Generated.fillSymbols = Cij.keys21.map (fun p => s!"c{p.1}{p.2}") := by decide +kernel

/-- … and of `Generated.symbolPairs`, the order in which the Laue model (C08) and the translated relation rows list the
components -/
theorem symbols_are_symbolPairs :
    Generated.fillSymbols = Generated.symbolPairs.map (fun p => s!"c{p.1}{p.2}") := by decide +kernel

/-! ### regular expressions -/

inductive RAtom
  | lit (c : Char)
  | digit
  deriving DecidableEq, Repr

def RAtom.test : RAtom → Char → Bool
  | .lit a, c => a == c
  | .digit, c => c.isDigit

/-- characters with a meaning of their own in Python's `re` syntax that the fragment does not cover -/
def reSpecial : List Char := ['.', '^', '$', '*', '+', '?', '{', '}', '[', ']', '|']

/-- literal characters, `\d`, and parentheses (capture groups of a plain sequence do not change what matches);
    anything else is outside the fragment -/
def parseRegex : List Char → Option (List RAtom)
  | [] => some []
  | '\\' :: 'd' :: rest => (parseRegex rest).map (RAtom.digit :: ·)
  | '\\' :: _ => none
  | '(' :: rest => parseRegex rest
  | ')' :: rest => parseRegex rest
  | c :: rest => if c ∈ reSpecial then none else (parseRegex rest).map (RAtom.lit c :: ·)

/-- the atoms match a prefix of the string -/
def matchHere : List RAtom → List Char → Bool
  | [], _ => true
  | _ :: _, [] => false
  | a :: as, c :: cs => a.test c && matchHere as cs

/-- `re.search`: a match starting anywhere -/
def search (atoms : List RAtom) : List Char → Bool
  | [] => matchHere atoms []
  | c :: cs => matchHere atoms (c :: cs) || search atoms cs

theorem regex_fit_parses :
    parseRegex Generated.fillRegexFit.toList = some [RAtom.lit 'c', RAtom.digit, RAtom.digit] := by decide +kernel

theorem regex_drop_is_regex_fit : Generated.fillRegexDrop = Generated.fillRegexFit := by decide +kernel

theorem matchesCdd_is_search : ∀ s : List Char,
    matchesCdd s = search [RAtom.lit 'c', RAtom.digit, RAtom.digit] s := by
  intro s
  induction s with
  | nil => simp [matchesCdd, search, matchHere]
  | cons x rest ih =>
    by_cases hx : x = 'c'
    · subst hx
      match rest, ih with
      | [], _ => simp [matchesCdd, search, matchHere]
      | [d1], _ => simp [matchesCdd, search, matchHere, RAtom.test]
      | d1 :: d2 :: rest', ih =>
        rw [matchesCdd, ih]
        simp [search, matchHere, RAtom.test]
    · have h1 : matchesCdd (x :: rest) = matchesCdd rest := by
        rw [matchesCdd]
        · intro d1 d2 r h
          exact fun _ => hx h
      rw [h1, ih]
      simp [search, matchHere, RAtom.test, Ne.symm hx]


/-! ### boolean trees -/

section trees
variable {α : Type} [Field α] [LinearOrder α] [IsStrictOrderedRing α]

/-- what the names of a tree stand for -/
structure BEnv (α : Type) where
  scalar : FillName → Option α := fun _ => none
  vec : FillName → Option (List α) := fun _ => none
  flag : FillName → Option Bool := fun _ => none
  probe : FillProbe → FillName → Option Bool := fun _ _ => none

def evalCmp : FillCmp → α → α → Bool
  | .lt, a, b => decide (a < b)
  | .le, a, b => decide (a ≤ b)
  | .gt, a, b => decide (b < a)
  | .ge, a, b => decide (b ≤ a)
  | .eq, a, b => decide (a = b)
  | .ne, a, b => decide (a ≠ b)

def evalAtom (E : BEnv α) : FillAtom → Option α
  | .var n => E.scalar n
  | .num n d => some ((n : α) / (d : α))

/-- `none`: a name the environment does not know, or an ill-typed tree.  (Python's `and`/`or` short-circuit; every atom here
    is total and free of side effects, so evaluating both sides is the same.) -/
def evalBool (E : BEnv α) : FillBool → Option Bool
  | .cmp op l r => do
      let a ← evalAtom E l
      let b ← evalAtom E r
      pure (evalCmp op a b)
  | .anyCmp op (.var n) r => do
      let v ← E.vec n
      let b ← evalAtom E r
      pure (v.any fun e => evalCmp op e b)
  | .anyCmp _ (.num _ _) _ => none
  | .flag n => E.flag n
  | .probe m p => E.probe m p
  | .not a => (evalBool E a).map (!·)
  | .and a b => do
      let x ← evalBool E a
      let y ← evalBool E b
      pure (x && y)
  | .or a b => do
      let x ← evalBool E a
      let y ← evalBool E b
      pure (x || y)

/-! ### the two refusals -/

/-- which refusal a `Warning` is, by the constant prefix of its message — the same rule the harness applies to the real
    exception (`harness/fillcommon.py: classify`) -/
def errOfMessage (msg : String) : Option Err :=
  if "Rank of constraints".toList.isPrefixOf msg.toList then some .refuseRank
  else if "Residuals seems".toList.isPrefixOf msg.toList then some .refuseResidual
  else none

/-- the `if test: raise Warning(msg)` statements in source order: the first test that holds raises -/
def evalRefusals (E : BEnv α) : List (FillBool × String) → Option (Except Err Unit)
  | [] => some (.ok ())
  | (t, m) :: rest =>
    match evalBool E t with
    | none => none
    | some true => (errOfMessage m).map .error
    | some false => evalRefusals E rest

/-- the names of the refusal tests: `rank` (lstsq's third result; any natural number that is `< nsym` exactly when the
    stacked matrix has a kernel), `nsym`, `residuals` (the recomputed sums of squares), the three parameters -/
def refusalEnv (P : Params α) (s : Solved α) (rank : Nat) : BEnv α where
  scalar := fun
    | .rank => some (rank : α)
    | .nsym => some (nsym : α)
    | .residualAtol => some P.residualAtol
    | .dropAtol => some P.dropAtol
    | _ => none
  vec := fun
    | .residuals => some s.residuals
    | _ => none
  flag := fun
    | .ignoreRank => some P.ignoreRank
    | .ignoreResiduals => some P.ignoreResiduals
    | _ => none

theorem refusal_messages :
    Generated.fillRefusals.map (fun p => errOfMessage p.2) = [some Err.refuseRank, some Err.refuseResidual] := by
  decide +kernel

theorem refusals_bool_aux (r k a i : Bool) :
    (match some (r && !k) with
      | none => none
      | some true => some (Except.error Err.refuseRank)
      | some false =>
        match some (a && !i) with
        | none => none
        | some true => some (Except.error Err.refuseResidual)
        | some false => some (Except.ok ())) =
    some (if (r && !k) = true then Except.error Err.refuseRank
      else if (a && !i) = true then Except.error Err.refuseResidual else (Except.ok () : Except Err Unit)) := by
  cases r <;> cases k <;> cases a <;> cases i <;> rfl

/-- **the decision stage is the source's two `if`s**: evaluating the extracted tests, in the extracted order, on the model's
    quantities gives the model's verdict -/
theorem verdict_is_source (P : Params α) (s : Solved α) (rank : Nat) (hrank : rank < nsym ↔ s.rankDeficient = true) :
    evalRefusals (refusalEnv P s rank) Generated.fillRefusals = some (verdict P s) := by
  have hm := refusal_messages
  have hc : ((rank : α) < (nsym : α)) ↔ s.rankDeficient = true := by rw [Nat.cast_lt]; exact hrank
  unfold Generated.fillRefusals at hm ⊢
  simp only [List.map_cons, List.map_nil, List.cons.injEq, and_true] at hm
  obtain ⟨hm1, hm2⟩ := hm
  simp only [evalRefusals, evalBool, evalAtom, refusalEnv, evalCmp, hm1, hm2, bind, Option.bind, pure, Option.map,
    verdict, Solved.residuals]
  have hd : decide ((rank : α) < (nsym : α)) = s.rankDeficient := by
    cases h : s.rankDeficient
    · have : ¬ ((rank : α) < (nsym : α)) := fun h' => by simpa [h] using hc.1 h'
      exact decide_eq_false this
    · exact decide_eq_true (hc.2 h)
  rw [hd]
  exact refusals_bool_aux _ _ _ _

/-! ### lookup of the relations -/

/-- `Path(s).name != s`: the string has a directory part (`./cubic`, `sub/cubic`, `/abs/cubic`); a bare name (`cubic`) has
    none.  (POSIX separators; the one string without `/` for which pathlib says otherwise is `"."`, a directory, for which
    no probe of the test is true either way.) -/
def hasDirPart (s : String) : Bool := s.toList.contains '/'

def splitSlash : List Char → List (List Char)
  | [] => [[]]
  | c :: cs =>
    match splitSlash cs with
    | [] => [[]]
    | w :: ws => if c == '/' then [] :: w :: ws else (c :: w) :: ws

/-- `Path("constraints") / s` for a relative `s`: pathlib drops empty and `.` components (and keeps `..`) -/
def normRel (s : String) : String :=
  String.intercalate "/" (((splitSlash s.toList).filter fun w => w ≠ [] ∧ w ≠ ['.']).map String.ofList)

def okB {ε β : Type} : Except ε β → Bool
  | .ok _ => true
  | .error _ => false

/-- `Path(get_data_fname(str(Path("constraints") / system))).is_file()` as the file system answers it: for a bare name, the
    package ships a file of that name; for a relative path, the package ships the file the collapsed path names
    (`constraints/./cubic` IS `constraints/cubic`); for an absolute path, `Path("constraints") / system` is `system` itself. -/
def packagedProbe (env : Env) (sys : String) : Bool :=
  if hasDirPart sys then
    (if sys.toList.head? = some '/' then (env.userFile sys).isSome else okB (packaged (normRel sys)))
  else okB (packaged sys)

/-- `Path(constraints).is_file()` for the packaged path; `Path(system).is_file()`: the argument names a readable regular
    file; `Path(system).exists()`: file or directory; `Path(system).name != system` -/
def lookupEnv (env : Env) (sys : String) : BEnv α where
  probe := fun
    | .isFile, .packaged => some (packagedProbe env sys)
    | .isFile, .system => some (env.userFile sys).isSome
    | .pathExists, .system => some (env.pathExists sys)
    | .hasDirPart, .system => some (hasDirPart sys)
    | _, _ => none

theorem packaged_names_bare : ∀ p ∈ Generated.constraintSystems, hasDirPart p.1 = false := by decide +kernel

/-- a packaged system name is a bare name -/
theorem packaged_ok_bare {sys : String} {rows : Rows} (h : packaged sys = .ok rows) : hasDirPart sys = false := by
  unfold packaged at h
  cases hf : Generated.constraintSystems.find? (fun p => p.1 == sys) with
  | none => simp [hf] at h
  | some p =>
    have hm := List.mem_of_find?_eq_some hf
    have hp := List.find?_some hf
    have : p.1 = sys := by simpa using hp
    rw [← this]; exact packaged_names_bare p hm

/-- **lookup precedence is the source's test** (fix of the `./cubic` finding): when the extracted test
    `(Path(system).name != system or not Path(packaged).is_file()) and Path(system).is_file()` holds, `constraints = system`
    (the user's file is opened), otherwise the packaged path is opened.  The test before the fix
    (`not Path(packaged).is_file() and Path(system).is_file()`) does NOT satisfy this statement: for `./cubic` naming an
    existing file the packaged probe is true (`constraints/./cubic` is `constraints/cubic`) and the user's file was ignored. -/
theorem resolve_is_source (env : Env) (sys : String) :
    ∃ useUser, evalBool (lookupEnv (α := α) env sys) Generated.fillLookupTest = some useUser ∧
      resolve env sys =
        if useUser then (match env.userFile sys with | some rows => .ok rows | none => .error .fileNotFound)
        else packaged sys := by
  unfold Generated.fillLookupTest
  simp only [evalBool, lookupEnv, bind, Option.bind, pure, Option.map]
  unfold resolve
  cases hd : hasDirPart sys with
  | true =>
    have hp : ∃ e, packaged sys = .error e := by
      cases hq : packaged sys with
      | ok rows => rw [packaged_ok_bare hq] at hd; cases hd
      | error e => exact ⟨e, rfl⟩
    obtain ⟨e, hp⟩ := hp
    cases hu : env.userFile sys with
    | none => exact ⟨false, by simp, by simp [hp]⟩
    | some rows => exact ⟨true, by simp, by simp [hp]⟩
  | false =>
    cases hp : packaged sys with
    | ok rows => exact ⟨false, by simp [packagedProbe, hd, hp, okB], by simp⟩
    | error e =>
      cases hu : env.userFile sys with
      | none => exact ⟨false, by simp, by simp⟩
      | some rows => exact ⟨true, by simp [packagedProbe, hd, hp, okB], by simp⟩

/-- **a string WITH a directory part that names an existing file is that file, whatever its base name** -/
theorem dir_path_is_used (env : Env) (sys : String) (rows : Rows) (hd : hasDirPart sys = true)
    (h : env.userFile sys = some rows) : resolve env sys = .ok rows := by
  cases hq : packaged sys with
  | ok r => rw [packaged_ok_bare hq] at hd; cases hd
  | error e => exact resolve_user_file env sys rows e hq h

/-- … in particular `./cubic`, `sub/cubic`, `/abs/cubic`, although `cubic` is packaged and the collapsed packaged path exists -/
theorem dot_name_examples :
    hasDirPart "./cubic" = true ∧ hasDirPart "sub/cubic" = true ∧ hasDirPart "/abs/cubic" = true ∧
    hasDirPart "cubic" = false ∧ normRel "./cubic" = "cubic" ∧ normRel "./sub/../cubic" = "sub/../cubic" ∧
    okB (packaged (normRel "./cubic")) = true ∧ okB (packaged "./cubic") = false := by decide +kernel

/-! ### the residuals -/

inductive Val (α : Type)
  | mat (m : List (List α))
  | vec (v : List α)
  | scalar (x : α)

/-- one volume column: `matmul` matrix·vector, `-`/`+` entry-wise on vectors, `** k` entry-wise, `numpy.sum(·, axis=0)` the
    sum over the equations; anything else is ill-typed here (`none`) -/
def evalArr (E : FillName → Option (Val α)) : FillArr → Option (Val α)
  | .var n => E n
  | .matmul a b =>
    match evalArr E a, evalArr E b with
    | some (.mat A), some (.vec x) => some (.vec (A.map fun r => dot r x))
    | _, _ => none
  | .sub a b =>
    match evalArr E a, evalArr E b with
    | some (.vec u), some (.vec v) => some (.vec (List.zipWith (· - ·) u v))
    | _, _ => none
  | .add a b =>
    match evalArr E a, evalArr E b with
    | some (.vec u), some (.vec v) => some (.vec (List.zipWith (· + ·) u v))
    | _, _ => none
  | .powNat a k =>
    match evalArr E a with
    | some (.vec u) => some (.vec (u.map (· ^ k)))
    | _ => none
  | .sumAxis a ax =>
    match evalArr E a, ax with
    | some (.vec u), 0 => some (.scalar u.sum)
    | _, _ => none

def residualEnv (A : List (List α)) (b x : List α) : FillName → Option (Val α)
  | .a => some (.mat A)
  | .x => some (.vec x)
  | .b => some (.vec b)
  | _ => none

theorem sum_map_sq (r : List α) : (r.map (· ^ 2)).sum = dot r r := by
  induction r with
  | nil => simp
  | cons a r ih => rw [List.map_cons, List.sum_cons, ih, dot_cons, sq]

theorem zipWith_sub_map (A : List (List α)) (b x : List α) :
    List.zipWith (· - ·) (A.map fun r => dot r x) b = residualVec A b x := by
  unfold residualVec
  rw [List.zipWith_map_left]

/-- **`residuals` is the source's expression**: the extracted tree, evaluated for one volume column, is the model's sum of
    squared residuals `Σ (a·x − b)²` -/
theorem residual_is_source (A : List (List α)) (b x : List α) :
    evalArr (residualEnv A b x) Generated.fillResidualExpr = some (.scalar (sumSq (residualVec A b x))) := by
  unfold Generated.fillResidualExpr
  simp only [evalArr, residualEnv, zipWith_sub_map, sum_map_sq, sumSq]

/-! ### equation lines → rows -/

/-- a part of a line / a row: (integer coefficients, constant) over a common denominator -/
abbrev LinForm := List Int × Int

/-- `for part in parts[from:]: eqns.append(parts[lhs] + sign·part)`; a row `(coeffs·x + const)/den = 0` is kept as
    `coeffs`, `rhs = −const`, `den` (the shape of `Fill.Rel`) -/
def lineRows (lhsIdx fromIdx : Nat) (sign : Int) (line : List LinForm × Nat) : List Rel :=
  match line.1[lhsIdx]? with
  | none => []
  | some lhs => (line.1.drop fromIdx).map fun part =>
      ⟨List.zipWith (fun a b => a + sign * b) lhs.1 part.1, -(lhs.2 + sign * part.2), line.2⟩

/-- a relation row as `linear_eq_to_matrix` hands it to the least squares: rational coefficients and right-hand side -/
def ratRow (r : Rel) : List Rat × Rat := (castRow (α := Rat) r, (r.rhs : Rat) / ((Int.ofNat r.den : Int) : Rat))

/-- **the relation rows are the source's `parts[0] - part`**: for every packaged system, the rows the model uses
    (`Fill.packaged`, from `Generated.constraints_*`) are, as rational rows and in order, the rows the extracted rule makes
    of the file's lines, part by part -/
theorem relation_rows_are_source :
    Generated.fillLineParts.map (·.1) = Generated.constraintSystems.map (·.1) ∧
    ∀ e ∈ Generated.fillLineParts,
      (match packaged e.1 with
        | .ok rows => rows.map ratRow
        | .error _ => []) =
      (e.2.flatMap (lineRows Generated.fillEqnLhsIndex Generated.fillEqnRhsFrom Generated.fillEqnRhsSign)).map ratRow := by
  decide +kernel

/-! ### stacking order, selector rows -/

def concatBy {β : Type} (order : List FillBlock) (supplied relations : List β) : List β :=
  order.flatMap fun
    | .supplied => supplied
    | .relations => relations

/-- **stacking order is the source's**: matrices and right-hand sides are concatenated in the extracted order (supplied
    rows first, then relations); a selector row is `numpy.zeros(nsym)` with the extracted value at the symbol's index; the
    relations' constants do not depend on the volume (broadcast) -/
theorem stack_is_source (sel : List Nat) (selCols : List (List α)) (rel : Rows) (k : Nat) :
    stackA (α := α) sel rel = concatBy Generated.fillStackA (sel.map selectorRow) (rel.map castRow) ∧
    stackB selCols rel k = concatBy Generated.fillStackB (selCols.map fun c => c.getD k 0)
      (rel.map fun r => (Int.cast r.rhs : α) / (Int.cast (Int.ofNat r.den) : α)) ∧
    (∀ i, selectorRow (α := α) i = (List.range Generated.fillSymbols.length).map fun j =>
      if j = i then ((Generated.fillSelectorValue.1 : α) / (Generated.fillSelectorValue.2 : α)) else 0) := by
  refine ⟨by simp [stackA, concatBy, Generated.fillStackA], by simp [stackB, concatBy, Generated.fillStackB], ?_⟩
  intro i
  simp [selectorRow, ← nsym_is_source, Generated.fillSelectorValue]

end trees

/-! ### write-back key -/

def chooseKey (cmp : FillKeyCompare) (cols : List String) (sym : String) : String :=
  match cols.find? (fun k => match cmp with | .lower => k.toLower == sym | .exact => k == sym) with
  | some k => k
  | none => sym

/-- pandas' `frame[key] = col`: replace the column labelled `key`, or append a new last column -/
def setColumn {α : Type} (t : Table α) (key : String) (col : List α) : Table α :=
  if t.any (fun c => c.1 == key) then t.map fun c => if c.1 == key then (c.1, col) else c
  else t ++ [(key, col)]

/-- **write-back key is the source's `next(...)`**: the first existing column whose (lower-cased, as extracted) name equals
    the symbol, else the symbol itself -/
theorem writeBack_is_source {α : Type} (t : Table α) (sym : String) (col : List α) (hsym : sym.toLower = sym) :
    writeBack t sym col = setColumn t (chooseKey Generated.fillKeyCompare (t.map (·.1)) sym) col := by
  unfold writeBack chooseKey setColumn
  simp only [Generated.fillKeyCompare, List.find?_map, Function.comp_def]
  cases h : t.find? (fun c => c.1.toLower == sym) with
  | some hit =>
    have hmem := List.mem_of_find?_eq_some h
    have : t.any (fun c => c.1 == hit.1) = true := List.any_eq_true.2 ⟨hit, hmem, by simp⟩
    simp [this]
  | none =>
    have hall := List.find?_eq_none.1 h
    have : t.any (fun c => c.1 == sym) = false := by
      rw [List.any_eq_false]
      intro c hc hcs
      have : c.1 = sym := by simpa using hcs
      exact hall c hc (by simp [this, hsym])
    simp [this]

/-! ### drop rule -/

section drop
variable {α : Type} [Field α] [LinearOrder α] [IsStrictOrderedRing α]

/-- `numpy.allclose(col, target, rtol, atol)` on finite numbers: `|x − target| ≤ atol + rtol·|target|` at every row -/
def allcloseGeneric (atol rtol target : α) (col : List α) : Bool :=
  col.all fun x => decide (|x - target| ≤ atol + rtol * |target|)

def paramValue (P : Params α) : FillName → Option α
  | .dropAtol => some P.dropAtol
  | .residualAtol => some P.residualAtol
  | _ => none

def ratOf (p : Int × Nat) : α := (p.1 : α) / (p.2 : α)

/-- **drop rule is the source's `numpy.allclose(col, 0, atol=drop_atol)`**: with the extracted target, the extracted
    tolerance parameter and numpy's default `rtol` (which multiplies `|target| = 0`), the test is the model's `allClose0` -/
theorem drop_is_source (P : Params α) (col : List α) :
    (paramValue P Generated.fillDropAtolParam).map (fun atol =>
      allcloseGeneric atol (ratOf Generated.fillDropRtol) (ratOf Generated.fillDropTarget) col)
      = some (allClose0 P.dropAtol col) := by
  simp only [Generated.fillDropAtolParam, paramValue, Option.map, Generated.fillDropTarget, Generated.fillDropRtol,
    ratOf, allcloseGeneric, allClose0]
  congr 1
  apply List.all_congr rfl
  intro x
  simp [abs_le, and_comm, neg_le]

/-- … and the columns it looks at are those the source's second regex finds in the lower-cased name -/
theorem finish_is_source (P : Params α) (t : Table α) (xs : List (List α)) :
    ∃ atoms, parseRegex Generated.fillRegexDrop.toList = some atoms ∧
      finish P t xs = (writeAll t xs).filter fun c =>
        !(search atoms (if Generated.fillDropLowersFirst then c.1.toLower else c.1).toList &&
          allcloseGeneric P.dropAtol (ratOf Generated.fillDropRtol) (ratOf Generated.fillDropTarget) c.2) := by
  refine ⟨_, by rw [regex_drop_is_regex_fit]; exact regex_fit_parses, ?_⟩
  unfold finish
  congr 1
  funext c
  have h := drop_is_source P c.2
  simp only [Generated.fillDropAtolParam, paramValue, Option.map, Option.some.injEq] at h
  rw [h, matchesCdd_is_search]
  simp [Generated.fillDropLowersFirst]

end drop

/-- the fit loop recognises a column by the source's first regex on the lower-cased name, and looks the lower-cased name
    up among the symbols -/
theorem recognise_is_source (names : List String) :
    ∃ atoms, parseRegex Generated.fillRegexFit.toList = some atoms ∧
      recognise names = recogniseLower (if Generated.fillFitLowersFirst then names.map String.toLower else names) ∧
      ∀ s : String, matchesCdd s.toList = search atoms s.toList :=
  ⟨_, regex_fit_parses, by simp [recognise, Generated.fillFitLowersFirst], fun s => matchesCdd_is_search s.toList⟩

/-! ### signature, command line, call sites -/

def lookupDefault (name : String) : Option FillDefault :=
  (Generated.fillDefaults.find? (fun p => p.1 == name)).map (·.2)

def defaultNum : FillDefault → Option Rat
  | .num n d => some (mkRat n d)
  | _ => none

/-- **the defaults are the signature's**: parameter names and order, and the default of every keyword parameter, are those
    of `FillCall` (which the driver uses for absent keywords) -/
theorem defaults_are_source :
    Generated.fillParams = FillCall.paramNames ∧
    Generated.fillDefaults.map (·.1) = FillCall.paramNames.tail ∧
    (lookupDefault "system" = some .none ∧ FillCall.defaultSystem = none) ∧
    lookupDefault "ignore_residuals" = some (.bool FillCall.defaultParams.ignoreResiduals) ∧
    lookupDefault "ignore_rank" = some (.bool FillCall.defaultParams.ignoreRank) ∧
    (lookupDefault "drop_atol").bind defaultNum = some FillCall.defaultParams.dropAtol ∧
    (lookupDefault "residual_atol").bind defaultNum = some FillCall.defaultParams.residualAtol := by
  decide +kernel

/-- click's derivation of a parameter name from a long option: leading dashes removed, inner dashes → underscores -/
def canonName (decl : String) : String :=
  String.ofList ((decl.toList.dropWhile (· == '-')).map fun c => if c == '-' then '_' else c)

def isLong (decl : String) : Bool := decl.toList.take 2 == ['-', '-']

/-- **the command passes its options through**: every option reaches the callback under the name of its own long flag
    (identity on names — a flag wired to another keyword breaks this), that name is a keyword parameter of `fill_cij`, its
    default is the library's default; no two options share a keyword; the popped keyword is the positional argument, which
    is not a parameter of `fill_cij` -/
theorem cli_is_source :
    (∀ o ∈ Generated.cliOptions,
      (o.decls.filter isLong).head?.map canonName = some o.kwarg ∧
      o.kwarg ∈ Generated.fillParams.tail ∧
      lookupDefault o.kwarg = some o.default) ∧
    (Generated.cliOptions.map (·.kwarg)).Nodup ∧
    Generated.cliPopped = Generated.cliArgument ∧
    Generated.cliArgument ∉ Generated.fillParams ∧
    Generated.cliArgument ∉ Generated.cliOptions.map (·.kwarg) ∧
    Generated.cliPrintIndex = false := by
  decide +kernel

def keywordOk (k : String × String × Option FillDefault) : Bool :=
  Generated.fillParams.tail.contains k.1 && k.2.1 == k.1 &&
    (match k.2.2 with
     | some d => lookupDefault k.1 == some d
     | none => true)

/-- one table (and at most `system`) by position, at most one `**mapping`, explicit keywords read from a variable / mapping
    key of the SAME name with the library's default -/
def callSiteOk (c : FillCallSite) : Bool :=
  decide (1 ≤ c.positional) && decide (c.positional ≤ 2) && decide (c.starKwargs ≤ 1) && c.keywords.all keywordOk

/-- **callers hand their settings to `fill_cij` under the same names** -/
theorem callers_pass_through : ∀ c ∈ Generated.fillCallSites, callSiteOk c = true := by decide +kernel

/-- **`cij fill` re-emission is the source's**: the count is the extracted field of line 2, the table is the next
    `N + cliTableExtra` lines, printed without an index column -/
theorem fill_cmd_is_source {Num : Type} (F P : NumFmt Num) (k : Nat)
    (fill : ElastDat.Table Num → Option (ElastDat.Table Num)) (l1 l2 : Line) (rest : List Line) :
    ElastDat.fillCmd F P k fill (l1 :: l2 :: rest) = (do
      let n ← l2[Generated.cliCountField]? >>= Lex.parseInt
      let cnt := (n + Generated.cliTableExtra).toNat
      let t ← ElastDat.parseTable F (rest.take cnt)
      let t' ← fill t
      pure (l1 :: l2 :: (ElastDat.printTable P k t' ++ rest.drop cnt))) := rfl

end Cij.FillSource
