/-
  The model `CijModel/VRH.lean` at `α = ℝ` (no property statements here): dictionaries and the assembled 6×6, the two
  fourth-rank tensors, the bounds and velocity identities at one grid point, the vocabulary of the C07 statements.
-/
import CijModel.VRH
import CijProofs.Lemmas.VRHMatrix
import CijProofs.Lemmas.Voigt
import Mathlib.Algebra.BigOperators.Fin
import Mathlib.Tactic.FieldSimp
import Mathlib.Tactic.NormNum
import Mathlib.Tactic.LinearCombination

namespace Cij.VRH
open Cij

/-- the model's scalar operations at `ℝ` -/
noncomputable instance : Scalar ℝ where
  ofNat n := (n : ℝ)
  sqrt := Real.sqrt
  absLt a b := decide (|a| < |b|)

@[simp] theorem nat_real (n : Nat) : (nat n : ℝ) = (n : ℝ) := rfl
@[simp] theorem sqrt_real (x : ℝ) : (Scalar.sqrt x : ℝ) = Real.sqrt x := rfl

/-! ### arrays -/

theorem fieldAt_grid (nt nv : Nat) (h : Nat → Nat → ℝ) (t v : Nat) (ht : t < nt) (hv : v < nv) :
    fieldAt (grid nt nv h) t v = h t v := by
  simp [fieldAt, grid, List.getD, ht, hv]

/-! ### dictionaries -/

theorem find_eq_find? {β : Type} (d : List (Modulus × β)) (key : Modulus) :
    find d key = (d.find? fun e => e.1 = key).map (·.2) := by
  induction d with
  | nil => rfl
  | cons e r ih =>
    obtain ⟨k, x⟩ := e
    by_cases h : k = key <;> simp [find, h, ih]

theorem find_kvAt (d : Dict ℝ) (t v : Nat) (key : Modulus) :
    find (kvAt d t v) key = (find d key).map (fun f => fieldAt f t v) := by
  rw [find_eq_find?, find_eq_find?, kvAt, List.find?_map]
  simp only [Function.comp_def, Option.map_map]

theorem find_none_of_not_mem {β : Type} (d : List (Modulus × β)) (key : Modulus)
    (h : key ∉ d.map (·.1)) : find d key = none := by
  rw [find_eq_find?, List.find?_eq_none.2 fun e he hk => h (List.mem_map.2 ⟨e, he, of_decide_eq_true hk⟩)]
  rfl

theorem find_some_of_mem {β : Type} (d : List (Modulus × β)) (key : Modulus)
    (h : key ∈ d.map (·.1)) : ∃ x, find d key = some x := by
  obtain ⟨e, he, rfl⟩ := List.mem_map.1 h
  have hs : (d.find? fun e' => decide (e'.1 = e.1)).isSome := List.find?_isSome.2 ⟨e, he, by simp⟩
  obtain ⟨e', he'⟩ := Option.isSome_iff_exists.1 hs
  exact ⟨e'.2, by rw [find_eq_find?, he']; rfl⟩

theorem find_eq_some_iff {β : Type} : ∀ (d : List (Modulus × β)), (d.map (·.1)).Nodup → ∀ (key : Modulus) (x : β),
    find d key = some x ↔ (key, x) ∈ d
  | [], _, key, x => by simp [find]
  | (k, y) :: r, hn, key, x => by
    obtain ⟨hk, hn'⟩ : k ∉ r.map (·.1) ∧ (r.map (·.1)).Nodup := List.nodup_cons.1 hn
    simp only [find, List.mem_cons, Prod.mk.injEq]
    by_cases h : k = key
    · subst h
      simp only [if_true, Option.some.injEq, true_and]
      constructor
      · intro e; exact Or.inl e.symm
      · rintro (e | hm)
        · exact e.symm
        · exact absurd (List.mem_map.2 ⟨(k, x), hm, rfl⟩) hk
    · simp only [h, if_false]
      rw [find_eq_some_iff r hn' key x]
      constructor
      · intro hm; exact Or.inr hm
      · rintro (⟨e, _⟩ | hm)
        · exact absurd e.symm h
        · exact hm

theorem map_fst_kvAt (d : Dict ℝ) (t v : Nat) : (kvAt d t v).map (·.1) = d.map (·.1) := by
  simp [kvAt, List.map_map, Function.comp_def]

/-- the nine components every crystal system has -/
def ortho9 : List (Int × Int) := [(1, 1), (2, 2), (3, 3), (1, 2), (2, 3), (1, 3), (4, 4), (5, 5), (6, 6)]

/-- what a `modulus_keys` list is: distinct canonical `C_` keys (C10: every `C_` is one of the 21),
containing the nine orthotropic ones -/
structure ValidKeys (keys : List Modulus) : Prop where
  canon : ∀ k ∈ keys, ∃ p ∈ keys21, k = keyOfVoigt p
  nodup : keys.Nodup
  ortho : ∀ p ∈ ortho9, keyOfVoigt p ∈ keys

def CanonKeys (keys : List Modulus) : Prop := (∀ k ∈ keys, ∃ p ∈ keys21, k = keyOfVoigt p) ∧ keys.Nodup

/-- value of the canonical key `p` (a Voigt pair, `p.1 ≤ p.2`) at one grid point; absent = 0 -/
noncomputable def val (kv : KV ℝ) (p : Int × Int) : ℝ := (find kv (keyOfVoigt p)).getD 0

/-- canonical (sorted) form of a Voigt pair -/
def canon (p : Int × Int) : Int × Int := (min p.1 p.2, max p.1 p.2)

theorem attrKey_eq : ∀ p ∈ keys21, attrKey p.1 p.2 = some (keyOfVoigt p) := by
  decide +kernel

theorem ortho9_sub : ∀ p ∈ ortho9, p ∈ keys21 := by decide +kernel

/-- the array `self.cIJ` returns (empty if the key is absent) -/
def cField (d : Dict ℝ) (i j : Int) : Field ℝ := (find d (keyOfVoigt (i, j))).getD []

theorem getC_eq (d : Dict ℝ) (hk : ValidKeys (d.map (·.1))) (i j : Int) (hp : (i, j) ∈ ortho9) :
    getC d i j = some (cField d i j) := by
  obtain ⟨f, hf⟩ := find_some_of_mem d (keyOfVoigt (i, j)) (hk.ortho _ hp)
  simp [getC, cField, attrKey_eq _ (ortho9_sub _ hp), hf]

/-! ### the assembled matrix in terms of the canonical values -/

theorem writes_iff : ∀ p ∈ keys21, ∀ q ∈ allPairs,
    (q ∈ writes (keyOfVoigt p) ↔ keyOfVoigt p = keyOfVoigt (canon q)) := by
  decide +kernel

theorem assemble_fold (kv : KV ℝ) (i j : Int) (hij : (i, j) ∈ allPairs) (h : CanonKeys (kv.map (·.1))) (acc : ℝ) :
    kv.foldl (fun acc e => if (i, j) ∈ writes e.1 then e.2 else acc) acc
      = (find kv (keyOfVoigt (canon (i, j)))).getD acc := by
  induction kv generalizing acc with
  | nil => simp [find]
  | cons e r ih =>
    obtain ⟨k, x⟩ := e
    obtain ⟨hc, hn⟩ := h
    simp only [List.map_cons, List.nodup_cons] at hn
    obtain ⟨p, hp, rfl⟩ := hc k (by simp)
    simp only [List.foldl_cons, find]
    rw [ih ⟨fun k' hk' => hc k' (List.mem_cons_of_mem _ hk'), hn.2⟩]
    by_cases hw : (i, j) ∈ writes (keyOfVoigt p)
    · have hkey := (writes_iff p hp (i, j) hij).1 hw
      rw [if_pos hw, if_pos hkey]
      rw [← hkey, find_none_of_not_mem r _ hn.1]
      simp
    · have hkey : ¬ keyOfVoigt p = keyOfVoigt (canon (i, j)) :=
        fun h => hw ((writes_iff p hp (i, j) hij).2 h)
      rw [if_neg hw, if_neg hkey]

theorem assembleEntry_eq (kv : KV ℝ) (i j : Int) (hij : (i, j) ∈ allPairs) (h : CanonKeys (kv.map (·.1))) :
    assembleEntry kv i j = val kv (canon (i, j)) := by
  unfold assembleEntry val
  rw [assemble_fold kv i j hij h]; simp

theorem canon_comm (i j : Int) : canon (i, j) = canon (j, i) := by
  simp [canon, min_comm, max_comm]

theorem swap_mem_allPairs (i j : Int) (h : (i, j) ∈ allPairs) : (j, i) ∈ allPairs := by
  rw [mem_allPairs] at h ⊢; exact ⟨h.2, h.1⟩

theorem assembleEntry_symm (kv : KV ℝ) (i j : Int) (hij : (i, j) ∈ allPairs) (h : CanonKeys (kv.map (·.1))) :
    assembleEntry kv i j = assembleEntry kv j i := by
  rw [assembleEntry_eq kv i j hij h, assembleEntry_eq kv j i (swap_mem_allPairs i j hij) h, canon_comm]

/-! ### tensor tables -/

/-- Voigt index of a pair of cartesian indices (the documented map 11,22,33,23,13,12 → 1..6) -/
def vidx (i j : Int) : Int := if i = j then i else 9 - i - j

theorem key4_eq : ∀ t ∈ allTuples, Modulus.fromStandard t.1 t.2.1 t.2.2.1 t.2.2.2
    = some (keyOfVoigt (canon (vidx t.1 t.2.1, vidx t.2.2.1 t.2.2.2))) := by
  decide +kernel

theorem canon_vidx_mem : ∀ t ∈ allTuples, canon (vidx t.1 t.2.1, vidx t.2.2.1 t.2.2.2) ∈ keys21 := by
  decide +kernel

theorem voigt_keyOfVoigt : ∀ p ∈ keys21, (keyOfVoigt p).voigt = some p := by
  decide +kernel

theorem writes_keyOfVoigt (p : Int × Int) (hp : p ∈ keys21) :
    writes (keyOfVoigt p) = [(p.1, p.2), (p.2, p.1)] := by
  unfold writes; rw [voigt_keyOfVoigt p hp]

theorem create_ints_eq : ∀ p ∈ keys21, Modulus.create [.int p.1, .int p.2] = some (keyOfVoigt p) := by
  decide +kernel

theorem tensorOf_eq (kv : KV ℝ) (i j k l : Int) (h : (i, j, k, l) ∈ allTuples) :
    tensorOf kv i j k l = val kv (canon (vidx i j, vidx k l)) := by
  have := key4_eq (i, j, k, l) h
  simp only at this
  simp [tensorOf, this, val]

theorem complTensorOf_eq (s : Int → Int → ℝ) (i j k l : Int) (h : (i, j, k, l) ∈ allTuples) :
    complTensorOf s i j k l =
      sWeight (canon (vidx i j, vidx k l)).1 * sWeight (canon (vidx i j, vidx k l)).2 *
        s (canon (vidx i j, vidx k l)).1 (canon (vidx i j, vidx k l)).2 := by
  have h1 := key4_eq (i, j, k, l) h
  have h2 := voigt_keyOfVoigt _ (canon_vidx_mem (i, j, k, l) h)
  simp only at h1 h2
  simp only [complTensorOf, h1, h2]

theorem sWeight_le (p : Int) (h : p ≤ 3) : (sWeight p : ℝ) = 1 := by simp [sWeight, h]
theorem sWeight_gt (p : Int) (h : ¬ p ≤ 3) : (sWeight p : ℝ) = 1 / 2 := by simp [sWeight, h]

theorem sum_three (a b c : ℝ) : VRH.sum [a, b, c] = a + b + c := by simp [VRH.sum]

/-- the canonical pair of each of the nine index tuples is found by evaluation (`rfl`) -/
theorem contract_voigt (T : Int → Int → Int → Int → ℝ) (g : Int × Int → ℝ)
    (h : ∀ i j k l, (i, j, k, l) ∈ allTuples → T i j k l = g (canon (vidx i j, vidx k l))) :
    contractIIJJ T = g (1, 1) + g (2, 2) + g (3, 3) + 2 * (g (1, 2) + g (2, 3) + g (1, 3)) ∧
    contractIJIJ T = g (1, 1) + g (2, 2) + g (3, 3) + 2 * (g (4, 4) + g (5, 5) + g (6, 6)) := by
  have e : ∀ i j k l p, (i, j, k, l) ∈ allTuples → canon (vidx i j, vidx k l) = p → T i j k l = g p :=
    fun i j k l p ht hp => hp ▸ h i j k l ht
  constructor
  · simp only [contractIIJJ, idx3, List.map, sum_three]
    rw [e 1 1 1 1 (1, 1) (by decide) rfl, e 1 1 2 2 (1, 2) (by decide) rfl, e 1 1 3 3 (1, 3) (by decide) rfl,
      e 2 2 1 1 (1, 2) (by decide) rfl, e 2 2 2 2 (2, 2) (by decide) rfl, e 2 2 3 3 (2, 3) (by decide) rfl,
      e 3 3 1 1 (1, 3) (by decide) rfl, e 3 3 2 2 (2, 3) (by decide) rfl, e 3 3 3 3 (3, 3) (by decide) rfl]
    ring
  · simp only [contractIJIJ, idx3, List.map, sum_three]
    rw [e 1 1 1 1 (1, 1) (by decide) rfl, e 1 2 1 2 (6, 6) (by decide) rfl, e 1 3 1 3 (5, 5) (by decide) rfl,
      e 2 1 2 1 (6, 6) (by decide) rfl, e 2 2 2 2 (2, 2) (by decide) rfl, e 2 3 2 3 (4, 4) (by decide) rfl,
      e 3 1 3 1 (5, 5) (by decide) rfl, e 3 2 3 2 (4, 4) (by decide) rfl, e 3 3 3 3 (3, 3) (by decide) rfl]
    ring

theorem contractIIJJ_tensorOf (kv : KV ℝ) :
    contractIIJJ (tensorOf kv) = val kv (1, 1) + val kv (2, 2) + val kv (3, 3)
      + 2 * (val kv (1, 2) + val kv (2, 3) + val kv (1, 3)) :=
  (contract_voigt _ (val kv) (tensorOf_eq kv)).1

theorem contractIJIJ_tensorOf (kv : KV ℝ) :
    contractIJIJ (tensorOf kv) = val kv (1, 1) + val kv (2, 2) + val kv (3, 3)
      + 2 * (val kv (4, 4) + val kv (5, 5) + val kv (6, 6)) :=
  (contract_voigt _ (val kv) (tensorOf_eq kv)).2

theorem contractIIJJ_complTensorOf (s : Int → Int → ℝ) :
    contractIIJJ (complTensorOf s) = s 1 1 + s 2 2 + s 3 3 + 2 * (s 1 2 + s 2 3 + s 1 3) := by
  rw [(contract_voigt _ (fun p => sWeight p.1 * sWeight p.2 * s p.1 p.2) (complTensorOf_eq s)).1]
  norm_num [sWeight]

theorem contractIJIJ_complTensorOf (s : Int → Int → ℝ) :
    contractIJIJ (complTensorOf s) = s 1 1 + s 2 2 + s 3 3 + (s 4 4 + s 5 5 + s 6 6) / 2 := by
  rw [(contract_voigt _ (fun p => sWeight p.1 * sWeight p.2 * s p.1 p.2) (complTensorOf_eq s)).2]
  norm_num [sWeight]; ring

/-! ### lookups in the compliance dictionary -/

theorem keys21_sub : ∀ p ∈ keys21, p ∈ allPairs ∧ p.1 ≤ p.2 := by decide +kernel

theorem complDict_keys (S : Nat → Nat → Int → Int → ℝ) (nt nv : Nat) :
    (complDict S nt nv).map (·.1) = keys21.map keyOfVoigt := by
  have h : ∀ p : Int × Int, Option.map (·.1) (if p.1 > p.2 then none
      else (Modulus.create [.int p.1, .int p.2]).map fun k => (k, entryField S nt nv p.1 p.2))
      = if p.1 > p.2 then none else Modulus.create [.int p.1, .int p.2] := by
    intro p; split <;> simp [Option.map_map, Function.comp_def]
  rw [complDict, List.map_filterMap]
  simp only [h]
  decide +kernel

theorem getS_complDict (S : Nat → Nat → Int → Int → ℝ) (nt nv : Nat) (i j : Int) (h : (i, j) ∈ keys21) :
    getS (complDict S nt nv) i j = some (entryField S nt nv i j) := by
  have hn : ((complDict S nt nv).map (·.1)).Nodup := by rw [complDict_keys]; decide +kernel
  rw [getS, attrKey_eq _ h, Option.bind_some, find_eq_some_iff _ hn]
  refine List.mem_filterMap.2 ⟨(i, j), (keys21_sub _ h).1, ?_⟩
  rw [if_neg (not_lt.2 (keys21_sub _ h).2), create_ints_eq _ h]; rfl

/-! ### the 6×6 Voigt matrices as Mathlib matrices -/

open Matrix

/-- position → 1-based Voigt index -/
def ix : Fin 6 → Int := ![1, 2, 3, 4, 5, 6]

/-- a 1-based 6×6 array as a Mathlib matrix -/
def toMat (f : Int → Int → ℝ) : Matrix (Fin 6) (Fin 6) ℝ := Matrix.of fun a b => f (ix a) (ix b)

/-- positive definiteness of a 6×6 Voigt matrix -/
def PosDef6 (f : Int → Int → ℝ) : Prop := ∀ x : Fin 6 → ℝ, x ≠ 0 → 0 < x ⬝ᵥ toMat f *ᵥ x

theorem ix_mem (a b : Fin 6) : (ix a, ix b) ∈ allPairs := by
  revert a b; decide

theorem ix_inj {a b : Fin 6} : ix a = ix b ↔ a = b := by
  revert a b; decide

theorem toMat_mul_apply (f g : Int → Int → ℝ) (a b : Fin 6) :
    (toMat f * toMat g) a b = f (ix a) 1 * g 1 (ix b) + f (ix a) 2 * g 2 (ix b) + f (ix a) 3 * g 3 (ix b)
      + f (ix a) 4 * g 4 (ix b) + f (ix a) 5 * g 5 (ix b) + f (ix a) 6 * g 6 (ix b) := by
  simp [Matrix.mul_apply, Fin.sum_univ_six, toMat, ix]

theorem toMat_symm (f : Int → Int → ℝ) (h : ∀ i j, (i, j) ∈ allPairs → f i j = f j i) :
    (toMat f)ᵀ = toMat f := by
  ext a b
  simp only [toMat, Matrix.transpose_apply, Matrix.of_apply]
  exact (h (ix a) (ix b) (ix_mem a b)).symm

theorem toMat_symm_entries (f : Int → Int → ℝ) (h : (toMat f)ᵀ = toMat f) :
    f 2 1 = f 1 2 ∧ f 3 1 = f 1 3 ∧ f 3 2 = f 2 3 := by
  refine ⟨?_, ?_, ?_⟩
  · simpa [toMat, ix] using congrFun (congrFun h 0) 1
  · simpa [toMat, ix] using congrFun (congrFun h 0) 2
  · simpa [toMat, ix] using congrFun (congrFun h 1) 2

/-- a Voigt vector without shear components -/
def diagVec (x y z : ℝ) : Fin 6 → ℝ := ![x, y, z, 0, 0, 0]

theorem quad_diagVec (f : Int → Int → ℝ) (hf : (toMat f)ᵀ = toMat f) (x y z : ℝ) :
    diagVec x y z ⬝ᵥ toMat f *ᵥ diagVec x y z
      = f 1 1 * x ^ 2 + f 2 2 * y ^ 2 + f 3 3 * z ^ 2 + 2 * (f 1 2 * x * y + f 2 3 * y * z + f 1 3 * x * z) := by
  obtain ⟨h21, h31, h32⟩ := toMat_symm_entries f hf
  simp [dotProduct, Matrix.mulVec, Fin.sum_univ_six, toMat, ix, diagVec, h21, h31, h32]; ring

theorem dot_diagVec (x y z x' y' z' : ℝ) : diagVec x y z ⬝ᵥ diagVec x' y' z' = x * x' + y * y' + z * z' := by
  simp [dotProduct, Fin.sum_univ_six, diagVec]

theorem diagVec_ne (x y z : ℝ) (hx : x ≠ 0) : diagVec x y z ≠ 0 := fun h => hx (congrFun h 0)

theorem quad_shear (f : Int → Int → ℝ) :
    Pi.single 3 1 ⬝ᵥ toMat f *ᵥ Pi.single 3 1 = f 4 4 ∧ Pi.single 4 1 ⬝ᵥ toMat f *ᵥ Pi.single 4 1 = f 5 5 ∧
      Pi.single 5 1 ⬝ᵥ toMat f *ᵥ Pi.single 5 1 = f 6 6 := by
  simp [toMat, ix]

theorem PosDef6.psd {f : Int → Int → ℝ} (h : PosDef6 f) (x : Fin 6 → ℝ) : 0 ≤ x ⬝ᵥ toMat f *ᵥ x := by
  by_cases hx : x = 0
  · simp [hx]
  · exact (h x hx).le

/-! ### the point formulas at `ℝ` and the bounds at one grid point -/

theorem bulkVoigtPt_eq (c11 c22 c33 c12 c23 c13 : ℝ) :
    bulkVoigtPt c11 c22 c33 c12 c23 c13 = (c11 + c22 + c33 + 2 * (c12 + c23 + c13)) / 9 := by
  simp only [bulkVoigtPt, nat_real, Nat.cast_ofNat]

theorem bulkReussPt_eq (s11 s22 s33 s12 s23 s13 : ℝ) :
    bulkReussPt s11 s22 s33 s12 s23 s13 = 1 / (s11 + s22 + s33 + 2 * (s12 + s23 + s13)) := by
  simp only [bulkReussPt, nat_real, Nat.cast_ofNat, Nat.cast_one]

theorem shearVoigtPt_eq (c11 c22 c33 c12 c23 c13 c44 c55 c66 : ℝ) :
    shearVoigtPt c11 c22 c33 c12 c23 c13 c44 c55 c66
      = ((c11 + c22 + c33) - (c12 + c23 + c13) + 3 * (c44 + c55 + c66)) / 15 := by
  simp only [shearVoigtPt, nat_real, Nat.cast_ofNat]

theorem shearReussPt_eq (s11 s22 s33 s12 s23 s13 s44 s55 s66 : ℝ) :
    shearReussPt s11 s22 s33 s12 s23 s13 s44 s55 s66
      = 15 / (4 * (s11 + s22 + s33) - 4 * (s12 + s23 + s13) + 3 * (s44 + s55 + s66)) := by
  simp only [shearReussPt, nat_real, Nat.cast_ofNat]

theorem hillPt_eq (r vo : ℝ) : hillPt r vo = (r + vo) / 2 := by
  simp only [hillPt, nat_real, Nat.cast_ofNat]

/-- Cauchy–Schwarz along the hydrostatic direction `u = (1,1,1,0,0,0)`: `(u·u)² = 9 ≤ (uᵀCu)(uᵀSu) = 9 K_V / K_R` -/
theorem kr_le_kv_pt (c s : Int → Int → ℝ) (hc : (toMat c)ᵀ = toMat c) (hpd : PosDef6 c)
    (hinv : toMat c * toMat s = 1) :
    0 < bulkReussPt (s 1 1) (s 2 2) (s 3 3) (s 1 2) (s 2 3) (s 1 3) ∧
    bulkReussPt (s 1 1) (s 2 2) (s 3 3) (s 1 2) (s 2 3) (s 1 3)
      ≤ bulkVoigtPt (c 1 1) (c 2 2) (c 3 3) (c 1 2) (c 2 3) (c 1 3) := by
  have hX := hpd (diagVec 1 1 1) (diagVec_ne 1 1 1 one_ne_zero)
  have h := cauchy_schwarz_inv (toMat c) (toMat s) hc hpd.psd hinv (diagVec 1 1 1) (diagVec 1 1 1)
  rw [quad_diagVec c hc] at hX h
  rw [quad_diagVec s (inv_symm _ _ hc hinv), dot_diagVec] at h
  rw [bulkReussPt_eq, bulkVoigtPt_eq]
  refine div_le_div_of_mul_le_mul (X := c 1 1 + c 2 2 + c 3 3 + 2 * (c 1 2 + c 2 3 + c 1 3)) ?_ one_pos (by norm_num) ?_
  · linarith
  · refine le_trans (le_of_eq ?_) (h.trans_eq ?_)
    · norm_num
    · congr 1 <;> ring

/-- Cauchy–Schwarz along the five mutually orthogonal deviatoric directions at once: strain-like `eₐ` and stress-like
`sₐ = 2 eₐ` for `(1,−1,0)` and `(1,1,−2)`, `eₐ = sₐ` the three shear unit vectors; with the weights `3, 1, 3, 3, 3`
`Σ wₐ eₐᵀCeₐ = 15 G_V`, `Σ wₐ sₐᵀSsₐ = 15 / G_R` and `Σ wₐ eₐ·sₐ = 15`. -/
theorem gr_le_gv_pt (c s : Int → Int → ℝ) (hc : (toMat c)ᵀ = toMat c) (hpd : PosDef6 c)
    (hinv : toMat c * toMat s = 1) :
    0 < shearReussPt (s 1 1) (s 2 2) (s 3 3) (s 1 2) (s 2 3) (s 1 3) (s 4 4) (s 5 5) (s 6 6) ∧
    shearReussPt (s 1 1) (s 2 2) (s 3 3) (s 1 2) (s 2 3) (s 1 3) (s 4 4) (s 5 5) (s 6 6)
      ≤ shearVoigtPt (c 1 1) (c 2 2) (c 3 3) (c 1 2) (c 2 3) (c 1 3) (c 4 4) (c 5 5) (c 6 6) := by
  have hs := inv_symm _ _ hc hinv
  obtain ⟨c4, c5, c6⟩ := quad_shear c
  obtain ⟨s4, s5, s6⟩ := quad_shear s
  have h := cauchy_schwarz_inv_sum (toMat c) (toMat s) hc hpd.psd hinv Finset.univ ![3, 1, 3, 3, 3]
    (fun a _ => by fin_cases a <;> norm_num)
    ![diagVec (1 / 2) (-1 / 2) 0, diagVec (1 / 2) (1 / 2) (-1), Pi.single 3 1, Pi.single 4 1, Pi.single 5 1]
    ![diagVec 1 (-1) 0, diagVec 1 1 (-2), Pi.single 3 1, Pi.single 4 1, Pi.single 5 1]
  simp only [Fin.sum_univ_five, Matrix.cons_val, quad_diagVec c hc, quad_diagVec s hs, dot_diagVec, c4, c5, c6,
    s4, s5, s6, single_one_dotProduct, Pi.single_eq_same] at h
  have hX : 0 < (c 1 1 + c 2 2 + c 3 3) - (c 1 2 + c 2 3 + c 1 3) + 3 * (c 4 4 + c 5 5 + c 6 6) := by
    have a1 := hpd _ (diagVec_ne (1 / 2) (-1 / 2) 0 (by norm_num))
    have a2 := hpd.psd (diagVec (1 / 2) (1 / 2) (-1))
    have a4 := hpd.psd (Pi.single 3 1)
    have a5 := hpd.psd (Pi.single 4 1)
    have a6 := hpd.psd (Pi.single 5 1)
    rw [quad_diagVec c hc] at a1 a2
    rw [c4] at a4; rw [c5] at a5; rw [c6] at a6
    linarith
  rw [shearReussPt_eq, shearVoigtPt_eq]
  refine div_le_div_of_mul_le_mul hX (by norm_num) (by norm_num) (le_trans (le_of_eq ?_) (h.trans_eq ?_))
  · norm_num
  · congr 1 <;> ring

/-! ### what `report` returns, field by field -/

/-- the canonical values at a grid point, named as in the code -/
noncomputable def cv (d : Dict ℝ) (t v : Nat) (i j : Int) : ℝ := val (kvAt d t v) (i, j)

theorem fieldAt_cField (d : Dict ℝ) (t v : Nat) (i j : Int) : fieldAt (cField d i j) t v = cv d t v i j := by
  cases h : find d (keyOfVoigt (i, j)) <;> simp [cField, cv, val, find_kvAt, h, fieldAt]

theorem bulkVoigt_eq (nt nv : Nat) (d : Dict ℝ) (hk : ValidKeys (d.map (·.1))) :
    bulkVoigt nt nv d = some (grid nt nv fun t v =>
      bulkVoigtPt (cv d t v 1 1) (cv d t v 2 2) (cv d t v 3 3) (cv d t v 1 2) (cv d t v 2 3) (cv d t v 1 3)) := by
  simp only [bulkVoigt, getC_eq d hk 1 1 (by decide), getC_eq d hk 2 2 (by decide), getC_eq d hk 3 3 (by decide),
    getC_eq d hk 1 2 (by decide), getC_eq d hk 2 3 (by decide), getC_eq d hk 1 3 (by decide), Option.bind_some, bind, pure,
    fieldAt_cField]

theorem shearVoigt_eq (nt nv : Nat) (d : Dict ℝ) (hk : ValidKeys (d.map (·.1))) :
    shearVoigt nt nv d = some (grid nt nv fun t v =>
      shearVoigtPt (cv d t v 1 1) (cv d t v 2 2) (cv d t v 3 3) (cv d t v 1 2) (cv d t v 2 3) (cv d t v 1 3)
        (cv d t v 4 4) (cv d t v 5 5) (cv d t v 6 6)) := by
  simp only [shearVoigt, getC_eq d hk 1 1 (by decide), getC_eq d hk 2 2 (by decide), getC_eq d hk 3 3 (by decide),
    getC_eq d hk 1 2 (by decide), getC_eq d hk 2 3 (by decide), getC_eq d hk 1 3 (by decide), getC_eq d hk 4 4 (by decide),
    getC_eq d hk 5 5 (by decide), getC_eq d hk 6 6 (by decide), Option.bind_some, bind, pure, fieldAt_cField]

/-- entry of the inverse as read back through the reported field (equal to `S t v i j` inside the grid) -/
noncomputable def sv (S : Nat → Nat → Int → Int → ℝ) (nt nv : Nat) (t v : Nat) (i j : Int) : ℝ :=
  fieldAt (entryField S nt nv i j) t v

theorem sv_eq (S : Nat → Nat → Int → Int → ℝ) (nt nv t v : Nat) (ht : t < nt) (hv : v < nv) (i j : Int) :
    sv S nt nv t v i j = S t v i j := by
  simp [sv, entryField, fieldAt_grid _ _ _ _ _ ht hv]

theorem bulkReuss_eq (S : Nat → Nat → Int → Int → ℝ) (nt nv : Nat) :
    bulkReuss nt nv (complDict S nt nv) = some (grid nt nv fun t v =>
      bulkReussPt (sv S nt nv t v 1 1) (sv S nt nv t v 2 2) (sv S nt nv t v 3 3)
        (sv S nt nv t v 1 2) (sv S nt nv t v 2 3) (sv S nt nv t v 1 3)) := by
  simp only [bulkReuss, getS_complDict S nt nv 1 1 (by decide), getS_complDict S nt nv 2 2 (by decide),
    getS_complDict S nt nv 3 3 (by decide), getS_complDict S nt nv 1 2 (by decide), getS_complDict S nt nv 2 3 (by decide),
    getS_complDict S nt nv 1 3 (by decide), Option.bind_some, bind, pure, sv]

theorem shearReuss_eq (S : Nat → Nat → Int → Int → ℝ) (nt nv : Nat) :
    shearReuss nt nv (complDict S nt nv) = some (grid nt nv fun t v =>
      shearReussPt (sv S nt nv t v 1 1) (sv S nt nv t v 2 2) (sv S nt nv t v 3 3)
        (sv S nt nv t v 1 2) (sv S nt nv t v 2 3) (sv S nt nv t v 1 3)
        (sv S nt nv t v 4 4) (sv S nt nv t v 5 5) (sv S nt nv t v 6 6)) := by
  simp only [shearReuss, getS_complDict S nt nv 1 1 (by decide), getS_complDict S nt nv 2 2 (by decide),
    getS_complDict S nt nv 3 3 (by decide), getS_complDict S nt nv 1 2 (by decide), getS_complDict S nt nv 2 3 (by decide),
    getS_complDict S nt nv 1 3 (by decide), getS_complDict S nt nv 4 4 (by decide), getS_complDict S nt nv 5 5 (by decide),
    getS_complDict S nt nv 6 6 (by decide), Option.bind_some, bind, pure, sv]

theorem hill_at (nt nv : Nat) {r? vo? : Option (Field ℝ)} {r vo : Field ℝ} (hr : r? = some r) (hvo : vo? = some vo)
    (t v : Nat) (ht : t < nt) (hv : v < nv) :
    ∃ h, hill nt nv r? vo? = some h ∧ fieldAt h t v = hillPt (fieldAt r t v) (fieldAt vo t v) := by
  subst hr hvo
  exact ⟨_, rfl, fieldAt_grid _ _ _ _ _ ht hv⟩

/-! ### the compliance tensor built from the Voigt compliances is the fourth-rank inverse -/

/-- the symmetric fourth-rank identity `½(δ_im δ_jn + δ_in δ_jm)` -/
noncomputable def idTensor (i j m n : Int) : ℝ :=
  ((if i = m ∧ j = n then 1 else 0) + (if i = n ∧ j = m then 1 else 0)) / 2

theorem of_fin (P : Int → Int → Prop) (h : ∀ a b : Fin 6, P (ix a) (ix b)) :
    ∀ p r, (p, r) ∈ allPairs → P p r := by
  intro p r hpr
  rw [mem_allPairs] at hpr
  have hp : p = ix 0 ∨ p = ix 1 ∨ p = ix 2 ∨ p = ix 3 ∨ p = ix 4 ∨ p = ix 5 := by simp [ix]; omega
  have hr : r = ix 0 ∨ r = ix 1 ∨ r = ix 2 ∨ r = ix 3 ∨ r = ix 4 ∨ r = ix 5 := by simp [ix]; omega
  rcases hp with rfl | rfl | rfl | rfl | rfl | rfl <;> rcases hr with rfl | rfl | rfl | rfl | rfl | rfl <;>
    exact h _ _

theorem vidx_range (i j : Int) (hi : i ∈ idx3) (hj : j ∈ idx3) : 1 ≤ vidx i j ∧ vidx i j ≤ 6 := by
  rw [mem_idx3] at hi hj
  unfold vidx; split <;> omega

theorem mem_allTuples_of_idx3 {i j k l : Int} (hi : i ∈ idx3) (hj : j ∈ idx3) (hk : k ∈ idx3) (hl : l ∈ idx3) :
    (i, j, k, l) ∈ allTuples :=
  (mem_allTuples i j k l).2 ⟨(mem_idx3 i).1 hi, (mem_idx3 j).1 hj, (mem_idx3 k).1 hk, (mem_idx3 l).1 hl⟩

theorem vidx_mem {i j k l : Int} (h : (i, j, k, l) ∈ allTuples) : (vidx i j, vidx k l) ∈ allPairs := by
  have hr := (mem_allTuples i j k l).1 h
  exact (mem_allPairs _ _).2 ⟨vidx_range i j ((mem_idx3 i).2 hr.1) ((mem_idx3 j).2 hr.2.1),
    vidx_range k l ((mem_idx3 k).2 hr.2.2.1) ((mem_idx3 l).2 hr.2.2.2)⟩

theorem tensorOf_voigt (kv : KV ℝ) (hkv : CanonKeys (kv.map (·.1))) {i j k l : Int} (h : (i, j, k, l) ∈ allTuples) :
    tensorOf kv i j k l = assembleEntry kv (vidx i j) (vidx k l) := by
  rw [assembleEntry_eq kv _ _ (vidx_mem h) hkv]
  exact tensorOf_eq kv i j k l h

theorem complTensorOf_voigt (s : Int → Int → ℝ) (hsym : ∀ q r, (q, r) ∈ allPairs → s q r = s r q) {k l m n : Int}
    (h : (k, l, m, n) ∈ allTuples) :
    complTensorOf s k l m n = sWeight (vidx k l) * sWeight (vidx m n) * s (vidx k l) (vidx m n) := by
  rw [complTensorOf_eq s k l m n h]
  rcases le_total (vidx k l) (vidx m n) with hle | hle
  · simp only [canon, min_eq_left hle, max_eq_right hle]
  · simp only [canon, min_eq_right hle, max_eq_left hle]
    rw [hsym _ _ (vidx_mem h)]; ring

theorem sum_kl (G : Int → Int → ℝ) (F : Int → ℝ) (h : ∀ k ∈ idx3, ∀ l ∈ idx3, G k l = F (vidx k l)) :
    VRH.sum (idx3.map fun k => VRH.sum (idx3.map fun l => G k l))
      = F 1 + F 2 + F 3 + 2 * F 4 + 2 * F 5 + 2 * F 6 := by
  simp only [idx3, List.map, sum_three]
  rw [h 1 (by decide) 1 (by decide), h 1 (by decide) 2 (by decide), h 1 (by decide) 3 (by decide),
    h 2 (by decide) 1 (by decide), h 2 (by decide) 2 (by decide), h 2 (by decide) 3 (by decide),
    h 3 (by decide) 1 (by decide), h 3 (by decide) 2 (by decide), h 3 (by decide) 3 (by decide)]
  norm_num [vidx]; ring

theorem vidx_le_three : ∀ m ∈ idx3, ∀ n ∈ idx3, (vidx m n ≤ 3 ↔ m = n) := by decide

theorem vidx_eq_iff : ∀ i ∈ idx3, ∀ j ∈ idx3, ∀ m ∈ idx3, ∀ n ∈ idx3,
    (vidx i j = vidx m n ↔ (i = m ∧ j = n) ∨ (i = n ∧ j = m)) := by decide

theorem idTensor_eq (i j m n : Int) (hi : i ∈ idx3) (hj : j ∈ idx3) (hm : m ∈ idx3) (hn : n ∈ idx3) :
    idTensor i j m n = sWeight (vidx m n) * (if vidx i j = vidx m n then 1 else 0) := by
  simp only [idTensor, sWeight, vidx_le_three m hm n hn, vidx_eq_iff i hi j hj m hm n hn, nat_real]
  by_cases hmn : m = n
  · subst hmn
    by_cases h : i = m ∧ j = m <;> simp [h]
  · by_cases h1 : i = m ∧ j = n <;> by_cases h2 : i = n ∧ j = m <;> simp [h1, h2, hmn]

theorem compl_tensor_inverse (kv : KV ℝ) (s : Int → Int → ℝ) (hkv : CanonKeys (kv.map (·.1)))
    (hinv : toMat (assembleEntry kv) * toMat s = 1)
    (i j m n : Int) (hi : i ∈ idx3) (hj : j ∈ idx3) (hm : m ∈ idx3) (hn' : n ∈ idx3) :
    VRH.sum (idx3.map fun k => VRH.sum (idx3.map fun l => tensorOf kv i j k l * complTensorOf s k l m n))
      = idTensor i j m n := by
  have hCs : (toMat (assembleEntry kv))ᵀ = toMat (assembleEntry kv) :=
    toMat_symm _ (fun a b hab => assembleEntry_symm kv a b hab hkv)
  have hSs := inv_symm _ _ hCs hinv
  have hsym : ∀ q r, (q, r) ∈ allPairs → s q r = s r q := by
    refine of_fin _ fun a b => ?_
    simpa [toMat] using congrFun (congrFun hSs b) a
  have hent : ∀ p r, (p, r) ∈ allPairs →
      assembleEntry kv p 1 * s 1 r + assembleEntry kv p 2 * s 2 r + assembleEntry kv p 3 * s 3 r
      + assembleEntry kv p 4 * s 4 r + assembleEntry kv p 5 * s 5 r + assembleEntry kv p 6 * s 6 r
        = if p = r then 1 else 0 := by
    refine of_fin _ fun a b => ?_
    rw [← toMat_mul_apply, hinv, Matrix.one_apply]
    exact if_congr ix_inj.symm rfl rfl
  have hG : ∀ k ∈ idx3, ∀ l ∈ idx3, tensorOf kv i j k l * complTensorOf s k l m n
      = (fun q => assembleEntry kv (vidx i j) q * (sWeight q * sWeight (vidx m n) * s q (vidx m n))) (vidx k l) := by
    intro k hk l hl
    rw [tensorOf_voigt kv hkv (mem_allTuples_of_idx3 hi hj hk hl),
      complTensorOf_voigt s hsym (mem_allTuples_of_idx3 hk hl hm hn')]
  rw [sum_kl _ (fun q => assembleEntry kv (vidx i j) q * (sWeight q * sWeight (vidx m n) * s q (vidx m n))) hG,
    idTensor_eq i j m n hi hj hm hn', ← hent _ _ (vidx_mem (mem_allTuples_of_idx3 hi hj hm hn'))]
  -- each Voigt index `q` occurs `1, 1, 1, 2, 2, 2` times and carries the weight `1, 1, 1, ½, ½, ½`
  rw [sWeight_le 1 (by decide), sWeight_le 2 (by decide), sWeight_le 3 (by decide), sWeight_gt 4 (by decide),
    sWeight_gt 5 (by decide), sWeight_gt 6 (by decide)]
  ring

theorem hill_between_pt (r vo : ℝ) (h : r ≤ vo) : r ≤ hillPt r vo ∧ hillPt r vo ≤ vo := by
  rw [hillPt_eq]
  constructor <;> linarith

/-! ### velocities at one grid point -/

theorem density_mul_sq_sqrt (x V f cm NA : ℝ) (hV : 0 < V) (hN : 0 < NA) (hm : 0 < cm) (hf : 0 ≤ f) (hx : 0 ≤ x) :
    cm / 1000 / (NA * V) * Real.sqrt (x * V * f / mass cm NA) ^ 2 = x * f := by
  have hmass : mass cm NA = cm / 1000 / NA := by simp only [mass, nat_real]; push_cast; ring
  rw [hmass, Real.sq_sqrt (by positivity)]
  field_simp

theorem vp_sq_pt (K G V f cm NA : ℝ) (hV : 0 < V) (hN : 0 < NA) (hm : 0 < cm) (hf : 0 ≤ f)
    (hKG : 0 ≤ K + 4 / 3 * G) :
    cm / 1000 / (NA * V) * vpPt K G V f (mass cm NA) ^ 2 = (K + 4 * G / 3) * f := by
  have h := density_mul_sq_sqrt (K + 4 / 3 * G) V f cm NA hV hN hm hf hKG
  simp only [vpPt, sqrt_real, nat_real, Nat.cast_ofNat]
  rw [h]; ring

/-! ### vocabulary of the C07 statements -/

/-- `modulus_keys`: distinct canonical keys ⊇ the nine orthotropic ones -/
abbrev Keys (inp : Inputs ℝ) : Prop := ValidKeys (inp.modAd.map (·.1))

/-- the assembled 6×6 stiffness at a grid point (1-based Voigt indices) -/
noncomputable abbrev Cmat (inp : Inputs ℝ) (t v : Nat) : Int → Int → ℝ := assembleEntry (kvAt inp.modAd t v)

/-- the full fourth-rank stiffness / compliance at a grid point -/
noncomputable abbrev Ctensor (inp : Inputs ℝ) (t v : Nat) : Int → Int → Int → Int → ℝ :=
  tensorOf (kvAt inp.modAd t v)
noncomputable abbrev Stensor (S : Nat → Nat → Int → Int → ℝ) (t v : Nat) : Int → Int → Int → Int → ℝ :=
  complTensorOf (S t v)


/-- the hypotheses at one grid point: symmetric-positive-definite assembled stiffness and `S` its inverse -/
structure SPDPoint (inp : Inputs ℝ) (S : Nat → Nat → Int → Int → ℝ) (t v : Nat) : Prop where
  pd : PosDef6 (Cmat inp t v)
  inv : toMat (Cmat inp t v) * toMat (S t v) = 1

theorem ValidKeys.kvAt {d : Dict ℝ} (hk : ValidKeys (d.map (·.1))) (t v : Nat) :
    CanonKeys ((VRH.kvAt d t v).map (·.1)) := by
  rw [map_fst_kvAt]; exact ⟨hk.canon, hk.nodup⟩

theorem Cmat_eq (inp : Inputs ℝ) (hk : Keys inp) (t v : Nat) (i j : Int) (hij : (i, j) ∈ allPairs) :
    Cmat inp t v i j = val (kvAt inp.modAd t v) (canon (i, j)) ∧ Cmat inp t v i j = Cmat inp t v j i :=
  ⟨assembleEntry_eq _ i j hij (hk.kvAt t v), assembleEntry_symm _ i j hij (hk.kvAt t v)⟩

theorem Cmat_symm (inp : Inputs ℝ) (hk : Keys inp) (t v : Nat) : (toMat (Cmat inp t v))ᵀ = toMat (Cmat inp t v) :=
  toMat_symm _ (fun i j hij => (Cmat_eq inp hk t v i j hij).2)

/-- the side conditions are numeral comparisons, which `simp` discharges -/
theorem cv_eq_Cmat (inp : Inputs ℝ) (hk : Keys inp) (t v : Nat) {i j : Int} (hi : 1 ≤ i) (hij : i ≤ j) (hj : j ≤ 6) :
    cv inp.modAd t v i j = Cmat inp t v i j := by
  rw [(Cmat_eq inp hk t v i j ((mem_allPairs i j).2 ⟨⟨hi, by omega⟩, by omega, hj⟩)).1]
  simp [cv, canon, min_eq_left hij, max_eq_right hij]

/-! ### helpers for the concrete instances (non-vacuity examples, the witness of the known finding) -/

theorem sq_sum_pos (x : Fin 6 → ℝ) (hx : x ≠ 0) :
    0 < x 0 ^ 2 + x 1 ^ 2 + x 2 ^ 2 + x 3 ^ 2 + x 4 ^ 2 + x 5 ^ 2 := by
  obtain ⟨a, ha⟩ := Function.ne_iff.1 hx
  have := Finset.sum_pos' (fun i _ => sq_nonneg (x i)) ⟨a, Finset.mem_univ a, sq_pos_of_ne_zero ha⟩
  rwa [Fin.sum_univ_six] at this

theorem toMat_congr (f g : Int → Int → ℝ) (h : ∀ i j, (i, j) ∈ allPairs → f i j = g i j) :
    toMat f = toMat g := by
  ext a b
  simp only [toMat, Matrix.of_apply]
  exact h _ _ (ix_mem a b)

end Cij.VRH
