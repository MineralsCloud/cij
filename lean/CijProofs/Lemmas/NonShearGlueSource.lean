/-
  The glue of `cij/core/phonon_contribution/nonshear.py` IS what the model says (used by C01 and C13).

  `tools/gens/nonshear_src.py` re-extracts the glue on every run (`Generated/NonShearGlue.lean`); `CijModel/NSGlue.lean` gives the
  data their meaning.  Here, for the data extracted on this run:
    * `NonShear.averageOverModes` is the evaluation of the translated reduction tree of the module function
      `average_over_modes`, through the translated method `average_over_modes(self, amount)` — for every scalar type and all lists;
    * `NonShear.prefactorsLong/Off` are the translated `prefactors` expressions, `NonShear.modeGamma` the translated wiring with
      its translated broadcasting, `NonShear.Qarr` the translated `Q`;
    * the translated `ret[numpy.where(self.t_array == 0), :] = 0` statements select rows by VALUE, on any temperature grid;
    * `Source.valueIsothermalAt` — a `value_isothermal` assembled from translated pieces only — equals the model function;
    * class table, coverage list, accessors, unit conversions: stated as decidable propositions about the generated data
      (`CoverageComplete`, `HierarchyKnown`, `NoModuleState`, `AccessorsKnown`, `UnitsKnown`), decided in `Properties/C01.lean`.
-/
import CijModel.NSGlue
import Generated.NonShearGlue
import Generated.NonShearExprs
import Generated.QExprs
import CijProofs.Lemmas.NonShearCalculus
import CijProofs.Lemmas.NonShearSource

namespace Cij.NSGlue
open Cij.NonShear Cij.NSExpr
open Generated.NonShearGlue

set_option linter.unusedSectionVars false

section Generic
variable {α : Type} [Scalar α] [Add α] [Sub α] [Mul α] [Div α] [Neg α]

theorem setRange_ge (lo hi : Nat) (v : α) (i : Nat) (l : List α) (h : hi ≤ i) : setRange lo hi v i l = l := by
  induction l generalizing i with
  | nil => rfl
  | cons a l ih =>
    have h1 : ¬ (lo ≤ i ∧ i < hi) := by omega
    simp only [setRange, h1, if_false]
    rw [ih (i + 1) (by omega)]

/-- `mat[..., 0, 0:3] = 0` as translated = `clearGamma` of the model, for every array -/
theorem clearAt_gen (x : List (List α)) : clearAt clearSpec x = clearGamma x := by
  cases x with
  | nil => rfl
  | cons r rs =>
    show setRange 0 3 (nat 0) 0 r :: rs = zeroFirst 3 r :: rs
    congr 1
    match r with
    | [] => rfl
    | [a] => rfl
    | [a, b] => rfl
    | a :: b :: c :: rest =>
      show nat 0 :: nat 0 :: nat 0 :: setRange 0 3 (nat 0) 3 rest = nat 0 :: nat 0 :: nat 0 :: rest
      rw [setRange_ge 0 3 (nat 0) 3 rest (Nat.le_refl 3)]

/-- the module function as translated, on any `[q][m]` array and any weights -/
theorem evalRed_gen (x : List (List α)) (w : List α) :
    evalRed clearSpec w x avgTree = .a0 (averageOverModes x w) := by
  simp only [avgTree, evalRed, clearSpec, Bool.and_self, beq_self_eq_true, if_true]
  have h := clearAt_gen x
  simp only [clearSpec] at h
  rw [h]
  rfl

/-- the method `average_over_modes(self, amount)` as translated: the module function on `amount` and `self.q_weights` -/
theorem methodAvg_gen (x : List (List α)) (w : List α) :
    methodAvg avgMethod avgTree clearSpec x w = .a0 (averageOverModes x w) := by
  have h : (avgMethod.callee == "average_over_modes" && avgMethod.amountArg == .param "amount"
      && avgMethod.weightsArg == .selfPath ["q_weights"]) = true := by decide +kernel
  unfold methodAvg
  rw [if_pos h]
  exact evalRed_gen x w

theorem prefactorsLong_gen (e0 e1 : α) : prefactorsLong e0 e1 = evalPref prefExprsLong e0 e1 := rfl
theorem prefactorsOff_gen (e0 e1 : α) : prefactorsOff e0 e1 = evalPref prefExprsOff e0 e1 := rfl

theorem wiringGammaLong_gen (p : Pref α) (mg0 mg1 mg2 : List (List α)) :
    wiringGamma Generated.mgWiringLong mgBroadcastLong p mg0 mg1 mg2 = some (modeGamma p mg0 mg1 mg2) := by
  have h : (mgBroadcastLong.all (· == prefPattern) && mgBroadcastLong.length == 4) = true := by decide +kernel
  unfold wiringGamma
  rw [if_pos h]
  rfl

theorem wiringGammaOff_gen (p : Pref α) (mg0 mg1 mg2 : List (List α)) :
    wiringGamma Generated.mgWiringOff mgBroadcastOff p mg0 mg1 mg2 = some (modeGamma p mg0 mg1 mg2) := by
  have h : (mgBroadcastOff.all (· == prefPattern) && mgBroadcastOff.length == 4) = true := by decide +kernel
  unfold wiringGamma
  rw [if_pos h]
  rfl

theorem Qarr_gen (hdk T : α) (freq : List (List α)) :
    Qarr hdk T freq = map2 (fun f => evalQDef hdk T f qDef) freq := rfl

theorem evalSWith_model (e : SEnv α) (t : SExpr) :
    evalSWith (fun x w => some (averageOverModes x w)) e t = some (evalS e t) := by
  induction t with
  | sym s => rfl
  | lit n => rfl
  | avg m => rfl
  | neg a ih => simp only [evalSWith, ih, Option.map_some, evalS]
  | add a b iha ihb => simp only [evalSWith, iha, ihb, evalS]; rfl
  | sub a b iha ihb => simp only [evalSWith, iha, ihb, evalS]; rfl
  | mul a b iha ihb => simp only [evalSWith, iha, ihb, evalS]; rfl
  | div a b iha ihb => simp only [evalSWith, iha, ihb, evalS]; rfl
  | sq a ih => simp only [evalSWith, ih, evalS]; rfl

/-- the statement `ret[numpy.where(self.t_array == 0), :] = 0` as data: rows with `t_array == 0`, all columns, set to 0
(`masks_gen`: the generated mask lists consist of this one) -/
def t0Mask : MaskSpec := { target := "ret", rows := .whereCmp ["t_array"] "==" 0, colsFull := true, value := 0 }

theorem t0Mask_hits (i : Nat) (T : α) : t0Mask.hits i T = some (Scalar.isZero T) := by
  have h : ((["t_array"] : List String) == ["t_array"] && "==" == "==" && (0 : Int) == 0) = true := by decide
  simp only [MaskSpec.hits, t0Mask, Bool.not_true, Bool.false_eq_true, if_false]
  rw [if_pos h]

theorem maskAt_nil (T x : α) : maskAt ([] : List MaskSpec) T x = some x := rfl

theorem maskAt_t0 (T x : α) : maskAt [t0Mask] T x = some (if Scalar.isZero T then nat 0 else x) := by
  have h := t0Mask_hits (α := α) 0 T
  simp only [maskAt]
  show (match t0Mask.hits 0 T with
    | some b => maskAt [] T (if b = true then nat t0Mask.value else x)
    | none => none) = _
  rw [h]
  rfl

/-- a `numpy.where(self.t_array == 0)` mask on ANY temperature grid: exactly the rows whose temperature is 0 are
overwritten — wherever they are, however many there are (none, one, several) -/
theorem applyMaskFrom_t0 (i : Nat) (ts : List α) (grid : List (List α)) :
    applyMaskFrom t0Mask i ts grid
      = some (List.zipWith (fun T row => if Scalar.isZero T then row.map (fun _ => nat 0) else row) ts grid) := by
  induction ts generalizing i grid with
  | nil => cases grid <;> rfl
  | cons T ts ih =>
    cases grid with
    | nil => rfl
    | cons row rows =>
      simp only [applyMaskFrom, t0Mask_hits, ih (i + 1) rows, List.zipWith_cons_cons]
      rfl

theorem applyMasks_t0 (ts : List α) (grid : List (List α)) :
    applyMasks [t0Mask] ts grid
      = some (List.zipWith (fun T row => if Scalar.isZero T then row.map (fun _ => nat 0) else row) ts grid) := by
  simp only [applyMasks, applyMask, applyMaskFrom_t0, Option.bind_some]

theorem masks_gen :
    masksThLong = [t0Mask] ∧ masksThOff = [t0Mask] ∧ masksGapLong = [t0Mask] ∧ masksGapOff = [t0Mask] ∧
    masksZpLong = [] ∧ masksZpOff = [] ∧ masksIsoLong = [] ∧ masksIsoOff = [] ∧ masksAdiaLong = [] ∧ masksAdiaOff = [] := by
  decide +kernel

/-- unmasked `thermal_contribution[t][v]`: the translated body at every grid point -/
def rawGrid (b : Body) (mg : VolSlice α → ModeGamma α) (c : Consts α) (w : List α) (ts : List (TempRow α))
    (vs : List (VolSlice α)) : List (List α) :=
  ts.map fun r => vs.map fun s => evalS (envAt c w r.T (nat 0) (nat 0) s (mg s) (nat 0) (nat 0) (nat 0) (nat 0)) b.expr

private theorem zipWith_rows (f : α → List α → List α) (g : TempRow α → List α) (ts : List (TempRow α)) :
    List.zipWith f (ts.map (·.T)) (ts.map g) = ts.map fun r => f r.T (g r) := by
  induction ts with
  | nil => rfl
  | cons r ts ih => simp only [List.map_cons, List.zipWith_cons_cons, ih]

/-- the model zeroes a row of a flagged body exactly when the translated `t_array == 0` statement does -/
theorem mask_gen (b : Body) (hz : b.zeroAtT0 = true) (mg : VolSlice α → ModeGamma α) (c : Consts α) (w : List α)
    (f : α → VolSlice α → α)
    (hsrc : ∀ T s, f T s = evalBody (envAt c w T (nat 0) (nat 0) s (mg s) (nat 0) (nat 0) (nat 0) (nat 0)) b)
    (ts : List (TempRow α)) (vs : List (VolSlice α)) :
    applyMasks [t0Mask] (ts.map (·.T)) (rawGrid b mg c w ts vs) = some (ts.map fun r => vs.map fun s => f r.T s) := by
  rw [applyMasks_t0, rawGrid, zipWith_rows]
  congr 1
  refine List.map_congr_left (fun r _ => ?_)
  have hpt : ∀ s, f r.T s = if Scalar.isZero r.T then nat 0
      else evalS (envAt c w r.T (nat 0) (nat 0) s (mg s) (nat 0) (nat 0) (nat 0) (nat 0)) b.expr := fun s => by
    rw [hsrc, evalBody, hz, Bool.true_and]
    rfl
  cases hT : Scalar.isZero r.T
  · exact List.map_congr_left fun s _ => by rw [hpt, hT]; rfl
  · rw [if_pos rfl, List.map_map]
    exact List.map_congr_left fun s _ => by rw [hpt, hT]; rfl

theorem thermalLong_mask_gen (c : Consts α) (w : List α) (ts : List (TempRow α)) (vs : List (VolSlice α)) :
    applyMasks masksThLong (ts.map (·.T)) (rawGrid Generated.nsThLong mgLong c w ts vs) = some (thermalLong c w ts vs) := by
  rw [masks_gen.1]
  exact mask_gen Generated.nsThLong rfl mgLong c w (fun T s => thermalLongAt c.k c.hdk c.na T s.V (mgLong s) s.freq w)
    (fun T s => thermalLong_is_source c w T _ _ s _ _ _ _ _) ts vs

theorem thermalOff_mask_gen (c : Consts α) (w : List α) (ts : List (TempRow α)) (vs : List (VolSlice α)) :
    applyMasks masksThOff (ts.map (·.T)) (rawGrid Generated.nsThOff mgOff c w ts vs) = some (thermalOff c w ts vs) := by
  rw [masks_gen.2.1]
  exact mask_gen Generated.nsThOff rfl mgOff c w (fun T s => thermalOffAt c.k c.hdk c.na T s.V (mgOff s) s.freq w)
    (fun T s => thermalOff_is_source c w T _ _ s _ _ _ _ _) ts vs

/-! ### a whole `value_isothermal` from translated pieces only -/

/-- the longitudinal class as the translators read it on this run -/
def srcLong : Source :=
  { avgMethod := avgMethod, avgTree := avgTree, clear := clearSpec, pref := prefExprsLong,
    wiring := Generated.mgWiringLong, wiringBcast := mgBroadcastLong, qDef := qDef,
    zp := Generated.nsZpLong, th := Generated.nsThLong, iso := Generated.nsIsoLong,
    maskZp := masksZpLong, maskTh := masksThLong, maskIso := masksIsoLong }

/-- the off-diagonal class as the translators read it on this run (inherited methods resolved) -/
def srcOff : Source :=
  { avgMethod := avgMethod, avgTree := avgTree, clear := clearSpec, pref := prefExprsOff,
    wiring := Generated.mgWiringOff, wiringBcast := mgBroadcastOff, qDef := qDef,
    zp := Generated.nsZpOff, th := Generated.nsThOff, iso := Generated.nsIsoOff,
    maskZp := masksZpOff, maskTh := masksThOff, maskIso := masksIsoOff }

theorem srcLong_avg (x : List (List α)) (w : List α) : srcLong.avg x w = some (averageOverModes x w) := by
  show (methodAvg avgMethod avgTree clearSpec x w).scalar? = _
  rw [methodAvg_gen]; rfl

theorem srcOff_avg (x : List (List α)) (w : List α) : srcOff.avg x w = some (averageOverModes x w) := by
  show (methodAvg avgMethod avgTree clearSpec x w).scalar? = _
  rw [methodAvg_gen]; rfl

theorem srcLong_avg_fun : (srcLong.avg : List (List α) → List α → Option α) = fun x w => some (averageOverModes x w) := by
  funext x w; exact srcLong_avg x w

theorem srcOff_avg_fun : (srcOff.avg : List (List α) → List α → Option α) = fun x w => some (averageOverModes x w) := by
  funext x w; exact srcOff_avg x w

theorem srcLong_modeGamma (s : VolSlice α) : srcLong.modeGamma s = some (mgLong s) := by
  show wiringGamma Generated.mgWiringLong mgBroadcastLong (evalPref prefExprsLong s.e0 s.e1) s.mg0 s.mg1 s.mg2 = _
  rw [wiringGammaLong_gen]; rfl

theorem srcOff_modeGamma (s : VolSlice α) : srcOff.modeGamma s = some (mgOff s) := by
  show wiringGamma Generated.mgWiringOff mgBroadcastOff (evalPref prefExprsOff s.e0 s.e1) s.mg0 s.mg1 s.mg2 = _
  rw [wiringGammaOff_gen]; rfl

theorem srcLong_env (c : Consts α) (w : List α) (T P cv : α) (s : VolSlice α) (g : ModeGamma α) (a b d e : α) :
    srcLong.env q1 q2 c w T P cv s g a b d e = envAt c w T P cv s g a b d e := rfl

theorem srcOff_env (c : Consts α) (w : List α) (T P cv : α) (s : VolSlice α) (g : ModeGamma α) (a b d e : α) :
    srcOff.env q1 q2 c w T P cv s g a b d e = envAt c w T P cv s g a b d e := rfl

theorem srcLong_zeroPoint (c : Consts α) (w : List α) (T P cv : α) (s : VolSlice α) :
    srcLong.zeroPointAt q1 q2 c w T P cv s = some (zeroPointLongAt c.h c.na s.V (mgLong s) s.freq w) := by
  simp only [Source.zeroPointAt, srcLong_modeGamma, srcLong_avg_fun, srcLong_env, evalSWith_model, Option.bind_eq_bind,
    Option.bind_some]
  show maskAt masksZpLong T _ = _
  rw [masks_gen.2.2.2.2.1, maskAt_nil]
  rfl

theorem srcOff_zeroPoint (c : Consts α) (w : List α) (T P cv : α) (s : VolSlice α) :
    srcOff.zeroPointAt q1 q2 c w T P cv s = some (zeroPointOffAt c.h c.na s.V (mgOff s) s.freq w) := by
  simp only [Source.zeroPointAt, srcOff_modeGamma, srcOff_avg_fun, srcOff_env, evalSWith_model, Option.bind_eq_bind,
    Option.bind_some]
  show maskAt masksZpOff T _ = _
  rw [masks_gen.2.2.2.2.2.1, maskAt_nil]
  rfl

theorem srcLong_thermal (c : Consts α) (w : List α) (T P cv : α) (s : VolSlice α) :
    srcLong.thermalAt q1 q2 c w T P cv s = some (thermalLongAt c.k c.hdk c.na T s.V (mgLong s) s.freq w) := by
  simp only [Source.thermalAt, srcLong_modeGamma, srcLong_avg_fun, srcLong_env, evalSWith_model, Option.bind_eq_bind,
    Option.bind_some]
  show maskAt masksThLong T _ = _
  rw [masks_gen.1, maskAt_t0]
  rfl

theorem srcOff_thermal (c : Consts α) (w : List α) (T P cv : α) (s : VolSlice α) :
    srcOff.thermalAt q1 q2 c w T P cv s = some (thermalOffAt c.k c.hdk c.na T s.V (mgOff s) s.freq w) := by
  simp only [Source.thermalAt, srcOff_modeGamma, srcOff_avg_fun, srcOff_env, evalSWith_model, Option.bind_eq_bind,
    Option.bind_some]
  show maskAt masksThOff T _ = _
  rw [masks_gen.2.1, maskAt_t0]
  rfl

/-- `value_isothermal` of the longitudinal class assembled from translated pieces = the model function, all inputs, every scalar -/
theorem srcLong_valueIsothermal (c : Consts α) (w : List α) (T P cv : α) (s : VolSlice α) :
    srcLong.valueIsothermalAt q1 q2 c w T P cv s = some (valueIsothermalLongAt c w T s) := by
  simp only [Source.valueIsothermalAt, srcLong_modeGamma, srcLong_zeroPoint, srcLong_thermal, srcLong_avg_fun, srcLong_env,
    evalSWith_model, Option.bind_eq_bind, Option.bind_some]
  show maskAt masksIsoLong T _ = _
  rw [masks_gen.2.2.2.2.2.2.1, maskAt_nil]
  rfl

/-- `value_isothermal` of the off-diagonal class assembled from translated pieces = the model function -/
theorem srcOff_valueIsothermal (c : Consts α) (w : List α) (T P cv : α) (s : VolSlice α) :
    srcOff.valueIsothermalAt q1 q2 c w T P cv s = some (valueIsothermalOffAt c w T P s) := by
  simp only [Source.valueIsothermalAt, srcOff_modeGamma, srcOff_zeroPoint, srcOff_thermal, srcOff_avg_fun, srcOff_env,
    evalSWith_model, Option.bind_eq_bind, Option.bind_some]
  show maskAt masksIsoOff T _ = _
  rw [masks_gen.2.2.2.2.2.2.2.1, maskAt_nil]
  rfl

end Generic

/-- the translated `Q1`, `Q2` return expressions as functions of `Q` -/
noncomputable def q1Src : ℝ → ℝ := fun x => Generated.q1Expr.eval Real.exp x
noncomputable def q2Src : ℝ → ℝ := fun x => Generated.q2Expr.eval Real.exp x

theorem q1Src_eq : q1Src = (q1 : ℝ → ℝ) := by
  funext x; simp [q1Src, q1, Generated.q1Expr, QExpr.eval]

theorem q2Src_eq : q2Src = (q2 : ℝ → ℝ) := by
  funext x; simp [q2Src, q2, Generated.q2Expr, QExpr.eval, List.replicate]

theorem srcValues_congr (c : Consts ℝ) (T P cv : ℝ) (s s' : VolSlice ℝ) (w w' : List ℝ)
    (hL : valueIsothermalLongAt c w T s = valueIsothermalLongAt c w' T s')
    (hO : valueIsothermalOffAt c w T P s = valueIsothermalOffAt c w' T P s') :
    srcLong.valueIsothermalAt q1Src q2Src c w T P cv s = srcLong.valueIsothermalAt q1Src q2Src c w' T P cv s' ∧
    srcOff.valueIsothermalAt q1Src q2Src c w T P cv s = srcOff.valueIsothermalAt q1Src q2Src c w' T P cv s' := by
  rw [q1Src_eq, q2Src_eq, srcLong_valueIsothermal, srcLong_valueIsothermal, srcOff_valueIsothermal, srcOff_valueIsothermal,
    hL, hO]
  exact ⟨rfl, rfl⟩

/-- the translated prefactors in closed form (longitudinal, both strains equal to `e`; off-diagonal) -/
theorem prefLong_closed (e : ℝ) (he : e ≠ 0) :
    (evalPref prefExprsLong e e).p0 = 1 / (5 * e ^ 2) ∧ (evalPref prefExprsLong e e).p2 = 1 / (5 * e ^ 2) ∧
    (evalPref prefExprsLong e e).p10 = 1 / (3 * e) ∧ (evalPref prefExprsLong e e).p11 = 1 / (3 * e) := by
  simp only [evalPref, prefExprsLong, PExpr.eval, nat_real]
  refine ⟨?_, ?_, ?_, ?_⟩ <;> (field_simp; try ring)

theorem prefOff_closed (ei ej : ℝ) (hi : ei ≠ 0) (hj : ej ≠ 0) :
    (evalPref prefExprsOff ei ej).p0 = 1 / (15 * (ei * ej)) ∧ (evalPref prefExprsOff ei ej).p2 = 1 / (15 * (ei * ej)) ∧
    (evalPref prefExprsOff ei ej).p10 = 1 / (3 * ei) ∧ (evalPref prefExprsOff ei ej).p11 = 1 / (3 * ej) := by
  simp only [evalPref, prefExprsOff, PExpr.eval, nat_real]
  refine ⟨?_, ?_, ?_, ?_⟩ <;> (field_simp; try ring)

/-- every function of the module and of its three classes is in the coverage list; nothing is nested, no module-level
statement besides imports / defs / classes / assignments, no foreign global is read -/
def CoverageComplete : Prop :=
  definedFunctions.all (covered coverage) = true ∧ coverage.length = definedFunctions.length ∧
  nestedDefs = [] ∧ moduleOtherStatements = [] ∧ foreignGlobals = [] ∧
  moduleFunctions = ["average_over_modes", "clear_gamma_point"] ∧
  (classTable.map (·.1)) = ["ElasticModulus", "LongitudinalElasticModulusPhononContribution",
    "OffDiagonalElasticModulusPhononContribution"] ∧
  (classTable.all fun c => c.2.2.2 == []) = true ∧
  (definedFunctions.length = moduleFunctions.length + ((classTable.map (·.2.2.1.length)).foldl (· + ·) 0))

instance : Decidable CoverageComplete := by unfold CoverageComplete; infer_instance

/-- what the off-diagonal class overrides and what it inherits; the bases; same decorator on every override; no method is
defined twice in a class body -/
def HierarchyKnown : Prop :=
  offOverrides = ["prefactors", "mode_gamma", "zero_point_contribution", "thermal_contribution", "value_isothermal"] ∧
  offInherits = ["__init__", "v_array", "t_array", "freq_array", "q_weights", "Q", "Q1", "Q2", "isothermal_to_adiabatic",
    "value_adiabatic", "average_over_modes"] ∧
  offAdds = [] ∧
  (classTable.map (·.2.1)) = [[], ["ElasticModulus"], ["LongitudinalElasticModulusPhononContribution"]] ∧
  (classTable.all fun c => c.2.2.1.eraseDups.length == c.2.2.1.length) = true ∧
  (offOverrides.all fun m =>
    ((decorators.find? fun d => d.1 == "OffDiagonalElasticModulusPhononContribution" && d.2.1 == m).map (·.2.2))
      == ((decorators.find? fun d => d.1 == "LongitudinalElasticModulusPhononContribution" && d.2.1 == m).map (·.2.2))) = true ∧
  (decorators.all fun d => d.2.2 == "method" || d.2.2 == "property" || d.2.2 == "LazyProperty") = true

instance : Decidable HierarchyKnown := by unfold HierarchyKnown; infer_instance

/-- no module-level container: the only module-level bindings are the logger and the three scalar constants -/
def NoModuleState : Prop :=
  moduleAssigns = [("logger", "logger"), ("_h", "scalar-expr"), ("_k", "scalar-expr"), ("h_div_k", "scalar-expr")]

instance : Decidable NoModuleState := by unfold NoModuleState; infer_instance

/-- accessors return the calculator's attribute of the same name; `__init__` stores its arguments untouched -/
def AccessorsKnown : Prop :=
  (accessors.all fun a => a.path == ["calculator", a.name] && a.kind == "property") = true ∧
  accessors.map (·.name) = ["v_array", "t_array", "freq_array"] ∧
  initParams = ["self", "calculator", "e"] ∧
  lookupStore initStores "e" = some (.param "e") ∧
  lookupStore initStores "calculator" = some (.param "calculator") ∧
  lookupStore initStores "qha_calculator" = some (.selfPath ["calculator", "qha_calculator"]) ∧
  lookupStore initStores "na" = some (.selfPath ["calculator", "na"]) ∧
  (initStores.map (·.1)).eraseDups.length = initStores.length ∧
  qWeights.path = ["calculator", "qha_input", "weights"] ∧ qWeights.kind = "property"

instance : Decidable AccessorsKnown := by unfold AccessorsKnown; infer_instance

/-- the unit conversions: dimensionally consistent; every `h` is `_h` from J·m to Ry·cm, every `k` is `_k` from eV/K to Ry/K,
`h_div_k` is `_h / _k` whose source and target units are the quotients of those of `h` and `k` (so `h_div_k = h / k`);
`_h`, `_k` are the named entries of scipy's table -/
def UnitsKnown : Prop :=
  (unitConvs.all UnitConv.consistent) = true ∧
  (unitConvs.all fun c =>
    if c.name == "h" then c.value == "_h" && c.frm == [("J", 1), ("m", 1)] && c.to == [("cm", 1), ("rydberg", 1)]
    else if c.name == "k" then c.value == "_k" && c.frm == [("K", -1), ("eV", 1)] && c.to == [("K", -1), ("rydberg", 1)]
    else c.name == "h_div_k" && c.value == "_h / _k" && c.cls == "<module>"
      && monoIsQuotient c.frm [("J", 1), ("m", 1)] [("K", -1), ("eV", 1)]
      && monoIsQuotient c.to [("cm", 1), ("rydberg", 1)] [("K", -1), ("rydberg", 1)]) = true ∧
  (unitConvs.filter (·.name == "h_div_k")).length = 1 ∧
  constDefs = [("_h", .div (.phys "molar Planck constant times c" 0) (.phys "Avogadro constant" 0)),
               ("_k", .phys "Boltzmann constant in eV/K" 0)]

instance : Decidable UnitsKnown := by unfold UnitsKnown; infer_instance

end Cij.NSGlue
