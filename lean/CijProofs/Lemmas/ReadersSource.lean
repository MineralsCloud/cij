/-
  The record-level models of the two file readers/writers (`CijModel/QhaInput.lean`, `CijModel/ElastDat.lean`) ARE the source
  as it says: `tools/gens/readers_src.py` extracts from `cij/io/traditional/{qha_input,elast_dat,__init__,models}.py`
  every regex literal, conversion function, loop count, field position / slice, sentinel, format specification, label and
  the package re-exports as DATA (`Generated/ReadersSpec.lean`); here the defining equations of the model functions that hold
  such a datum are re-stated with every literal replaced by the generated datum and proved — so an edit of the source that
  changes a datum makes the corresponding theorem fail, and an edit anywhere else in the mirrored functions breaks the
  translator's canonical text.

  Helper definitions and lemmas only; the property-level statements are in `Properties/C17.lean`.
-/
import CijModel.QhaInput
import CijModel.ElastDat
import CijModel.Regex
import Generated.ReadersSpec
import CijProofs.Lemmas.Regex

namespace Cij.ReadersSource
open Cij Cij.Lex Cij.QhaInput Cij.ElastDat Cij.Regex Generated

variable {Num : Type}

/-! ### the generated regexes: parsed by Lean from their characters, and of the three proved shapes -/

/-- the instruction lists the translator wrote are what `Regex.parse` reads off the characters of the source literals -/
theorem regex_sources_parse :
    Regex.parse Readers.regexInfoStartSrc = some Readers.regexInfoStart ∧
    Regex.parse Readers.regexPVESrc = some Readers.regexPVE ∧
    Regex.parse Readers.regexModulusSrc = some Readers.regexModulus := by decide

theorem regex_shapes :
    Readers.regexInfoStart = patInfo ∧ Readers.regexPVE = patPVE ∧ Readers.regexModulus = patModulus := by decide

theorem search_info_generated (cs : List Char) (hs : Stripped cs) :
    search Readers.regexInfoStart cs = recogInfo cs := by rw [regex_shapes.1]; exact search_info cs hs

theorem search_pve_generated (cs : List Char) : search Readers.regexPVE cs = recogPVE cs := by
  rw [regex_shapes.2.1]; exact search_pve cs

theorem search_modulus_generated (cs : List Char) (hnl : ∀ c ∈ cs, c ≠ '\n') :
    search Readers.regexModulus cs = recogModulus cs := by rw [regex_shapes.2.2]; exact search_modulus cs hnl

/-! ### tokens of a line -/

/-- `line.strip().split()` as the model's `Line` -/
def tokens (cs : List Char) : Line := (splitWs cs).map String.ofList

/-- the words of a literal piece of a format string -/
def litTokens (s : String) : Line := tokens s.toList

theorem splitWs_ne_nil (cs : List Char) : ∀ t ∈ splitWs cs, t ≠ [] :=
  splitWs_forall _ (fun _ _ _ => List.cons_ne_nil _ _) cs

/-! ### conversions named in the source -/

/-- `float` is the only conversion the number fields of the model go through (`F.parse`) -/
def convNum (F : NumFmt Num) (conv : String) (t : Token) : Option Num := if conv = "float" then F.parse t else none

/-- `int` on a `\d+` group -/
def convNat (conv : String) (t : Token) : Option Nat := if conv = "int" then Lex.parseNat t else none

/-- `int` on a word of the static table's second line -/
def convInt (conv : String) (t : Token) : Option Int := if conv = "int" then Lex.parseInt t else none

theorem convNum_float (F : NumFmt Num) : convNum F "float" = F.parse := by
  funext t; simp [convNum]

/-! ### `REGEX_INFO_START`, `REGEX_PVE`, `REGEX_MODULUS` against the token-level functions of the model -/

theorem parseNat_ofList (t : List Char) (hne : t ≠ []) :
    Lex.parseNat (String.ofList t) = if t.all Char.isDigit = true then some (Nat.ofDigitChars 10 t 0) else none := by
  unfold Lex.parseNat
  have : t.isEmpty = false := by cases t <;> simp_all
  simp [String.toList_ofList, this]

theorem convNat_header : convNat Readers.headerConv = Lex.parseNat := by
  funext t; simp [convNat, Readers.headerConv]

theorem matchInfo_some {l : Line} {r : Nat × Nat × Nat × Nat × Nat} (h : matchInfo l = some r) :
    l.length = 5 ∧ ∀ t ∈ l, (Lex.parseNat t).isSome = true := by
  unfold matchInfo at h
  split at h
  · simp only [Option.bind_eq_bind, Option.bind_eq_some_iff] at h
    obtain ⟨_, ha, _, hb, _, hc, _, hd, _, he, _⟩ := h
    simp [ha, hb, hc, hd, he]
  · cases h

/-- `re.search(REGEX_INFO_START, line.strip())` then `map(int, groups)`: the model's `matchInfo` on the words of the line -/
theorem matchInfo_is_regex (cs : List Char) (hs : Stripped cs) :
    matchInfo (tokens cs) = (search Readers.regexInfoStart cs).bind fun gs =>
      match gs.map String.ofList with
      | [a, b, c, d, e] => do
          let a ← convNat Readers.headerConv a
          let b ← convNat Readers.headerConv b
          let c ← convNat Readers.headerConv c
          let d ← convNat Readers.headerConv d
          let e ← convNat Readers.headerConv e
          pure (a, b, c, d, e)
      | _ => none := by
  -- with `int` for the conversion the function applied to the groups is `matchInfo` itself
  rw [search_info_generated cs hs, convNat_header]
  show _ = (recogInfo cs).bind fun gs => matchInfo (gs.map String.ofList)
  dsimp only [recogInfo]
  split
  · rfl
  · rename_i hcond
    -- the recogniser refuses the line: so does `matchInfo`, which needs five words of digits
    cases h : matchInfo (tokens cs) with
    | none => rfl
    | some r =>
      obtain ⟨h5, hd⟩ := matchInfo_some h
      refine absurd ?_ hcond
      simp only [tokens, List.length_map] at h5
      rw [h5, beq_self_eq_true, Bool.true_and, List.all_eq_true]
      intro t ht
      have := hd _ (List.mem_map_of_mem ht)
      rw [parseNat_ofList t (splitWs_ne_nil cs t ht)] at this
      by_cases hn : t.all Char.isDigit = true
      · exact hn
      · simp [hn] at this

theorem isLabel1_ofList (t : List Char) : isLabel1 (String.ofList t) = isLabel1c t := by
  rw [isLabel1, String.toList_ofList]; rfl

theorem isLabel2_ofList (t : List Char) : isLabel2 (String.ofList t) = isLabel2c t := by
  rw [isLabel2, String.toList_ofList]; rfl

theorem matchPVE_map (ts : List (List Char)) :
    matchPVE (ts.map String.ofList) = (matchPVEc ts).bind fun gs =>
      match gs with
      | [a, b, c] => some (String.ofList a, String.ofList b, String.ofList c)
      | _ => none := by
  induction ts with
  | nil => rfl
  | cons l1 tl ih =>
    rcases tl with _ | ⟨a, _ | ⟨l2, _ | ⟨b, _ | ⟨l3, _ | ⟨c, rest⟩⟩⟩⟩⟩
    iterate 5 rfl
    simp only [List.map_cons] at ih ⊢
    rw [matchPVE, matchPVEc, isLabel1_ofList, isLabel2_ofList, isLabel2_ofList]
    by_cases h : (isLabel1c l1 && isLabel2c l2 && isLabel2c l3) = true
    · simp [h]
    · simp only [h, Bool.false_eq_true, if_false]; exact ih

/-- `re.search(REGEX_PVE, line).groups()`: the model's `matchPVE` on the words of the line (any line, no stripping) -/
theorem matchPVE_is_regex (cs : List Char) :
    matchPVE (tokens cs) = (search Readers.regexPVE cs).bind fun gs =>
      match gs with
      | [a, b, c] => some (String.ofList a, String.ofList b, String.ofList c)
      | _ => none := by
  rw [search_pve_generated cs]; exact matchPVE_map (splitWs cs)

/-- `_find_modulus_key`: `re.search(REGEX_MODULUS, key)`; on a match `c_(res.group(n))`, else the key itself -/
theorem findModulusKey_is_regex (t : Token) (hnl : ∀ c ∈ t.toList, c ≠ '\n') :
    findModulusKey t = match search Readers.regexModulus t.toList with
      | some gs => (Modulus.create [.str (String.ofList (gs.getD (Readers.modulusGroup - 1) []))]).map Key.mod
      | none => some (Key.raw t) := by
  rw [search_modulus_generated t.toList hnl]
  unfold findModulusKey recogModulus
  by_cases h : (!(t.toList.dropWhile fun c => !c.isDigit).isEmpty && (t.toList.dropWhile fun c => !c.isDigit).all Char.isDigit) = true
  · simp [h, Readers.modulusGroup]
  · simp [h]

/-- a word of a split line holds no `\s` character, in particular no newline -/
theorem token_no_space (cs : List Char) : ∀ t ∈ splitWs cs, ∀ c ∈ t, isSp c = false :=
  splitWs_forall _ (fun c t hc d hd => by
    rcases List.mem_cons.mp hd with rfl | hd
    · exact hc
    · exact mem_takeWhile_ns hd) cs

/-! ### read_energy and its helpers, with the generated data in place of the literals -/

/-- header group → loop / field: position looked up in the generated tables (99 = absent, gives 0) -/
def pick (tbl : List (String × Nat)) (g : List Nat) (k : String) : Nat := g.getD ((tbl.lookup k).getD 99) 0

theorem readEnergy_is_source (F : NumFmt Num) (file : List Line) :
    readEnergy F file = (findInfo file).bind fun (h, rest) =>
      let g : List Nat := [h.1, h.2.1, h.2.2.1, h.2.2.2.1, h.2.2.2.2]
      (readVolumes F (pick Readers.loopCounts g "qpoints") (pick Readers.loopCounts g "modes")
          (pick Readers.loopCounts g "volumes") rest).bind fun (vols, rest') =>
        (readWeights F (pick Readers.loopCounts g "weights") (scanWeight rest')).bind fun ws =>
          some { nv := pick Readers.countFields g "nv", nq := pick Readers.countFields g "nq",
                 np := pick Readers.countFields g "np", nm := pick Readers.countFields g "nm",
                 na := pick Readers.countFields g "na", weights := ws, volumes := vols } := by
  unfold readEnergy
  cases findInfo file with
  | none => rfl
  | some p =>
    obtain ⟨⟨nv, nq, np, nm, na⟩, rest⟩ := p
    simp [pick, Readers.loopCounts, Readers.countFields, List.lookup]

/-- `for line in fp: if line.strip() in [...]: break` -/
theorem scanWeight_is_source (l : Line) (ls : List Line) :
    scanWeight (l :: ls) = if Readers.weightSentinels.any (fun w => l = litTokens w) = true then ls else scanWeight ls := by
  have h : Readers.weightSentinels.map litTokens = [["weight"], ["weights"]] := by decide
  simp only [Readers.weightSentinels, List.map_cons, List.map_nil, List.cons.injEq, and_true] at h
  simp only [scanWeight, Readers.weightSentinels, List.any_cons, List.any_nil, Bool.or_false, h.1, h.2]
  by_cases h1 : l = ["weight"] <;> by_cases h2 : l = ["weights"] <;> simp [h1, h2]

theorem readModes_is_source (F : NumFmt Num) (n : Nat) (t : Token) (ls : List Line) :
    readModes F (n + 1) ([t] :: ls) = (convNum F Readers.modeConv t).bind fun x =>
      (readModes F n ls).bind fun (xs, r) => some (x :: xs, r) := by
  simp [readModes, convNum, Readers.modeConv]

theorem readQPoints_is_source (F : NumFmt Num) (np n : Nat) (l : Line) (ls : List Line) :
    readQPoints F np (n + 1) (l :: ls) = (l.mapM (convNum F Readers.coordConv)).bind fun coord =>
      (readModes F np ls).bind fun (modes, r) =>
        (readQPoints F np n r).bind fun (qs, r') => some (⟨coord, modes⟩ :: qs, r') := by
  have : convNum F Readers.coordConv = F.parse := convNum_float F
  rw [this]
  simp [readQPoints]

/-- a volume block: blank lines skipped, the three regex groups converted and stored in the fields the source names -/
theorem readVolumes_is_source (F : NumFmt Num) (nq np n : Nat) (ls : List Line) :
    readVolumes F nq np (n + 1) ls =
      match skipBlank ls with
      | [] => none
      | l :: rest => (matchPVE l).bind fun (a, b, c) =>
          let g : List Token := [a, b, c]
          let fld := fun (k : String) => g.getD ((Readers.pveFields.lookup k).getD 99) ""
          (convNum F Readers.pveConv (fld "pressure")).bind fun p =>
          (convNum F Readers.pveConv (fld "volume")).bind fun v =>
          (convNum F Readers.pveConv (fld "energy")).bind fun e =>
          (readQPoints F np nq rest).bind fun (qs, r) =>
          (readVolumes F nq np n r).bind fun (vs, r') => some (⟨p, v, e, qs⟩ :: vs, r') := by
  conv => lhs; unfold readVolumes
  cases skipBlank ls with
  | nil => rfl
  | cons l rest =>
    simp only []
    cases matchPVE l with
    | none => rfl
    | some t =>
      obtain ⟨a, b, c⟩ := t
      simp [convNum, Readers.pveConv, Readers.pveFields, List.lookup]

/-- a weight line: `words[lo:hi]` is the coordinate, `words[idx]` the weight -/
theorem readWeights_is_source (F : NumFmt Num) (n : Nat) (l : Line) (ls : List Line) :
    readWeights F (n + 1) (l :: ls) = (l[Readers.weightIndex]?).bind fun w =>
      (((l.drop Readers.weightCoordSlice.1).take (Readers.weightCoordSlice.2 - Readers.weightCoordSlice.1)).mapM
          (convNum F Readers.weightCoordConv)).bind fun coord =>
        (convNum F Readers.weightConv w).bind fun w =>
          (readWeights F n ls).bind fun ws => some (⟨coord, w⟩ :: ws) := by
  have : convNum F Readers.weightCoordConv = F.parse := convNum_float F
  rw [this]
  simp [readWeights, Readers.weightIndex, Readers.weightCoordSlice, convNum, Readers.weightConv]

/-! ### write_energy: every printed number through the generated format specification -/

abbrev Spec := String × Nat × Option Nat × Char

def Spec.prec (s : Spec) : Nat := s.2.2.1.getD 0

/-- the words a format list prints for the given values: the words of each literal piece, then the number with the
piece's precision (the width only pads with blanks, which `split()` removes again) -/
def fmtLine (F : NumFmt Num) (specs : List Spec) (xs : List Num) : Line :=
  (specs.zip xs).flatMap fun (s, x) => litTokens s.1 ++ [F.fmt s.prec x]

/-- all number formats are fixed-point `f` with an explicit precision (not `e`, `g`, not a bare `%s`) -/
theorem number_formats_fixed_point :
    ∀ s ∈ Readers.fmtPVE ++ Readers.fmtMode ++ Readers.fmtCoord ++ Readers.fmtWeight, s.2.2.2 = 'f' ∧ s.2.2.1.isSome = true := by
  decide

/-- the counts are printed with `%d`, the header words with `%s` -/
theorem count_formats :
    Readers.fmtCount.map (fun s => (s.1, s.2.2)) = [("", none, 'd')] ∧
    Readers.fmtWord.map (fun s => (s.1, s.2.2)) = [("", none, 's')] := by decide

theorem pveLine_is_source (F : NumFmt Num) (p v e : Num) : pveLine F p v e = fmtLine F Readers.fmtPVE [p, v, e] := by
  have h : Readers.fmtPVE.map (fun s => litTokens s.1) = [["P="], ["V="], ["E="]] := by decide
  simp only [Readers.fmtPVE, List.map_cons, List.map_nil, List.cons.injEq, and_true] at h
  simp [pveLine, fmtLine, Readers.fmtPVE, Spec.prec, h.1, h.2.1, h.2.2]

theorem modeLine_is_source (F : NumFmt Num) (m : Num) : modeLine F m = fmtLine F Readers.fmtMode [m] := by
  have h : Readers.fmtMode.map (fun s => litTokens s.1) = [[]] := by decide
  simp only [Readers.fmtMode, List.map_cons, List.map_nil, List.cons.injEq, and_true] at h
  simp [modeLine, fmtLine, Readers.fmtMode, Spec.prec, h]

theorem coordLine_is_source (F : NumFmt Num) (c : List Num) :
    coordLine F c = c.flatMap fun x => fmtLine F Readers.fmtCoord [x] := by
  have h : Readers.fmtCoord.map (fun s => litTokens s.1) = [[]] := by decide
  simp only [Readers.fmtCoord, List.map_cons, List.map_nil, List.cons.injEq, and_true] at h
  have hx : ∀ x, fmtLine F Readers.fmtCoord [x] = [F.fmt 4 x] := by
    intro x; simp [fmtLine, Readers.fmtCoord, Spec.prec, h]
  simp only [coordLine, hx]
  induction c with
  | nil => rfl
  | cons x c ih => simp [List.flatMap_cons, ih]

/-- `"%… %… %… %…" % (*coords, weight)`: as many values as specifications, else TypeError -/
theorem weightLine_is_source (F : NumFmt Num) (w : QPointWeight Num) :
    weightLine F w = if w.coord.length + 1 = Readers.fmtWeight.length
      then some (fmtLine F Readers.fmtWeight (w.coord ++ [w.weight])) else none := by
  have h : Readers.fmtWeight.map (fun s => litTokens s.1) = [[], [], [], []] := by decide
  simp only [Readers.fmtWeight, List.map_cons, List.map_nil, List.cons.injEq, and_true] at h
  unfold weightLine
  match hc : w.coord with
  | [a, b, c] => simp [fmtLine, Readers.fmtWeight, Spec.prec, h.1, h.2.1, h.2.2.1, h.2.2.2]
  | [] => simp [Readers.fmtWeight]
  | [_] => simp [Readers.fmtWeight]
  | [_, _] => simp [Readers.fmtWeight]
  | _ :: _ :: _ :: _ :: _ => simp [Readers.fmtWeight]

/-- the words the writer prints literally (header line, weight marker, default comment) are the source's strings, split -/
theorem header_words_is_source :
    (headerNames : Line) = Readers.headerWords ∧ (["weight"] : Line) = litTokens Readers.markerLine ∧
    (["QHA", "Input", "data"] : Line) = litTokens Readers.defaultComment := by decide

/-- the marker the writer prints opens the weight section for the reader -/
theorem marker_is_sentinel : Readers.markerLine ∈ Readers.weightSentinels := by decide

theorem writeEnergy_is_source (F : NumFmt Num) (d : Data Num) (comment : Line) :
    writeEnergy F d comment = (d.weights.mapM (weightLine F)).bind fun ws =>
      some ([comment, [], Readers.headerWords, infoLine d, []] ++ d.volumes.flatMap (volumeLines F)
        ++ [[], litTokens Readers.markerLine] ++ ws) := by
  rw [← header_words_is_source.1, ← header_words_is_source.2.1]
  unfold writeEnergy
  cases d.weights.mapM (weightLine F) <;> rfl

/-! #### what survives the file, in terms of the generated precisions -/

def precAt (specs : List Spec) (i : Nat) : Nat := (specs.getD i ("", 0, none, ' ')).prec

def roundQPointS (F : NumFmt Num) (q : QPointData Num) : QPointData Num :=
  ⟨q.coord.map (F.round (precAt Readers.fmtCoord 0)), q.modes.map (F.round (precAt Readers.fmtMode 0))⟩

def roundVolumeS (F : NumFmt Num) (v : VolumeData Num) : VolumeData Num :=
  ⟨F.round (precAt Readers.fmtPVE 0) v.pressure, F.round (precAt Readers.fmtPVE 1) v.volume,
   F.round (precAt Readers.fmtPVE 2) v.energy, v.qPoints.map (roundQPointS F)⟩

def roundWeightS (F : NumFmt Num) (w : QPointWeight Num) : QPointWeight Num :=
  ⟨w.coord.map (F.round (precAt Readers.fmtWeight 0)), F.round (precAt Readers.fmtWeight 3) w.weight⟩

/-- the data set rounded to the precisions the source's format strings specify -/
def roundAllS (F : NumFmt Num) (d : Data Num) : Data Num :=
  { d with weights := d.weights.map (roundWeightS F), volumes := d.volumes.map (roundVolumeS F) }

/-- the three coordinates of a weight line share one precision (the model rounds them alike) -/
theorem weight_coord_precisions_uniform :
    precAt Readers.fmtWeight 1 = precAt Readers.fmtWeight 0 ∧ precAt Readers.fmtWeight 2 = precAt Readers.fmtWeight 0 := by
  decide

theorem roundAll_is_source (F : NumFmt Num) (d : Data Num) : roundAll F d = roundAllS F d := by
  have h : precAt Readers.fmtCoord 0 = 4 ∧ precAt Readers.fmtMode 0 = 6 ∧ precAt Readers.fmtPVE 0 = 6 ∧
      precAt Readers.fmtPVE 1 = 6 ∧ precAt Readers.fmtPVE 2 = 6 ∧ precAt Readers.fmtWeight 0 = 6 ∧
      precAt Readers.fmtWeight 3 = 6 := by decide
  obtain ⟨h1, h2, h3, h4, h5, h6, h7⟩ := h
  have hq : roundQPointS F = roundQPoint F := by funext q; simp [roundQPointS, roundQPoint, h1, h2]
  have hv : roundVolumeS F = roundVolume F := by funext v; simp [roundVolumeS, roundVolume, h3, h4, h5, hq]
  have hw : roundWeightS F = roundWeight F := by funext w; simp [roundWeightS, roundWeight, h6, h7]
  simp [roundAll, roundAllS, hv, hw]

/-! ### read_elast_data / apply_symetry_on_elast_data -/

def hdrConv (k : String) : String := ((Readers.headerFields.lookup k).getD ("", 99)).1
def hdrIdx (k : String) : Nat := ((Readers.headerFields.lookup k).getD ("", 99)).2

theorem readElastData_is_source (F : NumFmt Num) (l1 l2 l3 : Line) (rest : List Line) :
    readElastData F (l1 :: l2 :: l3 :: rest) =
      ((l2[hdrIdx "vref"]?).bind (convNum F (hdrConv "vref"))).bind fun vref =>
      ((l2[hdrIdx "nv"]?).bind (convInt (hdrConv "nv"))).bind fun nv =>
      ((l2[hdrIdx "cellmass"]?).bind (convNum F (hdrConv "cellmass"))).bind fun cellmass =>
      (l3.mapM findModulusKey).bind fun keys =>
      (readRows F keys nv.toNat rest).bind fun (vols, rest') =>
      (if rest'.headD [] ≠ [] then readLattice F nv.toNat rest'.tail else some []).bind fun lattice =>
        some { vref, nv, cellmass, volumes := vols, lattice } := by
  have h1 : convNum F (hdrConv "vref") = F.parse := convNum_float F
  have h2 : convNum F (hdrConv "cellmass") = F.parse := convNum_float F
  have h3 : convInt (hdrConv "nv") = Lex.parseInt := by funext t; simp [convInt, hdrConv, Readers.headerFields, List.lookup]
  have i1 : hdrIdx "vref" = 0 := rfl
  have i2 : hdrIdx "nv" = 1 := rfl
  have i3 : hdrIdx "cellmass" = 2 := rfl
  rw [h1, h2, h3, i1, i2, i3]
  simp only [readElastData, Option.bind_eq_bind, Option.pure_def]
  congr 1; funext vref; congr 1; funext nv; congr 1; funext cellmass; congr 1; funext keys; congr 1; funext x
  split <;> rfl

/-- a table row: all words through the generated conversion, `fields[i]` the volume, `zip(keys[a:], fields[b:])` the components -/
theorem readRows_is_source (F : NumFmt Num) (keys : List Key) (n : Nat) (ls : List Line) :
    readRows F keys (n + 1) ls = ((ls.headD []).mapM (convNum F Readers.rowConv)).bind fun fields =>
      (fields[Readers.rowVolumeIndex]?).bind fun v =>
        (readRows F keys n ls.tail).bind fun (vs, r) =>
          some (⟨v, dictOfZip (keys.drop Readers.rowKeySlice) (fields.drop Readers.rowValueSlice)⟩ :: vs, r) := by
  have : convNum F Readers.rowConv = F.parse := convNum_float F
  rw [this]
  simp [readRows, Readers.rowVolumeIndex, Readers.rowKeySlice, Readers.rowValueSlice, List.head?_eq_getElem?]

theorem readLattice_is_source (F : NumFmt Num) (n : Nat) (ls : List Line) :
    readLattice F (n + 1) ls = ((ls.headD []).mapM (convNum F Readers.latticeConv)).bind fun fields =>
      (readLattice F n ls.tail).bind fun rest => some (fields :: rest) := by
  have : convNum F Readers.latticeConv = F.parse := convNum_float F
  rw [this]
  simp [readLattice]

/-- `"c%s%s" % key.v` -/
theorem canonName_is_source (m : Modulus) :
    canonName (.mod m) = m.voigt.map fun (a, b) =>
      Readers.columnLiterals.getD 0 "?" ++ toString a ++ Readers.columnLiterals.getD 1 "?" ++ toString b := by
  simp [canonName, Readers.columnLiterals]

/-- `c_(key[n:])` on the way back -/
theorem keyOfName_is_source (t : Token) :
    keyOfName t = (Modulus.create [.str (String.ofList (t.toList.drop Readers.backSlice))]).map Key.mod := rfl

/-- `fill_cij(df, **symmetry)`: the frame and the caller's dictionary as it is (no key removed, none renamed) —
the model's `fill` parameter is one function of the table for the whole call -/
theorem fill_call_is_source : Readers.fillPositional = 1 ∧ Readers.fillKeywords = ["**<symmetry>"] := by decide

/-! ### package glue -/

/-- `cij.io.traditional.read_energy` / `.read_elast_data` are the functions of the sub-modules themselves, imported under
their own names (`__init__.py` holds imports and `__all__` only: the translator refuses anything else) -/
theorem readers_reexported_directly :
    ("read_energy", "qha_input", "read_energy") ∈ Readers.packageImports ∧
    ("read_elast_data", "elast_dat", "read_elast_data") ∈ Readers.packageImports ∧
    (∀ e ∈ Readers.packageImports, e.1 = e.2.2) ∧ (∀ e ∈ Readers.modelsImports, e.1 = e.2.2) ∧
    Readers.readerCallSites.length = 7 := by decide

end Cij.ReadersSource
