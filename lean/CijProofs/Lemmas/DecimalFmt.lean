/-
  Character-level proof of the formatter/parser law for the driver's exact-decimal instance `Cij.Lex.ratFmt`:
  `ratParse (ratFmtStr k q) = some (ratRound k q)` for EVERY `k : Nat`, `q : Rat`, and the facts about `ratRound` C17 restates.
  `ratFmtStr` is re-expressed as a list of characters, `ratParseChars` split into sign and body; no sign corner is excluded: a
  negative value that rounds to zero prints "-0.00…", which parses to `-(0) = 0` in `Rat`, and `k = 0` prints no decimal point.
-/
import CijModel.QhaInput
import Mathlib.Tactic.Linarith
import Mathlib.Tactic.Ring
import Mathlib.Algebra.Order.Field.Rat
import Mathlib.Algebra.Order.Field.Basic

namespace Cij.Lex

/-- everything `ratParseChars` does after the optional sign has been consumed (same text as in the model) -/
def parseBody (neg : Bool) (cs : List Char) : Option Rat :=
  let ip := cs.takeWhile Char.isDigit
  let r1 := cs.dropWhile Char.isDigit
  let (fp, r2) := match r1 with
    | '.' :: r => (r.takeWhile Char.isDigit, r.dropWhile Char.isDigit)
    | r => ([], r)
  if ip.isEmpty && fp.isEmpty then none else
  let mant : Rat := mkRat (Int.ofNat (digitsVal (ip ++ fp))) (pow10 fp.length)
  let mant := if neg then -mant else mant
  match r2 with
  | [] => some mant
  | e :: r =>
    if e == 'e' || e == 'E' then
      let (eneg, ds) := match r with
        | '-' :: d => (true, d)
        | '+' :: d => (false, d)
        | d => (false, d)
      if ds.isEmpty || !ds.all Char.isDigit then none
      else
        let ex := digitsVal ds
        some (if eneg then mant / ((pow10 ex : Nat) : Rat) else mant * ((pow10 ex : Nat) : Rat))
    else none

theorem ratParseChars_minus (r : List Char) : ratParseChars ('-' :: r) = parseBody true r := rfl

def signSplit (cs : List Char) : Bool × List Char :=
  match cs with
    | '-' :: r => (true, r)
    | '+' :: r => (false, r)
    | r => (false, r)

theorem signSplit_digit (c : Char) (r : List Char) (hc : c.isDigit = true) : signSplit (c :: r) = (false, c :: r) := by
  have h1 : c ≠ '-' := by rintro rfl; simp at hc
  have h2 : c ≠ '+' := by rintro rfl; simp at hc
  unfold signSplit
  split
  · rename_i h; simp at h; exact absurd h.1 h1
  · rename_i h; simp at h; exact absurd h.1 h2
  · rfl

theorem takeWhile_all {ds : List Char} (h : ∀ c ∈ ds, c.isDigit = true) : ds.takeWhile Char.isDigit = ds := by
  induction ds with
  | nil => rfl
  | cons d ds ih => simp [h d (by simp), ih (fun c hc => h c (by simp [hc]))]

theorem dropWhile_all {ds : List Char} (h : ∀ c ∈ ds, c.isDigit = true) : ds.dropWhile Char.isDigit = [] := by
  induction ds with
  | nil => rfl
  | cons d ds ih => simp [h d (by simp), ih (fun c hc => h c (by simp [hc]))]

theorem takeWhile_dot {ds : List Char} (h : ∀ c ∈ ds, c.isDigit = true) (r : List Char) :
    (ds ++ '.' :: r).takeWhile Char.isDigit = ds := by
  induction ds with
  | nil => simp
  | cons d ds ih => simp [h d (by simp), ih (fun c hc => h c (by simp [hc]))]

theorem dropWhile_dot {ds : List Char} (h : ∀ c ∈ ds, c.isDigit = true) (r : List Char) :
    (ds ++ '.' :: r).dropWhile Char.isDigit = '.' :: r := by
  induction ds with
  | nil => simp
  | cons d ds ih => simp [h d (by simp), ih (fun c hc => h c (by simp [hc]))]

theorem parseBody_dot (neg : Bool) {ip fp : List Char} (hip : ∀ c ∈ ip, c.isDigit = true) (hne : ip ≠ [])
    (hfp : ∀ c ∈ fp, c.isDigit = true) :
    parseBody neg (ip ++ '.' :: fp) =
      some (if neg then -(mkRat (Int.ofNat (digitsVal (ip ++ fp))) (pow10 fp.length))
            else mkRat (Int.ofNat (digitsVal (ip ++ fp))) (pow10 fp.length)) := by
  unfold parseBody
  simp only [takeWhile_dot hip, dropWhile_dot hip, takeWhile_all hfp, dropWhile_all hfp]
  simp [hne]

theorem parseBody_nodot (neg : Bool) {ip : List Char} (hip : ∀ c ∈ ip, c.isDigit = true) (hne : ip ≠ []) :
    parseBody neg ip =
      some (if neg then -(mkRat (Int.ofNat (digitsVal ip)) 1) else mkRat (Int.ofNat (digitsVal ip)) 1) := by
  unfold parseBody
  simp only [takeWhile_all hip, dropWhile_all hip]
  simp [hne, pow10]


/-- floor or floor plus one, by the side of the half the fraction lies on -/
theorem roundHalfEven_cases (y : Rat) :
    (roundHalfEven y = y.floor ∧ y - y.floor ≤ 1 / 2) ∨ (roundHalfEven y = y.floor + 1 ∧ 1 / 2 ≤ y - y.floor) := by
  unfold roundHalfEven
  simp only
  split_ifs with h1 h2 h3
  · exact Or.inl ⟨rfl, h1.le⟩
  · exact Or.inr ⟨rfl, h2.le⟩
  · exact Or.inl ⟨rfl, not_lt.mp h2⟩
  · exact Or.inr ⟨rfl, not_lt.mp h1⟩

theorem roundHalfEven_nonneg {y : Rat} (h : 0 ≤ y) : 0 ≤ roundHalfEven y := by
  have hf : 0 ≤ y.floor := Rat.le_floor_iff.mpr (by simpa using h)
  rcases roundHalfEven_cases y with ⟨hr, _⟩ | ⟨hr, _⟩ <;> omega

theorem roundHalfEven_nonpos {y : Rat} (h : y < 0) : roundHalfEven y ≤ 0 := by
  have hf : y.floor < 0 := Rat.floor_lt_iff.mpr (by simpa using h)
  rcases roundHalfEven_cases y with ⟨hr, _⟩ | ⟨hr, _⟩ <;> omega

theorem pow10_pos (k : Nat) : 0 < pow10 k := Nat.pow_pos (by decide)

theorem scaled_nonneg {x : Rat} (k : Nat) (h : ¬ x < 0) : 0 ≤ x * ((pow10 k : Nat) : Rat) := by
  have : (0 : Rat) < ((pow10 k : Nat) : Rat) := by exact_mod_cast pow10_pos k
  have hx : 0 ≤ x := not_lt.mp h
  positivity

theorem scaled_neg {x : Rat} (k : Nat) (h : x < 0) : x * ((pow10 k : Nat) : Rat) < 0 := by
  have : (0 : Rat) < ((pow10 k : Nat) : Rat) := by exact_mod_cast pow10_pos k
  exact mul_neg_of_neg_of_pos h this

/-! ### the printed characters -/

def ratFmtChars (k : Nat) (x : Rat) : List Char :=
  let a := (roundHalfEven (x * (pow10 k : Nat))).natAbs
  (if x < 0 then ['-'] else []) ++ (Nat.toDigits 10 (a / pow10 k) ++
    (if k = 0 then [] else '.' :: padLeft k '0' (Nat.toDigits 10 (a % pow10 k))))

theorem toList_ratFmtStr (k : Nat) (x : Rat) : (ratFmtStr k x).toList = ratFmtChars k x := by
  unfold ratFmtStr ratFmtChars
  by_cases hk : k = 0 <;> by_cases hx : x < 0 <;> simp [hk, hx]

theorem digits_toDigits (n : Nat) : ∀ c ∈ Nat.toDigits 10 n, c.isDigit = true :=
  fun _ hc => Nat.isDigit_of_mem_toDigits (by decide) (by decide) hc

theorem digitsVal_eq (cs : List Char) : digitsVal cs = Nat.ofDigitChars 10 cs 0 := rfl

theorem digitsVal_toDigits (n : Nat) : digitsVal (Nat.toDigits 10 n) = n := by
  rw [digitsVal_eq, Nat.ofDigitChars_ten_toDigits]

theorem length_padLeft {k : Nat} {cs : List Char} (h : cs.length ≤ k) : (padLeft k '0' cs).length = k := by
  simp [padLeft]; omega

theorem digits_padLeft (k : Nat) {cs : List Char} (h : ∀ c ∈ cs, c.isDigit = true) :
    ∀ c ∈ padLeft k '0' cs, c.isDigit = true := by
  intro c hc
  simp only [padLeft, List.mem_append, List.mem_replicate] at hc
  rcases hc with ⟨_, rfl⟩ | hc
  · rfl
  · exact h c hc

theorem digitsVal_padLeft (k : Nat) (cs : List Char) : digitsVal (padLeft k '0' cs) = digitsVal cs := by
  simp [digitsVal_eq, padLeft, Nat.ofDigitChars_append]

theorem digitsVal_append (a b : List Char) : digitsVal (a ++ b) = 10 ^ b.length * digitsVal a + digitsVal b := by
  rw [digitsVal_eq, Nat.ofDigitChars_append, Nat.ofDigitChars_eq_ofDigitChars_zero]; rfl

/-- the parse of the printed characters, before any arithmetic on the result -/
theorem ratParseChars_fmtChars (k : Nat) (x : Rat) :
    ratParseChars (ratFmtChars k x) =
      some (if x < 0 then -(mkRat ((roundHalfEven (x * (pow10 k : Nat))).natAbs : Int) (pow10 k))
            else mkRat ((roundHalfEven (x * (pow10 k : Nat))).natAbs : Int) (pow10 k)) := by
  generalize ha : (roundHalfEven (x * (pow10 k : Nat))).natAbs = a
  have hip := digits_toDigits (a / pow10 k)
  have hne : Nat.toDigits 10 (a / pow10 k) ≠ [] := Nat.toDigits_ne_nil
  have hsign : ∀ tail, ratParseChars ((if x < 0 then ['-'] else []) ++ (Nat.toDigits 10 (a / pow10 k) ++ tail))
      = parseBody (decide (x < 0)) (Nat.toDigits 10 (a / pow10 k) ++ tail) := by
    intro tail
    by_cases hx : x < 0
    · simp [hx, ratParseChars_minus]
    · obtain ⟨c, r, hcr⟩ := List.exists_cons_of_ne_nil hne
      have hc : c.isDigit = true := hip c (by simp [hcr])
      simp only [hx, if_false, List.nil_append, hcr, List.cons_append, decide_false]
      show parseBody (signSplit (c :: _)).1 (signSplit (c :: _)).2 = _
      rw [signSplit_digit c _ hc]
  unfold ratFmtChars
  simp only [ha]
  rw [hsign]
  by_cases hk : k = 0
  · subst hk
    simp only [if_true, List.append_nil]
    rw [parseBody_nodot _ hip hne, digitsVal_toDigits]
    simp [pow10]
  · have hk' : 0 < k := Nat.pos_of_ne_zero hk
    have hlen : (Nat.toDigits 10 (a % pow10 k)).length ≤ k :=
      (Nat.length_toDigits_le_iff (by decide) hk').mpr (Nat.mod_lt _ (pow10_pos k))
    simp only [hk, if_false]
    rw [parseBody_dot _ hip hne (digits_padLeft k (digits_toDigits _)), length_padLeft hlen,
      digitsVal_append, length_padLeft hlen, digitsVal_padLeft, digitsVal_toDigits, digitsVal_toDigits]
    have : 10 ^ k * (a / pow10 k) + a % pow10 k = a := Nat.div_add_mod a (pow10 k)
    rw [this]
    simp

/-- THE LAW for the driver's instance: reading back what `"%.{k}f"` printed gives the value rounded to `k` decimals -/
theorem ratParse_ratFmtStr (k : Nat) (x : Rat) : ratParse (ratFmtStr k x) = some (ratRound k x) := by
  unfold ratParse
  rw [toList_ratFmtStr, ratParseChars_fmtChars]
  unfold ratRound
  by_cases hx : x < 0
  · have hn := roundHalfEven_nonpos (scaled_neg k hx)
    simp only [hx, if_true, Rat.neg_mkRat]
    congr 2
    omega
  · have hn := roundHalfEven_nonneg (scaled_nonneg k hx)
    simp only [hx, if_false]
    congr 2
    omega

theorem ratFmt_lawful : ratFmt.Lawful := by
  intro k x
  -- expose the three fields first: unifying through `ratFmt` unfolds the parser instead
  dsimp only [ratFmt]
  exact ratParse_ratFmtStr k x


/-! ### rounding: idempotence, error bound, monotonicity -/

theorem roundHalfEven_intCast (n : Int) : roundHalfEven (n : Rat) = n := by
  unfold roundHalfEven
  simp [Rat.floor_intCast]

theorem pow10_cast_pos (k : Nat) : (0 : Rat) < ((pow10 k : Nat) : Rat) := by exact_mod_cast pow10_pos k

theorem ratRound_eq_div (k : Nat) (x : Rat) :
    ratRound k x = ((roundHalfEven (x * (pow10 k : Nat)) : Int) : Rat) / ((pow10 k : Nat) : Rat) :=
  Rat.mkRat_eq_div _ _

theorem ratRound_mul_pow10 (k : Nat) (x : Rat) :
    ratRound k x * ((pow10 k : Nat) : Rat) = ((roundHalfEven (x * (pow10 k : Nat)) : Int) : Rat) := by
  rw [ratRound_eq_div, div_mul_cancel₀ _ (pow10_cast_pos k).ne']

theorem ratRound_def (k : Nat) (y : Rat) :
    ratRound k y = mkRat (roundHalfEven (y * (pow10 k : Nat))) (pow10 k) := rfl

theorem ratRound_idem (k : Nat) (x : Rat) : ratRound k (ratRound k x) = ratRound k x := by
  rw [ratRound_def k (ratRound k x), ratRound_mul_pow10, roundHalfEven_intCast]
  rfl

theorem roundHalfEven_err (y : Rat) : |((roundHalfEven y : Int) : Rat) - y| ≤ 1 / 2 := by
  have h1 := Rat.floor_le y
  have h2 := Rat.lt_floor_add_one y
  push_cast at h2
  rw [abs_le]
  rcases roundHalfEven_cases y with ⟨hr, h⟩ | ⟨hr, h⟩ <;> rw [hr] <;> push_cast <;> constructor <;> linarith

theorem ratRound_err (k : Nat) (x : Rat) : |ratRound k x - x| ≤ 1 / (2 * (10 : Rat) ^ k) := by
  have hP := pow10_cast_pos k
  have hP' : ((pow10 k : Nat) : Rat) = (10 : Rat) ^ k := by simp [pow10]
  have h := roundHalfEven_err (x * ((pow10 k : Nat) : Rat))
  have hx : ratRound k x - x = (((roundHalfEven (x * (pow10 k : Nat)) : Int) : Rat) - x * ((pow10 k : Nat) : Rat))
      / ((pow10 k : Nat) : Rat) := by
    rw [ratRound_eq_div, sub_div, mul_div_cancel_right₀ _ hP.ne']
  rw [hx, abs_div, abs_of_pos hP, ← hP', div_le_div_iff₀ hP (by positivity)]
  nlinarith [abs_nonneg (((roundHalfEven (x * (pow10 k : Nat)) : Int) : Rat) - x * ((pow10 k : Nat) : Rat))]

theorem roundHalfEven_mono {x y : Rat} (h : x ≤ y) : roundHalfEven x ≤ roundHalfEven y := by
  have hf : x.floor ≤ y.floor := Rat.floor_monotone h
  rcases roundHalfEven_cases x with ⟨hx, hx'⟩ | ⟨hx, hx'⟩ <;> rcases roundHalfEven_cases y with ⟨hy, hy'⟩ | ⟨hy, hy'⟩
  · omega
  · omega
  · -- up at `x`, down at `y`: with equal floors both fractions would be one half, hence `x = y`
    rcases hf.lt_or_eq with hlt | heq
    · omega
    · rw [heq] at hx'
      have : x = y := le_antisymm h (by linarith)
      subst this
      omega
  · omega

theorem ratRound_mono (k : Nat) {x y : Rat} (h : x ≤ y) : ratRound k x ≤ ratRound k y := by
  have hP := pow10_cast_pos k
  rw [ratRound_eq_div, ratRound_eq_div]
  have := roundHalfEven_mono (mul_le_mul_of_nonneg_right h hP.le)
  have h' : ((roundHalfEven (x * (pow10 k : Nat)) : Int) : Rat) ≤ ((roundHalfEven (y * (pow10 k : Nat)) : Int) : Rat) := by
    exact_mod_cast this
  exact div_le_div_of_nonneg_right h' hP.le

theorem ratRound_of_grid (k : Nat) (n : Int) : ratRound k (mkRat n (pow10 k)) = mkRat n (pow10 k) := by
  have e : mkRat n (pow10 k) * ((pow10 k : Nat) : Rat) = (n : Rat) := by
    rw [Rat.mkRat_eq_div, div_mul_cancel₀ _ (pow10_cast_pos k).ne']
  rw [ratRound_def, e, roundHalfEven_intCast]

end Cij.Lex
