/- Helper lemmas for the axis-permutation clause of C04 (no property statements here). -/
import CijProofs.Lemmas.Isotropic

set_option linter.unusedSectionVars false

namespace Cij.Tasks
open Cij Cij.Shear

/-- the six relabellings of the axes, as the images of 0, 1, 2 -/
def permTriples : List (Fin 3 × Fin 3 × Fin 3) :=
  [(0, 1, 2), (0, 2, 1), (1, 0, 2), (1, 2, 0), (2, 0, 1), (2, 1, 0)]

def permOf (v : Fin 3 × Fin 3 × Fin 3) (i : Fin 3) : Fin 3 :=
  match i with
  | 0 => v.1
  | 1 => v.2.1
  | 2 => v.2.2

/-- the inverse relabelling -/
def invOf (v : Fin 3 × Fin 3 × Fin 3) (j : Fin 3) : Fin 3 :=
  if v.1 = j then 0 else if v.2.1 = j then 1 else 2

/-- the relabelled key: `c_(π i, π j, π k, π l)` -/
def permKey (v : Fin 3 × Fin 3 × Fin 3) (k : Modulus) : Modulus :=
  key4 (permOf v (idx k.i.i)) (permOf v (idx k.i.j)) (permOf v (idx k.j.i)) (permOf v (idx k.j.j))

theorem perm_inv : ∀ v ∈ permTriples, ∀ i : Fin 3, invOf v (permOf v i) = i ∧ permOf v (invOf v i) = i := by
  decide +kernel

theorem permKey_facts : ∀ v ∈ permTriples, ∀ k ∈ allKeys,
    permKey v k ∈ allKeys ∧ rank (permKey v k) = rank k ∧ (permKey v k).isShear = k.isShear ∧
    (permKey v k).multiplicity = k.multiplicity ∧ (permKey v k).calcType = k.calcType := by
  decide +kernel

/-- the parameters of a relabelled non-shear key use the relabelled components, possibly in exchanged order -/
theorem permKey_nonshear : ∀ v ∈ permTriples, ∀ k ∈ allKeys, k.isShear = false →
    (idx (permKey v k).i.i = permOf v (idx k.i.i) ∧ idx (permKey v k).j.i = permOf v (idx k.j.i)) ∨
    (idx (permKey v k).i.i = permOf v (idx k.j.i) ∧ idx (permKey v k).j.i = permOf v (idx k.i.i)) := by
  decide +kernel

/-- the keys a relabelled shear key asks for in the original frame are the relabelled keys (in some order) -/
theorem permKey_orig : ∀ v ∈ permTriples, ∀ k ∈ shearKeys,
    ((origPairs (permKey v k)).map keyOfPairs).Perm (((origPairs k).map keyOfPairs).map (permKey v)) := by
  decide +kernel

section perm
variable {R : Type} [Field R] [CharZero R]

/-- the relabelled strain row: `r' (π i) = r i` -/
def permRow (v : Fin 3 × Fin 3 × Fin 3) (r : Vec3 R) : Vec3 R := fun j => r (invOf v j)

def permField (v : Fin 3 × Fin 3 × Fin 3) (s : SField R) : SField R := s.map (permRow v)

theorem sum3_perm {v : Fin 3 × Fin 3 × Fin 3} (hv : v ∈ permTriples) (f : Fin 3 → R) :
    sum3 (fun j => f (invOf v j)) = sum3 f := by
  have hbij : (invOf v).Bijective :=
    Function.bijective_iff_has_inverse.2 ⟨permOf v, fun j => (perm_inv v hv j).2, fun i => (perm_inv v hv i).1⟩
  rw [sum3_eq, sum3_eq]
  exact hbij.sum_comp f

theorem component_perm {v : Fin 3 × Fin 3 × Fin 3} (hv : v ∈ permTriples) (s : SField R) (i : Fin 3) :
    component (permField v s) (permOf v i) = component s i := by
  unfold component permField
  rw [List.map_map]
  apply List.map_congr_left
  intro r _
  show permRow v r (permOf v i) / sum3 (permRow v r) = r i / sum3 r
  rw [show sum3 (permRow v r) = sum3 r from sum3_perm hv r, permRow, (perm_inv v hv i).1]

/-- the rotated strains of the relabelled problem, in the relabelled frame (columns up to sign), are the rotated strains -/
theorem strainRotated_perm {v : Fin 3 × Fin 3 × Fin 3} (hv : v ∈ permTriples) (T T' : Mat3 R) (σ : Vec3 R)
    (hσ : ∀ a, σ a * σ a = 1) (hT : ∀ i a, T' (permOf v i) a = T i a * σ a) (r : Vec3 R) :
    strainRotated T' (permRow v r) = strainRotated T r := by
  funext a
  have hT' : ∀ j, T' j a = T (invOf v j) a * σ a := fun j => by
    have := hT (invOf v j) a
    rwa [(perm_inv v hv j).2] at this
  rw [strainRotated_sq, strainRotated_sq]
  calc T' 0 a * T' 0 a * permRow v r 0 + T' 1 a * T' 1 a * permRow v r 1 + T' 2 a * T' 2 a * permRow v r 2
      = sum3 fun j => (fun i => T i a * T i a * r i) (invOf v j) := by
        simp only [sum3, hT', permRow]
        linear_combination (T (invOf v 0) a * T (invOf v 0) a * r (invOf v 0) + T (invOf v 1) a * T (invOf v 1) a * r (invOf v 1) +
          T (invOf v 2) a * T (invOf v 2) a * r (invOf v 2)) * hσ a
    _ = sum3 fun i => T i a * T i a * r i := sum3_perm hv fun i => T i a * T i a * r i

theorem rotatedField_perm {v : Fin 3 × Fin 3 × Fin 3} (hv : v ∈ permTriples) (T T' : Mat3 R) (σ : Vec3 R)
    (hσ : ∀ a, σ a * σ a = 1) (hT : ∀ i a, T' (permOf v i) a = T i a * σ a) (s : SField R) :
    rotatedField T' (permField v s) = rotatedField T s := by
  unfold rotatedField permField
  rw [List.map_map]
  apply List.map_congr_left
  intro r _
  exact strainRotated_perm hv T T' σ hσ hT r

end perm

section permspec
variable {R : Type} [Field R] [CharZero R]

/-- the eigen-decomposition reported for the relabelled key is the relabelled one, up to the sign of each eigenvector
(same — ascending — order of the eigenvalues) -/
def EigEquivariant (eig : Eig R) (v : Fin 3 × Fin 3 × Fin 3) (k : Modulus) : Prop :=
  (eig (permKey v k)).2 = (eig k).2 ∧
  ∃ σ : Vec3 R, (∀ a, σ a * σ a = 1) ∧ ∀ i a, (eig (permKey v k)).1 (permOf v i) a = (eig k).1 i a * σ a

theorem create_perm_nonshear {v : Fin 3 × Fin 3 × Fin 3} (hv : v ∈ permTriples) (s : SField R) {k : Modulus}
    (hk : k ∈ allKeys) (hns : k.isShear = false) :
    create (permField v s) (permKey v k) =
        .nonshear k.calcType (component s (idx k.i.i)) (component s (idx k.j.i)) ∨
    create (permField v s) (permKey v k) =
        .nonshear k.calcType (component s (idx k.j.i)) (component s (idx k.i.i)) := by
  have hf := permKey_facts v hv k hk
  have hns' : (permKey v k).isShear = false := by rw [hf.2.2.1]; exact hns
  rw [create_nonshear _ hns', hf.2.2.2.2]
  rcases permKey_nonshear v hv k hk hns with ⟨h1, h2⟩ | ⟨h1, h2⟩
  · left; rw [h1, h2, component_perm hv, component_perm hv]
  · right; rw [h1, h2, component_perm hv, component_perm hv]

/-- relabelling the axes (strain field and key together) does not change the value of any key.  `heq` offers the conclusion itself as
an alternative to equivariant frames: that is how the caller feeds in c14, c25, c36, whose value it knows from `degenerate_zero`. -/
theorem perm_spec {isZero : R → Bool} (hz : ZeroSpec isZero) (eig : Eig R) (base : Params R → R)
    (hsymm : ∀ ct a b, base (.nonshear ct a b) = base (.nonshear ct b a))
    {v : Fin 3 × Fin 3 × Fin 3} (hv : v ∈ permTriples) (s : SField R)
    (heq : ∀ k ∈ shearKeys, EigEquivariant eig v k ∨
      spec isZero eig base 2 (create (permField v s) (permKey v k)) = spec isZero eig base 2 (create s k)) :
    ∀ k ∈ allKeys,
      spec isZero eig base 2 (create (permField v s) (permKey v k)) = spec isZero eig base 2 (create s k) := by
  refine rank_induction (fun k hk hns => ?_) fun k hks ih => ?_
  · have hcs := create_nonshear s hns
    rcases create_perm_nonshear hv s hk hns with h | h
    · rw [h, hcs]
    · rw [h, hcs, spec_nonshear, spec_nonshear, hsymm]
  · rcases heq k hks with ⟨hlam, σ, hσ, hT⟩ | hknown
    swap
    · exact hknown
    obtain ⟨hk, hsh⟩ := mem_shearKeys.1 hks
    have hf := permKey_facts v hv k hk
    have hsh' : (permKey v k).isShear = true := by rw [hf.2.2.1]; exact hsh
    rw [create_shear s hsh, create_shear (permField v s) hsh', spec_fix hz eig base s hks,
      spec_fix hz eig base (permField v s) (mem_shearKeys.2 ⟨hf.1, hsh'⟩),
      rotatedField_perm hv (eig k).1 (eig (permKey v k)).1 σ hσ hT s, hlam,
      shearValue_unfold isZero hz, shearValue_unfold isZero hz, hf.2.2.2.1]
    -- the original-frame sums agree term by term after relabelling
    have hsum : (((origPairs (permKey v k)).map keyOfPairs).map
          fun k' => spec isZero eig base 2 (create (permField v s) k')).sum =
        (((origPairs k).map keyOfPairs).map fun k' => spec isZero eig base 2 (create s k')).sum := by
      rw [((permKey_orig v hv k hks).map _).sum_eq, List.map_map]
      apply congrArg
      apply List.map_congr_left
      intro k' hk'
      have := orig_keys_canon_rank k hks k' hk'
      exact ih k' this.1 this.2
    rw [hsum]

end permspec

end Cij.Tasks
