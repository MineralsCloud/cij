/-
  The glue of `cij/core/phonon_contribution/shear.py` IS what the model says (helper lemmas for C03; C05 restates the `strain_rotated` tie).

  `tools/gens/shear_src.py` re-extracts the glue as data on every run (`Generated/ShearGlue.lean`); `CijModel/ShearGlue.lean` gives
  the data their meaning (evaluators).  Here: on the data extracted NOW the evaluators are the hand-written model functions of
  `CijModel/Shear.lean` (`fictitiousStrain`, `diagMat ∘ eigh`, `strainRotated`, `energyPairs`, `energyKeys`, `strainEnergy`,
  `modulusKeys`, `modulusKeysRotated`, `shearValue`), for every scalar type, every key of the 15, every input; plus the
  combinatorics of the pair enumeration (ALL ordered pairs of non-zero cells, each once).
-/
import CijModel.ShearGlue
import Generated.ShearGlue
import Generated.ShearExprs
import CijProofs.Lemmas.Shear
import CijProofs.Lemmas.ShearSource

set_option linter.unusedSectionVars false

namespace Cij.ShearGlue
open Cij Cij.Shear
open Generated.ShearGlue (cls energyFn keysFn)

variable {α : Type} [Add α] [Sub α] [Mul α] [Div α] [NatCast α]

/-- `self.fictitious_strain` as the translated statements build it -/
abbrev sourceFict (key : Modulus) : Option (Mat3 α) := cls.fict.eval key

/-- `self.get_modulus_keys()` / `self.get_modulus_keys_rotated()` as translated -/
abbrev sourceKeys (o : Obj α) (name : String) : Option (List Modulus) := cls.keysOf keysFn o name

/-- `self.fictitious_strain_energy` / `…_rotated` as translated -/
abbrev sourceEnergy (o : Obj α) (name : String) : Option α := cls.energy energyFn Generated.shearEnergyTerm o name

/-- `self.value_isothermal` / `self.value_adiabatic` as translated -/
abbrev sourceValue (o : Obj α) (name : String) : Option α :=
  cls.value energyFn Generated.shearEnergyTerm Generated.shearTarget o 3 name

/-- `self.strain_rotated` (one generic row) as translated -/
abbrev sourceStrainRotated (o : Obj α) : Option (Vec3 α) := cls.strainRotatedRow o

/-- the eigenvalues / eigenvectors the object gets for its fictitious strain.  `Obj.eigh` returns `(λ, T)` in numpy's order; the
table `Tasks.Eig` of the task-list model stores the pair the other way round, `(T, λ)`. -/
def Obj.lam (o : Obj α) : Vec3 α := (o.eigh (fictitiousStrain o.key)).1
def Obj.T (o : Obj α) : Mat3 α := (o.eigh (fictitiousStrain o.key)).2

/-- the integer matrix of the model -/
def maskNat (key : Modulus) : Fin 3 → Fin 3 → Nat := fun i j => if fictitiousMask key i j then 1 else 0

theorem fict_evalNat_table : ∀ key ∈ shearKeys,
    ((cls.fict.evalNat key).map fun m =>
      (List.finRange 3).all fun i => (List.finRange 3).all fun j => m i j == maskNat key i j) = some true := by
  decide +kernel

theorem fict_evalNat (key : Modulus) (hk : key ∈ shearKeys) :
    ∃ m, cls.fict.evalNat key = some m ∧ ∀ i j, m i j = maskNat key i j := by
  have h := fict_evalNat_table key hk
  cases hm : cls.fict.evalNat key with
  | none => rw [hm] at h; simp at h
  | some m =>
    rw [hm] at h
    refine ⟨m, rfl, fun i j => ?_⟩
    simp only [Option.map_some, Option.some.injEq, List.all_eq_true, beq_iff_eq] at h
    exact h i (List.mem_finRange i) j (List.mem_finRange j)

/-- The zeros array with the translated cell assignments applied in order is the model's matrix, for every
one of the 15 keys and every scalar type. -/
theorem fict_is_source (key : Modulus) (hk : key ∈ shearKeys) :
    sourceFict (α := α) key = some (fictitiousStrain key) := by
  obtain ⟨m, hm, hc⟩ := fict_evalNat key hk
  simp only [sourceFict, FictSpec.eval, hm, Option.map_some, Option.some.injEq]
  funext i j
  rw [hc]
  unfold fictitiousStrain maskNat
  cases fictitiousMask key i j <;> rfl

/-- exchanging `i` and `j` exchanges the first with the second and the third with the fourth assignment -/
theorem fictitiousMask_symm (key : Modulus) (i j : Fin 3) : fictitiousMask key i j = fictitiousMask key j i := by
  have h : ∀ p1 p2 p3 p4 p5 p6 p7 p8 : Bool,
      (p1 && p2 || p3 && p4 || p5 && p6 || p7 && p8) = (p4 && p3 || p2 && p1 || p8 && p7 || p6 && p5) := by decide
  exact h ..

/-- the model's fictitious strain is symmetric (any key) … -/
theorem fictitiousStrain_symm (key : Modulus) (i j : Fin 3) :
    fictitiousStrain (α := α) key i j = fictitiousStrain key j i := by
  unfold fictitiousStrain
  rw [fictitiousMask_symm]

/-- … so the matrix `numpy.linalg.eigh` builds from its lower triangle is the matrix itself -/
theorem symFromLower_fict (key : Modulus) : symFromLower (fictitiousStrain (α := α) key) = fictitiousStrain key := by
  funext i j
  unfold symFromLower
  split
  · rfl
  · exact fictitiousStrain_symm key j i

theorem self0_fict (o : Obj α) (hk : o.key ∈ shearKeys) :
    cls.self0 o "fictitious_strain" = some (.mat (fictitiousStrain o.key)) := by
  have h := fict_is_source (α := α) o.key hk
  simp only [sourceFict] at h
  simp [ClassSpec.self0, h]

theorem self0_strain (o : Obj α) : cls.self0 o "strain" = some (.rows o.strain) := by
  simp [ClassSpec.self0]

/-- `numpy.linalg.eigh(self.fictitious_strain)` is the object's `eigh` applied to the model's matrix -/
theorem eval_eigh_fict (o : Obj α) (hk : o.key ∈ shearKeys) :
    (ArrE.call "numpy.linalg.eigh" (.selfAttr "fictitious_strain") [] []).eval ⟨cls.self0 o, o.eigh⟩ [] =
      some (.eig o.lam o.T) := by
  simp [ArrE.eval, applyFn, self0_fict o hk, symFromLower_fict, Obj.lam, Obj.T]

/-- `fictitious_strain_rotated` = `numpy.diag` of component 0 of `eigh(fictitious_strain)`, nothing else applied -/
theorem rotated_is_source (o : Obj α) (hk : o.key ∈ shearKeys) :
    cls.self1 o "fictitious_strain_rotated" = some (.mat (diagMat o.lam)) := by
  show (ArrE.call "numpy.diag" (.index (.call "numpy.linalg.eigh" (.selfAttr "fictitious_strain") [] []) 0) [] []).eval
    ⟨cls.self0 o, o.eigh⟩ [] = _
  rw [ArrE.eval, ArrE.eval, eval_eigh_fict o hk]
  simp [applyFn]

/-- `transformation_matrix` = component 1 of `eigh(fictitious_strain)`: no re-ordering, no sign change, no rounding -/
theorem transformation_is_source (o : Obj α) (hk : o.key ∈ shearKeys) :
    cls.self1 o "transformation_matrix" = some (.mat o.T) := by
  show (ArrE.index (.call "numpy.linalg.eigh" (.selfAttr "fictitious_strain") [] []) 1).eval ⟨cls.self0 o, o.eigh⟩ [] = _
  rw [ArrE.eval, eval_eigh_fict o hk]
  simp

theorem self1_fict (o : Obj α) (hk : o.key ∈ shearKeys) :
    cls.self1 o "fictitious_strain" = some (.mat (fictitiousStrain o.key)) := by
  simp [ClassSpec.self1, self0_fict o hk]

theorem self1_strain (o : Obj α) : cls.self1 o "strain" = some (.rows o.strain) := by
  simp [ClassSpec.self1, self0_strain]

/-- `strain_rotated`, for EVERY matrix `T` the attribute `transformation_matrix` may hold and every row of `self.strain`: the
translated statements (zeros, einsum diagonal write, `T.T @ strain @ T`, `numpy.diagonal(axis1=-2, axis2=-1)`) compute the model's
`strainRotated T s` -/
theorem strainRotated_stmts_is_source (env : Env α) (T : Mat3 α) (s : Vec3 α)
    (hs : env.self "strain" = some (.rows s)) (hT : env.self "transformation_matrix" = some (.mat T)) :
    runSr env [] cls.strainRotated.2 = some (.rows (strainRotated T s)) := by
  simp [Generated.ShearGlue.cls, runSr, ArrE.eval, applyFn, lookup, hs, hT, diagView, lastTwoAxes]
  rfl

theorem strainRotated_is_source (o : Obj α) (hk : o.key ∈ shearKeys) :
    sourceStrainRotated o = some (strainRotated o.T o.strain) := by
  simp only [sourceStrainRotated, ClassSpec.strainRotatedRow]
  rw [strainRotated_stmts_is_source ⟨cls.self1 o, o.eigh⟩ o.T o.strain (self1_strain o) (transformation_is_source o hk)]

/-- the model's `strainRotated` is the diagonal of the matrix product `Tᵀ · diag(s) · T` (product order as written) -/
theorem strainRotated_eq_matrix (T : Mat3 α) (s : Vec3 α) (a : Fin 3) :
    strainRotated T s a = mmul (mmul (transpose T) (diagMat s)) T a a := rfl

theorem keyOf_table : ∀ i j k l : Fin 3,
    energyFn.keyOf ((i, j), (k, l)) = some (key4 i j k l) ∧ keysFn.keyOf ((i, j), (k, l)) = some (key4 i j k l) := by
  decide +kernel

/-- `c_(i+1, j+1, k+1, l+1)` is the model's `keyOfPairs`, in both functions -/
theorem keyOf_is_source (pq : Pair × Pair) :
    energyFn.keyOf pq = some (keyOfPairs pq) ∧ keysFn.keyOf pq = some (keyOfPairs pq) := by
  obtain ⟨⟨i, j⟩, ⟨k, l⟩⟩ := pq
  exact keyOf_table i j k l

theorem optMapM_eq_some {β γ : Type} (f : β → Option γ) (g : β → γ) (l : List β) (h : ∀ x ∈ l, f x = some (g x)) :
    optMapM f l = some (l.map g) := by
  induction l with
  | nil => rfl
  | cons x xs ih =>
    have hx := h x List.mem_cons_self
    have ih' := ih fun y hy => h y (List.mem_cons_of_mem _ hy)
    simp [optMapM, hx, ih']

theorem skip_simp (k : Modulus) (target : Option Modulus) :
    (target.isSome && decide (some k = target)) = decide (some k = target) := by
  cases target <;> simp

theorem filter_map_pairs (l : List (Pair × Pair)) (target : Option Modulus) :
    (((l.map fun pq => ((pq, keyOfPairs pq), target.isSome && decide (some (keyOfPairs pq) = target))).filter
        fun x => !x.2).map (·.1)) =
      (l.filter fun pq => !(decide (some (keyOfPairs pq) = target))).map fun pq => (pq, keyOfPairs pq) := by
  induction l with
  | nil => rfl
  | cons x xs ih =>
    simp only [List.map_cons, List.filter_cons, skip_simp]
    by_cases h : some (keyOfPairs x) = target <;> simp [h, skip_simp] at ih ⊢ <;> exact ih

/-- Pair enumeration and skip of `calculate_fictitious_strain_energy`: the iterations that reach the body are the model's
`energyPairs` (non-zero test = `numpy.logical_not(numpy.isclose(e, 0))` with default tolerances, `itertools.product(nz, nz)`,
skipped exactly when `target and key == target`) -/
theorem energy_pairs_is_source (isZero : α → Bool) (e : Mat3 α) (target : Option Modulus) :
    energyFn.pairs isZero e target = some ((energyPairs isZero e target).map fun pq => (pq, keyOfPairs pq)) := by
  have hp : energyFn.params.head? = some ("fictitious_strain", none) := rfl
  have hl : energyFn.params.getLast? = some ("target", some "None") := rfl
  have hm : energyFn.mask.eval isZero "fictitious_strain" = some (fun x => !isZero x) := by
    simp [Generated.ShearGlue.energyFn, MaskE.eval]
  have hh : energyFn.headerOk = true := by decide
  simp only [LoopSpec.pairs, hp, hl, hm, hh, ↓reduceIte]
  rw [optMapM_eq_some _ (fun pq => ((pq, keyOfPairs pq), target.isSome && decide (some (keyOfPairs pq) = target)))]
  · simp only [filter_map_pairs]
    rfl
  · intro pq _
    rw [(keyOf_is_source pq).1]
    simp [Generated.ShearGlue.energyFn, SkipE.eval]

/-- … and of `get_fictitious_strain_energy_keys`: the same iterations -/
theorem keys_pairs_is_source (isZero : α → Bool) (e : Mat3 α) (target : Option Modulus) :
    keysFn.pairs isZero e target = some ((energyPairs isZero e target).map fun pq => (pq, keyOfPairs pq)) := by
  have hp : keysFn.params.head? = some ("fictitious_strain", none) := rfl
  have hl : keysFn.params.getLast? = some ("target", some "None") := rfl
  have hm : keysFn.mask.eval isZero "fictitious_strain" = some (fun x => !isZero x) := by
    simp [Generated.ShearGlue.keysFn, MaskE.eval]
  have hh : keysFn.headerOk = true := by decide
  simp only [LoopSpec.pairs, hp, hl, hm, hh, ↓reduceIte]
  rw [optMapM_eq_some _ (fun pq => ((pq, keyOfPairs pq), target.isSome && decide (some (keyOfPairs pq) = target)))]
  · simp only [filter_map_pairs]
    rfl
  · intro pq _
    rw [(keyOf_is_source pq).2]
    simp [Generated.ShearGlue.keysFn, SkipE.eval]

/-- `get_fictitious_strain_energy_keys(e, target)` is the model's `energyKeys`, for all inputs -/
theorem keysFn_is_source (isZero : α → Bool) (e : Mat3 α) (target : Option Modulus) :
    keysFn.keys isZero e target = some (energyKeys isZero e target) := by
  unfold LoopSpec.keys
  rw [keys_pairs_is_source]
  simp [Generated.ShearGlue.keysFn, energyKeys, List.map_map, Function.comp_def]

/-- `calculate_fictitious_strain_energy(e, resolve, target)` is the model's `strainEnergy`, for all inputs: initial value 0,
the translated term added per iteration, the accumulator returned as it is -/
theorem energyFn_is_source (isZero : α → Bool) (e : Mat3 α) (resolve : Modulus → α) (target : Option Modulus) :
    energyFn.energy Generated.shearEnergyTerm isZero e resolve target = some (strainEnergy isZero e resolve target) := by
  unfold LoopSpec.energy
  rw [energy_pairs_is_source]
  simp only [Generated.ShearGlue.energyFn, and_self, ↓reduceIte, Option.map_some, List.foldl_map]
  rfl

theorem matAttr_fict (o : Obj α) (hk : o.key ∈ shearKeys) :
    cls.matAttr o "fictitious_strain" = some (fictitiousStrain o.key) := by
  simp [ClassSpec.matAttr, self1_fict o hk]

theorem matAttr_rotated (o : Obj α) (hk : o.key ∈ shearKeys) :
    cls.matAttr o "fictitious_strain_rotated" = some (diagMat o.lam) := by
  simp [ClassSpec.matAttr, rotated_is_source o hk]

/-- an energy property, read off its entry in `energies` and the resolver that entry names -/
theorem energy_of_entry (c : ClassSpec) (fn : LoopSpec) (term : ShExpr.ShExpr) (o : Obj α) {name rname : String}
    {u : EnergyUse} {r : Resolver} {e : Mat3 α} {d : Modulus → α} {tgt : Option Modulus}
    (hu : c.energies.find? (fun u => u.name == name) = some u) (he : c.matAttr o u.strain = some e)
    (hr : u.resolver = some rname) (ht : o.targetOf u.target = some tgt)
    (hres : c.resolvers.find? (fun r => r.name == rname) = some r) (hd : o.dict r.dict = some d) (hfn : u.fn = fn.name) :
    c.energy fn term o name = fn.energy term o.isZero e d tgt := by
  simp only [ClassSpec.energy, hu, he, hr, ht, hres, hd, hfn, if_true]

/-- a key method, read off its entry in `keyMethods` -/
theorem keysOf_of_entry (c : ClassSpec) (fn : LoopSpec) (o : Obj α) {name : String} {u : EnergyUse} {e : Mat3 α}
    {tgt : Option Modulus} (hu : c.keyMethods.find? (fun u => u.name == name) = some u)
    (he : c.matAttr o u.strain = some e) (hr : u.resolver = none) (ht : o.targetOf u.target = some tgt)
    (hfn : u.fn = fn.name) : c.keysOf fn o name = fn.keys o.isZero e tgt := by
  simp only [ClassSpec.keysOf, hu, he, hr, ht, hfn, if_true]

/-- ORIGINAL-FRAME ENERGY: `fictitious_strain`, resolver `get_elastic_modulus` = `self.modulus[key]`, target `self.key` -/
theorem energy_orig_is_source (o : Obj α) (hk : o.key ∈ shearKeys) :
    sourceEnergy o "fictitious_strain_energy" =
      some (strainEnergy o.isZero (fictitiousStrain o.key) o.modulus (some o.key)) :=
  (energy_of_entry cls energyFn _ o rfl (matAttr_fict o hk) rfl rfl rfl rfl rfl).trans (energyFn_is_source ..)

/-- ROTATED-FRAME ENERGY: `fictitious_strain_rotated`, resolver `get_elastic_modulus_rotated` = `self.modulus_rotated[key]`,
NO target -/
theorem energy_rot_is_source (o : Obj α) (hk : o.key ∈ shearKeys) :
    sourceEnergy o "fictitious_strain_energy_rotated" =
      some (strainEnergy o.isZero (diagMat o.lam) o.modulusRotated none) :=
  (energy_of_entry cls energyFn _ o rfl (matAttr_rotated o hk) rfl rfl rfl rfl rfl).trans (energyFn_is_source ..)

/-- `get_modulus_keys()`: original frame WITH target `self.key` -/
theorem keys_orig_is_source (o : Obj α) (hk : o.key ∈ shearKeys) :
    sourceKeys o "get_modulus_keys" = some (modulusKeys o.isZero o.key) :=
  (keysOf_of_entry cls keysFn o rfl (matAttr_fict o hk) rfl rfl rfl).trans (keysFn_is_source ..)

/-- `get_modulus_keys_rotated()`: rotated frame, NO target -/
theorem keys_rot_is_source (o : Obj α) (hk : o.key ∈ shearKeys) :
    sourceKeys o "get_modulus_keys_rotated" = some (modulusKeysRotated o.isZero o.lam) :=
  (keysOf_of_entry cls keysFn o rfl (matAttr_rotated o hk) rfl rfl rfl).trans (keysFn_is_source ..)

theorem symEnv_eq_envOf (m eij ekl eRot eOrig mult : α) : symEnv m eij ekl eRot eOrig mult = ShExpr.envOf m eij ekl eRot eOrig mult := by
  funext s; cases s <;> rfl

/-- `get_target_elastic_modulus()` on the translated pieces = the model's `shearValue` -/
theorem cls_target_is_source (o : Obj α) (hk : o.key ∈ shearKeys) :
    cls.target energyFn Generated.shearEnergyTerm Generated.shearTarget o =
      some (shearValue o.isZero o.key o.lam o.modulus o.modulusRotated) := by
  have h1 := energy_rot_is_source o hk
  have h2 := energy_orig_is_source o hk
  simp only [sourceEnergy] at h1 h2
  simp only [ClassSpec.target, h1, h2, matAttr_fict o hk, symEnv_eq_envOf, shearValue, ShExpr.target_is_source]

/-- `value_isothermal` = `get_target_elastic_modulus()` as it is; `value_adiabatic` = `value_isothermal` -/
theorem value_is_source (o : Obj α) (hk : o.key ∈ shearKeys) :
    sourceValue o "value_isothermal" = some (shearValue o.isZero o.key o.lam o.modulus o.modulusRotated) ∧
    sourceValue o "value_adiabatic" = some (shearValue o.isZero o.key o.lam o.modulus o.modulusRotated) := by
  have ht := cls_target_is_source o hk
  constructor
  · simp only [sourceValue, ClassSpec.value]
    simp [Generated.ShearGlue.cls] at ht ⊢
    exact ht
  · simp only [sourceValue, ClassSpec.value]
    simp [Generated.ShearGlue.cls] at ht ⊢
    exact ht

theorem mem_allPairs9 (p : Pair) : p ∈ allPairs9 := by
  obtain ⟨i, j⟩ := p
  revert i j
  decide

theorem mem_nzPairs (isZero : α → Bool) (e : Mat3 α) (p : Pair) :
    p ∈ nzPairs isZero e ↔ isZero (e p.1 p.2) = false := by
  simp [nzPairs, mem_allPairs9]

theorem product_nodup {nz : List Pair} (h : nz.Nodup) : (product nz).Nodup := by
  unfold product
  rw [List.nodup_flatMap]
  constructor
  · intro p _
    exact h.map fun a b hab => (Prod.mk.inj hab).2
  · refine List.Pairwise.imp ?_ h
    intro a b hab x hx hx'
    obtain ⟨q, _, rfl⟩ := List.mem_map.mp hx
    obtain ⟨q', _, hq'⟩ := List.mem_map.mp hx'
    exact hab (Prod.mk.inj hq').1.symm

/-- every iteration happens at most once -/
theorem energyPairs_nodup (isZero : α → Bool) (e : Mat3 α) (target : Option Modulus) :
    (energyPairs isZero e target).Nodup :=
  (product_nodup ((by decide : allPairs9.Nodup).filter _)).filter _

/-- without a target the loop body is reached for EVERY ordered pair of non-zero cells — `((ij),(kl))` and `((kl),(ij))` are
both iterations … -/
theorem mem_energyPairs_none (isZero : α → Bool) (e : Mat3 α) (pq : Pair × Pair) :
    pq ∈ energyPairs isZero e none ↔
      isZero (e pq.1.1 pq.1.2) = false ∧ isZero (e pq.2.1 pq.2.2) = false := by
  simp [energyPairs, mem_product, mem_nzPairs]

/-- … and with a target exactly those whose key is the target are left out -/
theorem mem_energyPairs_some (isZero : α → Bool) (e : Mat3 α) (t : Modulus) (pq : Pair × Pair) :
    pq ∈ energyPairs isZero e (some t) ↔
      (isZero (e pq.1.1 pq.1.2) = false ∧ isZero (e pq.2.1 pq.2.2) = false) ∧ keyOfPairs pq ≠ t := by
  simp [energyPairs, mem_product, mem_nzPairs]

/-- a diagonal rotated strain with three non-zero eigenvalues (c14, c25, c36): the rotated frame is asked for the nine
components `c'_aabb`, `a, b ∈ {1′,2′,3′}` in row-major order — every cross component (1′2′), (1′3′), (2′3′) twice -/
theorem modulusKeysRotated_three (isZero : α → Bool) (h0 : isZero ((0 : Nat) : α) = true) (lam : Vec3 α)
    (h : ∀ a, isZero (lam a) = false) :
    modulusKeysRotated isZero lam = fin3.flatMap fun a => fin3.map fun b => key4 a a b b := by
  unfold modulusKeysRotated energyKeys energyPairs
  rw [nzPairs_diag isZero h0]
  simp [fin3, h, product, keyOfPairs]

theorem cross_counts : ∀ a b : Fin 3,
    (fin3.flatMap fun a => fin3.map fun b => key4 a a b b).count (key4 a a b b) = if a = b then 1 else 2 := by
  decide +kernel

end Cij.ShearGlue
