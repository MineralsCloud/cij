/- What the readers of `CijModel/QhaInput.lean` read back from what the writers printed, block by block, for any lawful number format. -/
import CijModel.QhaInput

namespace Cij.QhaInput
open Cij Cij.Lex

variable {Num : Type}

theorem parseNat_fmtNat (n : Nat) : parseNat (fmtNat n) = some n := by
  have hl : (fmtNat n).toList = Nat.toDigits 10 n := Nat.toList_repr
  have h1 : (fmtNat n).toList.all Char.isDigit = true := by
    rw [hl, List.all_eq_true]
    intro c hc
    exact Nat.isDigit_of_mem_toDigits (by decide) (by decide) hc
  have h2 : (fmtNat n).toList.isEmpty = false := by
    rw [hl]
    cases h : Nat.toDigits 10 n with
    | nil => exact absurd h Nat.toDigits_ne_nil
    | cons a l => rfl
  unfold parseNat
  rw [h1, h2]
  simp only [Bool.not_false, Bool.and_self, if_true]
  rw [hl, Nat.ofDigitChars_ten_toDigits]

theorem matchInfo_infoLine (d : Data Num) :
    matchInfo (infoLine d) = some (d.nv, d.nq, d.np, d.nm, d.na) := by
  simp [matchInfo, infoLine, parseNat_fmtNat]

theorem matchInfo_nil : matchInfo [] = none := rfl

theorem matchInfo_headerNames : matchInfo headerNames = none := by decide

theorem findInfo_header (d : Data Num) (comment : Line) (hc : matchInfo comment = none) (rest : List Line) :
    findInfo (comment :: [] :: headerNames :: infoLine d :: rest)
      = some ((d.nv, d.nq, d.np, d.nm, d.na), rest) := by
  simp [findInfo, hc, matchInfo_nil, matchInfo_headerNames, matchInfo_infoLine]

theorem mapM_parse_fmt (F : NumFmt Num) (hF : F.Lawful) (k : Nat) (xs : List Num) :
    (xs.map (F.fmt k)).mapM F.parse = some (xs.map (F.round k)) := by
  induction xs with
  | nil => rfl
  | cons x xs ih => simp [List.mapM_cons, hF k x, ih]

theorem readModes_write (F : NumFmt Num) (hF : F.Lawful) (ms : List Num) (rest : List Line) :
    readModes F ms.length (ms.map (modeLine F) ++ rest) = some (ms.map (F.round 6), rest) := by
  induction ms with
  | nil => simp [readModes]
  | cons m ms ih => simp [readModes, modeLine, hF 6 m] at ih ⊢; simp [ih]

theorem readQPoints_write (F : NumFmt Num) (hF : F.Lawful) (np : Nat) (qs : List (QPointData Num))
    (hq : ∀ q ∈ qs, q.modes.length = np) (rest : List Line) :
    readQPoints F np qs.length (qs.flatMap (qPointLines F) ++ rest) = some (qs.map (roundQPoint F), rest) := by
  induction qs with
  | nil => simp [readQPoints]
  | cons q qs ih =>
    have hlen : q.modes.length = np := hq q (by simp)
    have ih' := ih (fun q' h => hq q' (by simp [h]))
    have hm := readModes_write F hF q.modes (qs.flatMap (qPointLines F) ++ rest)
    rw [hlen] at hm
    simp only [List.flatMap_cons, qPointLines, List.length_cons, List.cons_append, List.append_assoc, readQPoints]
    rw [show (coordLine F q.coord).mapM F.parse = some (q.coord.map (F.round 4)) from mapM_parse_fmt F hF 4 q.coord]
    simp [hm, ih', roundQPoint]

theorem matchPVE_pveLine (F : NumFmt Num) (p v e : Num) :
    matchPVE (pveLine F p v e) = some (F.fmt 6 p, F.fmt 6 v, F.fmt 6 e) := by
  have h : isLabel1 "P=" = true ∧ isLabel2 "V=" = true ∧ isLabel2 "E=" = true := by decide
  simp [matchPVE, pveLine, h]

theorem skipBlank_cons_ne (l : Line) (ls : List Line) (h : l ≠ []) : skipBlank (l :: ls) = l :: ls := by
  cases l with
  | nil => exact absurd rfl h
  | cons a t => rfl

theorem readVolumes_write (F : NumFmt Num) (hF : F.Lawful) (nq np : Nat) (vs : List (VolumeData Num))
    (hq : ∀ v ∈ vs, v.qPoints.length = nq) (hp : ∀ v ∈ vs, ∀ q ∈ v.qPoints, q.modes.length = np)
    (rest : List Line) :
    readVolumes F nq np vs.length (vs.flatMap (volumeLines F) ++ rest) = some (vs.map (roundVolume F), rest) := by
  induction vs with
  | nil => simp [readVolumes]
  | cons v vs ih =>
    have ih' := ih (fun v' h => hq v' (by simp [h])) (fun v' h => hp v' (by simp [h]))
    have hlen : v.qPoints.length = nq := hq v (by simp)
    have hqs := readQPoints_write F hF np v.qPoints (hp v (by simp)) (vs.flatMap (volumeLines F) ++ rest)
    rw [hlen] at hqs
    simp only [List.flatMap_cons, volumeLines, List.length_cons, List.cons_append, List.append_assoc, readVolumes]
    rw [skipBlank_cons_ne _ _ (by simp [pveLine])]
    simp [matchPVE_pveLine, hF 6, hqs, ih', roundVolume]

/-- one more blank line in front of a volume block is skipped -/
theorem readVolumes_blank (F : NumFmt Num) (nq np n : Nat) (ls : List Line) :
    readVolumes F nq np (n + 1) ([] :: ls) = readVolumes F nq np (n + 1) ls := by
  simp [readVolumes, skipBlank]

theorem scanWeight_marker (ws : List Line) : scanWeight ([] :: ["weight"] :: ws) = ws := by
  simp [scanWeight]

theorem readWeights_write (F : NumFmt Num) (hF : F.Lawful) (ws : List (QPointWeight Num))
    (h3 : ∀ w ∈ ws, w.coord.length = 3) :
    ∃ ls, ws.mapM (weightLine F) = some ls ∧ readWeights F ws.length ls = some (ws.map (roundWeight F)) := by
  have hF6 : ∀ x, F.parse (F.fmt 6 x) = some (F.round 6 x) := hF 6
  induction ws with
  | nil => exact ⟨[], rfl, by simp [readWeights]⟩
  | cons w ws ih =>
    obtain ⟨ls, hls, hr⟩ := ih (fun w' h => h3 w' (by simp [h]))
    have hw : w.coord.length = 3 := h3 w (by simp)
    obtain ⟨c, x⟩ := w
    match c, hw with
    | [a, b, c], _ =>
      refine ⟨[F.fmt 6 a, F.fmt 6 b, F.fmt 6 c, F.fmt 6 x] :: ls, ?_, ?_⟩
      · simp [List.mapM_cons, weightLine, hls]
      · simp [readWeights, List.mapM_cons, hF6, hr, roundWeight]

end Cij.QhaInput
