/- Totality and correctness of the Gaussian elimination `Cij.Interp.solve` over a field, and of `lstsqPolyfit` on Vandermonde designs
with enough distinct abscissae.  `solve` takes as pivot the first row with a NON-ZERO leading entry (`extractPivot`), so over a field
with decidable equality it decides solvability: an answer solves the system, no answer comes with a kernel vector (`solve_spec`).
The normal equations `VᵀV a = Vᵀy` have trivial kernel because `a ↦ Σ_r polyval(a, x_r)²` is definite (root counting). -/
import CijProofs.Lemmas.Interp

namespace Cij.Interp
open Polynomial

section Dot
variable {K : Type} [Field K]

theorem dot_nil_left (v : List K) : dot [] v = 0 := by simp [dot, sumL]
theorem dot_nil_right (u : List K) : dot u [] = 0 := by simp [dot, sumL]

theorem dot_cons (a b : K) (u v : List K) : dot (a :: u) (b :: v) = a * b + dot u v := by
  simp [dot, sumL]

theorem dot_zipWith_sub (c : K) (u v y : List K) (h : u.length = v.length) :
    dot (List.zipWith (fun a b => a - c * b) u v) y = dot u y - c * dot v y := by
  induction u generalizing v y with
  | nil => cases v <;> simp [dot_nil_left] at h ⊢
  | cons a u ih =>
    cases v with
    | nil => simp at h
    | cons b v =>
      cases y with
      | nil => simp [dot_nil_right]
      | cons t y =>
        simp only [List.zipWith_cons_cons, dot_cons]
        rw [ih v y (by simpa using h)]
        ring

theorem dot_replicate_zero (u : List K) (k : ℕ) : dot u (List.replicate k 0) = 0 := by
  induction u generalizing k with
  | nil => exact dot_nil_left _
  | cons a u ih =>
    cases k with
    | zero => exact dot_nil_right _
    | succ k => rw [List.replicate_succ, dot_cons, ih]; simp

theorem dot_aug (v x : List K) (t : K) (h : v.length = x.length + 1) :
    dot v (x ++ [t]) = dot (v.take x.length) x + v.getD x.length 0 * t := by
  induction x generalizing v with
  | nil =>
    match v, h with
    | [b], _ => simp [dot, sumL]
  | cons c x ih =>
    cases v with
    | nil => simp at h
    | cons a v =>
      simp only [List.cons_append, List.length_cons, List.take_succ_cons, dot_cons, List.getD_cons_succ]
      rw [ih v (by simpa using h)]
      ring

theorem dot_append_singleton (u x : List K) (b t : K) (h : u.length = x.length) :
    dot (u ++ [b]) (x ++ [t]) = dot u x + b * t := by
  rw [dot_aug (u ++ [b]) x t (by simp [h]), ← h]
  simp

end Dot

section Solve
variable {K : Type} [Field K] [DecidableEq K]

theorem extractPivot_none (rows : List (List K)) (h : extractPivot rows = none) : ∀ r ∈ rows, r.headD 0 = 0 := by
  induction rows with
  | nil => simp
  | cons r rs ih =>
    unfold extractPivot at h
    split_ifs at h with hb
    · have h0 : r.headD 0 = 0 := beq_iff_eq.mp hb
      rw [Option.map_eq_none_iff] at h
      intro s hs
      rcases List.mem_cons.mp hs with rfl | hs
      · exact h0
      · exact ih h s hs

theorem extractPivot_some (rows : List (List K)) (p : List K) (rest : List (List K))
    (h : extractPivot rows = some (p, rest)) : p.headD 0 ≠ 0 ∧ rows.Perm (p :: rest) := by
  induction rows generalizing rest with
  | nil => simp [extractPivot] at h
  | cons r rs ih =>
    unfold extractPivot at h
    split_ifs at h with hb
    · simp only [Option.map_eq_some_iff, Prod.mk.injEq, Prod.exists] at h
      obtain ⟨p', rest', hex, rfl, rfl⟩ := h
      obtain ⟨hp, hperm⟩ := ih rest' hex
      exact ⟨hp, (hperm.cons r).trans (List.Perm.swap _ _ _)⟩
    · simp only [Option.some.injEq, Prod.mk.injEq] at h
      obtain ⟨rfl, rfl⟩ := h
      exact ⟨fun h0 => hb (beq_iff_eq.mpr h0), List.Perm.refl _⟩

/-- the rows after one elimination step (the `sub` of `solve`) -/
def subRows (p : List K) (rest : List (List K)) : List (List K) :=
  rest.map fun r => List.zipWith (fun a b => a - (r.headD 0 / p.headD 0) * b) r.tail p.tail

theorem solve_succ_some (n : ℕ) (rows : List (List K)) (p : List K) (rest : List (List K))
    (h : extractPivot rows = some (p, rest)) :
    solve (n + 1) rows = (solve n (subRows p rest)).map fun xs =>
      ((p.tail.getD n 0 - dot (p.tail.take n) xs) / p.headD 0) :: xs := by
  simp only [solve, h, subRows]
  split
  next hs => rw [hs]; rfl
  next xs hs => rw [hs]; rfl

omit [DecidableEq K] in
/-- one elimination step, semantically: for the pivot row `p = p0 :: pt` (`p0 ≠ 0`), a row `r = r0 :: rt` and ANY vector
`x0 :: X`: if `p · (x0 :: X) = 0` then `r · (x0 :: X) = 0 ↔ (rt − (r0/p0) pt) · X = 0` -/
theorem step_row (p0 r0 x0 : K) (pt rt X : List K) (hp0 : p0 ≠ 0) (hl : rt.length = pt.length)
    (hp : p0 * x0 + dot pt X = 0) :
    r0 * x0 + dot rt X = dot (List.zipWith (fun a b => a - (r0 / p0) * b) rt pt) X := by
  rw [dot_zipWith_sub _ _ _ _ hl]
  have : dot pt X = -(p0 * x0) := by linear_combination hp
  rw [this]
  field_simp
  ring

theorem exists_cons_of_length {β : Type} {r : List β} {m : ℕ} (h : r.length = m + 1) : ∃ r0 rt, r = r0 :: rt ∧ rt.length = m := by
  cases r with
  | nil => simp at h
  | cons a l => exact ⟨a, l, rfl, by simpa using h⟩

theorem pivot_shape (n : ℕ) (rows : List (List K)) (p : List K) (rest : List (List K)) (hlen : rows.length = n + 1)
    (hw : ∀ r ∈ rows, r.length = n + 1 + 1) (hex : extractPivot rows = some (p, rest)) :
    ∃ p0 pt, p = p0 :: pt ∧ pt.length = n + 1 ∧ (subRows p rest).length = n ∧ ∀ s ∈ subRows p rest, s.length = n + 1 := by
  obtain ⟨-, hperm⟩ := extractPivot_some rows p rest hex
  obtain ⟨p0, pt, rfl, hptl⟩ := exists_cons_of_length (hw p (hperm.mem_iff.mpr (by simp)))
  have hrl : rest.length = n := by
    have := hperm.length_eq
    simp only [List.length_cons] at this
    omega
  refine ⟨p0, pt, rfl, hptl, by simp [subRows, hrl], fun s hs => ?_⟩
  simp only [subRows, List.mem_map] at hs
  obtain ⟨r, hr, rfl⟩ := hs
  have := hw r (hperm.mem_iff.mpr (by simp [hr]))
  simp [List.length_zipWith, hptl, this]

/-- back-substitution: a vector `X ++ [t]` annihilated by the reduced rows extends, with `x0 = −(pt · (X ++ [t])) / p0`, to a
vector annihilated by all the rows (`t = −1`: a solution; `t = 0`: a kernel vector) -/
theorem solve_step (n : ℕ) (rows : List (List K)) (p0 : K) (pt : List K) (rest : List (List K))
    (hw : ∀ r ∈ rows, r.length = n + 1 + 1) (hex : extractPivot rows = some (p0 :: pt, rest)) (X : List K) (t : K)
    (hsub : ∀ s ∈ subRows (p0 :: pt) rest, dot s (X ++ [t]) = 0) :
    ∀ r ∈ rows, dot r ((-(dot pt (X ++ [t])) / p0 :: X) ++ [t]) = 0 := by
  obtain ⟨hp0, hperm⟩ := extractPivot_some rows _ rest hex
  rw [List.headD_cons] at hp0
  have hptl : pt.length = n + 1 := by simpa using hw (p0 :: pt) (hperm.mem_iff.mpr (by simp))
  have hpx : p0 * (-(dot pt (X ++ [t])) / p0) + dot pt (X ++ [t]) = 0 := by
    rw [mul_div_cancel₀ _ hp0, neg_add_cancel]
  intro r hr
  rcases List.mem_cons.mp (hperm.mem_iff.mp hr) with rfl | hr'
  · rw [List.cons_append, dot_cons, hpx]
  · obtain ⟨r0, rt, rfl, hrtl⟩ := exists_cons_of_length (hw r hr)
    rw [List.cons_append, dot_cons, step_row p0 r0 _ pt rt _ hp0 (hrtl.trans hptl.symm) hpx]
    refine hsub _ ?_
    simp only [subRows, List.mem_map]
    exact ⟨r0 :: rt, hr', by simp⟩

/-- what `solve` returns on an `n × (n+1)` augmented system: an answer solves every equation; no answer comes with a non-zero
vector of the homogeneous system.  (Induction on `n`; both cases lift the reduced system's vector by `solve_step`.) -/
theorem solve_spec (n : ℕ) (rows : List (List K)) (hlen : rows.length = n) (hw : ∀ r ∈ rows, r.length = n + 1) :
    (∀ x, solve n rows = some x → x.length = n ∧ ∀ r ∈ rows, dot r (x ++ [-1]) = 0) ∧
      (solve n rows = none →
        ∃ y : List K, y.length = n ∧ y ≠ List.replicate n 0 ∧ ∀ r ∈ rows, dot r (y ++ [0]) = 0) := by
  induction n generalizing rows with
  | zero =>
    obtain rfl := List.length_eq_zero_iff.mp hlen
    exact ⟨fun x h => by simp only [solve, Option.some.injEq] at h; subst h; simp, fun h => by simp [solve] at h⟩
  | succ n ih =>
    cases hex : extractPivot rows with
    | none =>
      -- the first column is zero: `(1, 0, …, 0)` is in the kernel
      simp only [solve, hex]
      refine ⟨fun x h => (by cases h), fun _ => ⟨1 :: List.replicate n 0, by simp, by simp [List.replicate_succ], fun r hr => ?_⟩⟩
      obtain ⟨r0, rt, rfl, -⟩ := exists_cons_of_length (hw r hr)
      have h0 : r0 = 0 := by simpa using extractPivot_none rows hex _ hr
      rw [List.cons_append, dot_cons, ← List.replicate_succ', dot_replicate_zero, h0]
      simp
    | some pr =>
      obtain ⟨p, rest⟩ := pr
      obtain ⟨p0, pt, rfl, hptl, hsl, hsw⟩ := pivot_shape n rows p rest hlen hw hex
      obtain ⟨ihs, ihn⟩ := ih (subRows (p0 :: pt) rest) hsl hsw
      have lift := solve_step n rows p0 pt rest hw hex
      rw [solve_succ_some n rows _ rest hex, List.tail_cons, List.headD_cons]
      constructor
      · intro x h
        cases hs : solve n (subRows (p0 :: pt) rest) with
        | none => rw [hs] at h; cases h
        | some xs =>
          rw [hs, Option.map_some, Option.some.injEq] at h
          obtain ⟨hxl, hsub⟩ := ihs xs hs
          -- the `x0` of `solve` is the one of `solve_step` at `t = −1`
          have e : (pt.getD n 0 - dot (pt.take n) xs) / p0 = -(dot pt (xs ++ [-1])) / p0 := by
            rw [dot_aug pt xs (-1) (by rw [hptl, hxl]), hxl]
            ring
          subst h
          exact ⟨by simp [hxl], e ▸ lift xs (-1) hsub⟩
      · intro h
        obtain ⟨y, hyl, hy0, hsub⟩ := ihn (by simpa using h)
        refine ⟨-(dot pt (y ++ [0])) / p0 :: y, by simp [hyl], fun heq => hy0 ?_, lift y 0 hsub⟩
        rw [List.replicate_succ, List.cons.injEq] at heq
        exact heq.2

/-- **soundness**: an answer of `solve` has `n` entries and solves every equation `r[0..n) · x = r[n]` -/
theorem solve_sound (n : ℕ) (rows : List (List K)) (x : List K) (hlen : rows.length = n)
    (hw : ∀ r ∈ rows, r.length = n + 1) (h : solve n rows = some x) :
    x.length = n ∧ ∀ r ∈ rows, dot r (x ++ [-1]) = 0 :=
  (solve_spec n rows hlen hw).1 x h

/-- **completeness**: if `solve` does not answer, the homogeneous system has a non-zero solution -/
theorem solve_none_kernel (n : ℕ) (rows : List (List K)) (hlen : rows.length = n)
    (hw : ∀ r ∈ rows, r.length = n + 1) (h : solve n rows = none) :
    ∃ y : List K, y.length = n ∧ y ≠ List.replicate n 0 ∧ ∀ r ∈ rows, dot r (y ++ [0]) = 0 :=
  (solve_spec n rows hlen hw).2 h

/-- **totality + correctness on non-singular systems**: `rows` is an `n × (n+1)` augmented system `[A | b]` over a field.
If the homogeneous system `A y = 0` has only the zero solution, `solve` answers, and its answer `x` has `n` entries and
satisfies `A x = b` row by row. -/
theorem solve_total (n : ℕ) (rows : List (List K)) (hlen : rows.length = n) (hw : ∀ r ∈ rows, r.length = n + 1)
    (hker : ∀ y : List K, y.length = n → (∀ r ∈ rows, dot r (y ++ [0]) = 0) → y = List.replicate n 0) :
    ∃ x, solve n rows = some x ∧ x.length = n ∧ ∀ r ∈ rows, dot (r.take n) x = r.getD n 0 := by
  cases hs : solve n rows with
  | none =>
    obtain ⟨y, hyl, hy0, hy⟩ := solve_none_kernel n rows hlen hw hs
    exact absurd (hker y hyl hy) hy0
  | some x =>
    obtain ⟨hxl, hx⟩ := solve_sound n rows x hlen hw hs
    refine ⟨x, rfl, hxl, fun r hr => ?_⟩
    have := hx r hr
    rw [dot_aug r x (-1) (by rw [hw r hr, hxl]), hxl] at this
    linear_combination this

end Solve

section Normal
variable {K : Type} [Field K]

/-- a row of `numpy.vander(xs, n)` dotted with the coefficient vector is Horner's value: `(V a)_r = polyval(a, x_r)` -/
theorem dot_powersDesc (x : K) (a : List K) : dot (powersDesc x a.length) a = polyval a x := by
  rw [polyval_eq_eval]
  induction a with
  | nil => simp [powersDesc, dot, sumL, toPoly]
  | cons c cs ih =>
    simp only [dot, sumL, powersDesc, List.length_cons, List.zipWith_cons_cons, List.foldr_cons, npow_eq_pow] at ih ⊢
    rw [ih]
    simp [toPoly]; ring

theorem powersDesc_eq_map (x : K) (n : ℕ) : powersDesc x n = (List.range n).map fun j => x ^ (n - 1 - j) := by
  induction n with
  | zero => simp [powersDesc]
  | succ n ih =>
    rw [powersDesc, ih, List.range_succ_eq_map, List.map_cons, List.map_map, npow_eq_pow]
    congr 1
    refine List.map_congr_left fun j _ => ?_
    simp only [Function.comp_apply]
    congr 1
    omega

theorem dot_range_map (n : ℕ) (f : ℕ → K) (a : List K) (h : a.length = n) :
    dot ((List.range n).map f) a = ∑ j ∈ Finset.range n, f j * a.getD j 0 := by
  induction a generalizing n f with
  | nil => subst h; simp [dot_nil_right]
  | cons c cs ih =>
    subst h
    rw [List.length_cons, List.range_succ_eq_map, List.map_cons, List.map_map, dot_cons, ih _ _ rfl,
      Finset.sum_range_succ']
    simp [add_comm]

theorem polyval_eq_sum (a : List K) (x : K) :
    polyval a x = ∑ j ∈ Finset.range a.length, x ^ (a.length - 1 - j) * a.getD j 0 := by
  rw [← dot_powersDesc, powersDesc_eq_map, dot_range_map _ _ _ rfl]

theorem powerSum_eq (xs : List K) (k : ℕ) : powerSum xs k = (xs.map (· ^ k)).sum := by
  unfold powerSum
  rw [sumL_eq_sum]
  simp only [npow_eq_pow]

theorem moment_eq (xs ys : List K) (k : ℕ) : moment xs ys k = ((xs.zip ys).map fun p => p.1 ^ k * p.2).sum := by
  unfold moment
  rw [sumL_eq_sum, zipWith_eq_map_zip']
  simp only [npow_eq_pow]

theorem normalRow_dot (xs a : List K) (n k : ℕ) (h : a.length = n) :
    dot ((List.range n).map fun j => powerSum xs (k + (n - 1 - j))) a = (xs.map fun x => x ^ k * polyval a x).sum := by
  rw [dot_range_map _ _ _ h]
  have e : (fun x : K => x ^ k * polyval a x)
      = fun x => ∑ j ∈ Finset.range n, x ^ (k + (n - 1 - j)) * a.getD j 0 := by
    funext x
    rw [polyval_eq_sum, h, Finset.mul_sum]
    exact Finset.sum_congr rfl fun j _ => by rw [pow_add]; ring
  rw [e, list_sum_finset_sum]
  refine Finset.sum_congr rfl fun j _ => ?_
  rw [powerSum_eq, List.sum_map_mul_right]

theorem normalAug_eq (xs ys : List K) (n : ℕ) :
    List.zipWith (fun r b => r ++ [b]) (normalMatrix xs n) (normalRhs xs ys n)
      = (List.range n).map fun i =>
          ((List.range n).map fun j => powerSum xs ((n - 1 - i) + (n - 1 - j))) ++ [moment xs ys (n - 1 - i)] := by
  unfold normalMatrix normalRhs
  rw [List.zipWith_map_left, List.zipWith_map_right, List.zipWith_self]

theorem normalAug_row (xs ys a : List K) (t : K) (n : ℕ) (h : a.length = n) (hl : xs.length = ys.length) :
    (∀ r ∈ List.zipWith (fun r b => r ++ [b]) (normalMatrix xs n) (normalRhs xs ys n), dot r (a ++ [t]) = 0) ↔
      ∀ k < n, ((xs.zip ys).map fun p => p.1 ^ k * (polyval a p.1 + p.2 * t)).sum = 0 := by
  rw [normalAug_eq]
  have row : ∀ k, dot (((List.range n).map fun j => powerSum xs (k + (n - 1 - j))) ++ [moment xs ys k]) (a ++ [t])
      = ((xs.zip ys).map fun p => p.1 ^ k * (polyval a p.1 + p.2 * t)).sum := by
    intro k
    rw [dot_append_singleton _ _ _ _ (by simp [h]), normalRow_dot xs a n k h, moment_eq,
      ← map_zip_fst (fun x => x ^ k * polyval a x) xs ys hl.le, ← List.sum_map_mul_right, ← List.sum_map_add]
    congr 1
    refine List.map_congr_left fun p _ => ?_
    ring
  constructor
  · intro hr k hk
    rw [← row]
    have := hr _ (List.mem_map.mpr ⟨n - 1 - k, List.mem_range.mpr (by omega), rfl⟩)
    have e : n - 1 - (n - 1 - k) = k := by omega
    rwa [e] at this
  · intro hk r hr
    obtain ⟨i, hi, rfl⟩ := List.mem_map.mp hr
    rw [row]
    exact hk _ (by have := List.mem_range.mp hi; omega)

theorem toPoly_replicate_zero (n : ℕ) : toPoly (List.replicate n (0 : K)) = 0 := by
  induction n with
  | zero => simp [toPoly]
  | succ n ih => simp [List.replicate_succ, toPoly, ih]

variable [LinearOrder K] [IsStrictOrderedRing K]

/-- `VᵀV` of a Vandermonde design with at least `n` distinct abscissae is definite: a coefficient vector whose first `n`
moments `Σ_r x_r^k · polyval(a, x_r)` vanish is the zero vector -/
theorem vander_normal_kernel (xs a : List K) (n : ℕ) (h : a.length = n) (hdist : n ≤ xs.toFinset.card)
    (hm : ∀ k < n, (xs.map fun x => x ^ k * polyval a x).sum = 0) : a = List.replicate n 0 := by
  rcases Nat.eq_zero_or_pos n with rfl | hn
  · simpa using h
  have h0 : toPoly a = 0 :=
    eq_zero_of_moments_eq_zero xs (toPoly a) n (natDegree_toPoly_lt a n h.le hn) hdist (by simpa only [polyval_eq_eval] using hm)
  exact toPoly_injective a _ (by simp [h]) (by rw [h0, toPoly_replicate_zero])

/-- **totality of `lstsq_polyfit`**: for ANY data `ys` on abscissae `xs` with at least `order + 1` distinct values the
elimination answers, its answer passes the certificate, so `lstsqPolyfit` returns it. -/
theorem lstsqPolyfit_total (xs ys : List K) (order : ℕ) (hl : xs.length = ys.length)
    (hdist : order + 1 ≤ xs.toFinset.card) :
    ∃ a, lstsqPolyfit xs ys order = some a ∧ normalEq xs ys order a = true := by
  set aug := List.zipWith (fun r b => r ++ [b]) (normalMatrix xs (order + 1)) (normalRhs xs ys (order + 1)) with haug
  have hlen : aug.length = order + 1 := by simp [haug, normalMatrix, normalRhs]
  have hw : ∀ r ∈ aug, r.length = order + 1 + 1 := by
    intro r hr
    rw [haug, normalAug_eq] at hr
    obtain ⟨i, _, rfl⟩ := List.mem_map.mp hr
    simp
  have hker : ∀ y : List K, y.length = order + 1 → (∀ r ∈ aug, dot r (y ++ [0]) = 0) →
      y = List.replicate (order + 1) 0 := by
    intro y hy hr
    have := (normalAug_row xs ys y 0 (order + 1) hy hl).mp hr
    refine vander_normal_kernel xs y (order + 1) hy hdist fun k hk => ?_
    have hk' := this k hk
    simp only [mul_zero, add_zero] at hk'
    rwa [map_zip_fst (fun x => x ^ k * polyval y x) xs ys hl.le] at hk'
  obtain ⟨a, hsol, hal, hrows⟩ := solve_total (order + 1) aug hlen hw hker
  have hax : ∀ r ∈ aug, dot r (a ++ [-1]) = 0 := fun r hr => by
    rw [dot_aug r a (-1) (by rw [hw r hr, hal]), hal, hrows r hr]
    ring
  have hne : normalEq xs ys order a = true := by
    rw [normalEq_iff]
    refine ⟨hal, fun k hk => ?_⟩
    rw [← (normalAug_row xs ys a (-1) (order + 1) hal hl).mp hax k hk]
    congr 1
    refine List.map_congr_left fun p _ => ?_
    ring
  refine ⟨a, ?_, hne⟩
  unfold lstsqPolyfit
  simp only [← haug, hsol, hne, if_true]

end Normal

end Cij.Interp
