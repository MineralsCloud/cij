/- Soundness and totality of read-through memoisation (`CijModel/Memo.lean`). Core Lean only. -/
import CijModel.Memo
namespace Cij.Memo

variable {ν β : Type} [DecidableEq ν]


omit [DecidableEq ν] in
theorem runWith_read (rd : ν → Table ν β → Option (β × Table ν β)) (n : ν) (k : β → Body ν β) (t : Table ν β) :
    runWith rd (.read n k) t = (rd n t).bind fun p => runWith rd (k p.1) p.2 := by
  rw [runWith]
  cases rd n t <;> rfl

theorem readProp_hit (defs : ν → Body ν β) (fuel : Nat) {n : ν} {t : Table ν β} {v : β}
    (h : t.get? n = some v) : readProp defs (fuel + 1) n t = some (v, t) := by
  unfold readProp; rw [h]

theorem readProp_miss (defs : ν → Body ν β) (fuel : Nat) {n : ν} {t : Table ν β} (h : t.get? n = none) :
    readProp defs (fuel + 1) n t =
      (runWith (readProp defs fuel) (defs n) t).map fun p => (p.1, (n, p.1) :: p.2) := by
  unfold readProp; rw [h]
  cases runWith (readProp defs fuel) (defs n) t <;> rfl

theorem history_cons (defs : ν → Body ν β) (fuel : Nat) (n : ν) (ns : List ν) (t : Table ν β) :
    history defs fuel (n :: ns) t =
      (readProp defs fuel n t).bind fun p => (history defs fuel ns p.2).map fun q => (p.1 :: q.1, q.2) := by
  rw [history]
  cases readProp defs fuel n t <;> rfl

omit [DecidableEq ν] in
theorem runWith_read_eq_some {rd : ν → Table ν β → Option (β × Table ν β)} {n : ν} {k : β → Body ν β}
    {t t' : Table ν β} {v : β} (h : runWith rd (.read n k) t = some (v, t')) :
    ∃ v1 t1, rd n t = some (v1, t1) ∧ runWith rd (k v1) t1 = some (v, t') := by
  rw [runWith_read, Option.bind_eq_some_iff] at h
  obtain ⟨⟨v1, t1⟩, hr, h⟩ := h
  exact ⟨v1, t1, hr, h⟩

theorem readProp_eq_some {defs : ν → Body ν β} {fuel : Nat} {n : ν} {t t' : Table ν β} {v : β}
    (h : readProp defs (fuel + 1) n t = some (v, t')) :
    (t.get? n = some v ∧ t' = t) ∨
      (t.get? n = none ∧ ∃ t1, runWith (readProp defs fuel) (defs n) t = some (v, t1) ∧ t' = (n, v) :: t1) := by
  cases hg : t.get? n with
  | some v0 =>
    rw [readProp_hit defs fuel hg] at h
    cases h
    exact Or.inl ⟨rfl, rfl⟩
  | none =>
    rw [readProp_miss defs fuel hg, Option.map_eq_some_iff] at h
    obtain ⟨⟨v1, t1⟩, hr, h⟩ := h
    cases h
    exact Or.inr ⟨rfl, t1, hr, rfl⟩

theorem history_cons_eq_some {defs : ν → Body ν β} {fuel : Nat} {n : ν} {ns : List ν} {t t' : Table ν β}
    {vs : List β} (h : history defs fuel (n :: ns) t = some (vs, t')) :
    ∃ v t1 vs1, readProp defs fuel n t = some (v, t1) ∧ history defs fuel ns t1 = some (vs1, t') ∧ vs = v :: vs1 := by
  rw [history_cons, Option.bind_eq_some_iff] at h
  obtain ⟨⟨v, t1⟩, hr, h⟩ := h
  obtain ⟨⟨vs1, t2⟩, hh, h⟩ := Option.map_eq_some_iff.1 h
  cases h
  exact ⟨v, t1, vs1, hr, hh, rfl⟩

theorem get?_cons (n : ν) (v : β) (t : Table ν β) (m : ν) :
    Table.get? ((n, v) :: t) m = if n = m then some v else Table.get? t m := by
  unfold Table.get?
  by_cases h : n = m <;> simp [List.find?, h]


/-- every cached entry holds the pure denotation -/
def Consistent (spec : ν → β) (t : Table ν β) : Prop := ∀ n v, t.get? n = some v → v = spec n

theorem consistent_nil (spec : ν → β) : Consistent spec ([] : Table ν β) := by
  intro n v h; simp [Table.get?] at h

theorem consistent_cons {spec : ν → β} {t : Table ν β} (h : Consistent spec t) (n : ν) :
    Consistent spec ((n, spec n) :: t) := by
  intro m v hm
  rw [get?_cons] at hm
  by_cases hnm : n = m
  · subst hnm; rw [if_pos rfl] at hm; cases hm; rfl
  · rw [if_neg hnm] at hm; exact h m v hm

/-- a reader is sound if it returns denotations and preserves consistency -/
def SoundReader (spec : ν → β) (rd : ν → Table ν β → Option (β × Table ν β)) : Prop :=
  ∀ n t v t', Consistent spec t → rd n t = some (v, t') → v = spec n ∧ Consistent spec t'

theorem runWith_sound {spec : ν → β} {rd} (hrd : SoundReader spec rd) :
    ∀ (b : Body ν β) (t : Table ν β) v t', Consistent spec t → runWith rd b t = some (v, t') →
      v = denote spec b ∧ Consistent spec t' := by
  intro b
  induction b with
  | ret v0 => intro t v t' ht h; cases h; exact ⟨rfl, ht⟩
  | read n k ih =>
    intro t v t' ht h
    obtain ⟨v1, t1, hr, h⟩ := runWith_read_eq_some h
    obtain ⟨rfl, ht1⟩ := hrd n t v1 t1 ht hr
    exact ih _ t1 v t' ht1 h

theorem readProp_sound {spec : ν → β} {defs : ν → Body ν β} (hspec : ∀ n, spec n = denote spec (defs n)) :
    ∀ fuel, SoundReader spec (readProp defs fuel) := by
  intro fuel
  induction fuel with
  | zero => intro n t v t' _ h; cases h
  | succ f ih =>
    intro n t v t' ht h
    rcases readProp_eq_some h with ⟨hg, rfl⟩ | ⟨_, t1, hr, rfl⟩
    · exact ⟨ht n v hg, ht⟩
    · obtain ⟨hv, ht1⟩ := runWith_sound ih (defs n) t v t1 ht hr
      obtain rfl : v = spec n := by rw [hv, ← hspec n]
      exact ⟨rfl, consistent_cons ht1 n⟩

theorem history_sound {spec : ν → β} {defs : ν → Body ν β} (hspec : ∀ n, spec n = denote spec (defs n)) (fuel : Nat) :
    ∀ (ns : List ν) (t : Table ν β) vs t', Consistent spec t → history defs fuel ns t = some (vs, t') →
      vs = ns.map spec ∧ Consistent spec t' := by
  intro ns
  induction ns with
  | nil => intro t vs t' ht h; cases h; exact ⟨rfl, ht⟩
  | cons n ns ih =>
    intro t vs t' ht h
    obtain ⟨v, t1, vs1, hr, hh, rfl⟩ := history_cons_eq_some h
    obtain ⟨rfl, ht1⟩ := readProp_sound hspec fuel n t v t1 ht hr
    obtain ⟨rfl, ht2⟩ := ih t1 vs1 t' ht1 hh
    exact ⟨rfl, ht2⟩


/-- bodies that only read properties of smaller rank -/
inductive ReadsBelow (rk : ν → Nat) (r : Nat) : Body ν β → Prop
  | ret (v : β) : ReadsBelow rk r (.ret v)
  | read (n : ν) (k : β → Body ν β) : rk n < r → (∀ v, ReadsBelow rk r (k v)) → ReadsBelow rk r (.read n k)

omit [DecidableEq ν] in
theorem runWith_total {rk : ν → Nat} {r : Nat} {rd : ν → Table ν β → Option (β × Table ν β)}
    (hrd : ∀ n t, rk n < r → (rd n t).isSome) :
    ∀ (b : Body ν β), ReadsBelow rk r b → ∀ t, (runWith rd b t).isSome := by
  intro b hb
  induction hb with
  | ret v => intro t; rfl
  | read n k hn _ ih =>
    intro t
    obtain ⟨⟨v1, t1⟩, hr⟩ := Option.isSome_iff_exists.1 (hrd n t hn)
    rw [runWith_read, hr]
    exact ih v1 t1

theorem readProp_total {rk : ν → Nat} {defs : ν → Body ν β} (hdefs : ∀ n, ReadsBelow rk (rk n) (defs n)) :
    ∀ fuel n t, rk n < fuel → (readProp defs fuel n t).isSome := by
  intro fuel
  induction fuel with
  | zero => intro n t h; omega
  | succ f ih =>
    intro n t h
    cases hg : t.get? n with
    | some v => rw [readProp_hit defs f hg]; rfl
    | none =>
      rw [readProp_miss defs f hg, Option.isSome_map]
      exact runWith_total (fun m t' hm => ih m t' (by omega)) (defs n) (hdefs n) t

end Cij.Memo
