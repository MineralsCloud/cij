/- Helper lemmas for the isotropic-limit clause of C04 (no property statements here). -/
import CijProofs.Lemmas.Tasks

set_option linter.unusedSectionVars false

namespace Cij.Tasks
open Cij Cij.Shear

/-- 0 longitudinal, 1 off-diagonal, 2 pure shear (c44 c55 c66), 3 the other twelve -/
def isoClass (k : Modulus) : Nat :=
  if k.isLongitudinal then 0 else if k.isOffDiagonal then 1 else if k.i == k.j then 2 else 3

/-- the class of `c_ijkl` records which pairings of its indices coincide: `(δ_ij δ_kl, δ_ik δ_jl + δ_il δ_jk)` -/
theorem isoClass_key4 : ∀ i j k l : Fin 3,
    (match isoClass (key4 i j k l) with | 0 => (1, 2) | 1 => (1, 0) | 2 => (0, 1) | _ => (0, 0) : Nat × Nat) =
    (if i = j ∧ k = l then 1 else 0, (if i = k ∧ j = l then 1 else 0) + (if i = l ∧ j = k then 1 else 0)) := by
  decide +kernel

theorem isoClass_voigt :
    (∀ p ∈ [((1 : Int), (1 : Int)), (2, 2), (3, 3)], p ∈ keys21 ∧ isoClass (keyOfVoigt p) = 0) ∧
    (∀ p ∈ [((1 : Int), (2 : Int)), (1, 3), (2, 3)], p ∈ keys21 ∧ isoClass (keyOfVoigt p) = 1) ∧
    (∀ p ∈ [((4 : Int), (4 : Int)), (5, 5), (6, 6)], p ∈ keys21 ∧ isoClass (keyOfVoigt p) = 2) ∧
    (∀ p ∈ [((1 : Int), (4 : Int)), (1, 5), (1, 6), (2, 4), (2, 5), (2, 6), (3, 4), (3, 5), (3, 6), (4, 5), (4, 6), (5, 6)],
      p ∈ keys21 ∧ isoClass (keyOfVoigt p) = 3) := by
  decide +kernel

theorem voigt_kinds :
    (∀ p ∈ [((1 : Int), (1 : Int)), (2, 2), (3, 3)],
      (keyOfVoigt p).isShear = false ∧ (keyOfVoigt p).calcType = .longitudinal) ∧
    (∀ p ∈ [((1 : Int), (2 : Int)), (1, 3), (2, 3)],
      (keyOfVoigt p).isShear = false ∧ (keyOfVoigt p).calcType = .offDiagonal) ∧
    (∀ p ∈ [((4 : Int), (4 : Int)), (5, 5), (6, 6), (1, 4), (4, 5)], (keyOfVoigt p).isShear = true) := by
  decide +kernel

section iso
variable {R : Type} [Field R]

/-- the isotropic tensor with longitudinal value `L` and off-diagonal value `O`, as 21 values -/
def cIso (L O : R) (k : Modulus) : R :=
  match isoClass k with
  | 0 => L
  | 1 => O
  | 2 => (L - O) / 2
  | _ => 0

theorem delta_mul_delta (a b c d : Fin 3) :
    delta (R := R) a b * delta c d = ((if a = b ∧ c = d then 1 else 0 : Nat) : R) := by
  unfold delta
  by_cases h1 : a = b <;> by_cases h2 : c = d <;> simp [h1, h2]

/-- `C_ijkl = O δ_ij δ_kl + (L − O)/2 (δ_ik δ_jl + δ_il δ_jk)` -/
theorem iso_tensor [CharZero R] (L O : R) (i j k l : Fin 3) :
    tensorOf (cIso L O) i j k l =
      O * (delta i j * delta k l) + (L - O) / 2 * (delta i k * delta j l + delta i l * delta j k) := by
  have h := isoClass_key4 i j k l
  rw [delta_mul_delta, delta_mul_delta, delta_mul_delta, ← Nat.cast_add]
  unfold tensorOf cIso
  generalize isoClass (key4 i j k l) = c at h
  split at h <;> obtain ⟨h1, h2⟩ := Prod.mk.inj h <;> rw [← h1, ← h2] <;> simp

theorem rotate_iso [CharZero R] (L O : R) (T : Mat3 R) (horth : ∀ a b, ∑ i, T i a * T i b = delta a b)
    (a b c d : Fin 3) : rotate T (tensorOf (cIso L O)) a b c d = tensorOf (cIso L O) a b c d := by
  have hC : tensorOf (cIso L O) = fun i j k l =>
      O * (delta i j * delta k l) + (L - O) / 2 * (delta i k * delta j l + delta i l * delta j k) := by
    funext i j k l; exact iso_tensor L O i j k l
  rw [iso_tensor, hC]
  exact rotate_delta T horth O ((L - O) / 2) a b c d

end iso

section isospec
variable {R : Type} [Field R] [CharZero R]

/-- a strain field with equal (non-zero) axial strains in every volume row -/
def IsoStrain (s : SField R) : Prop := ∀ r ∈ s, r 0 = r 1 ∧ r 1 = r 2 ∧ r 0 ≠ 0

/-- every normalised component is 1/3 -/
def third (s : SField R) : CField R := s.map fun _ => (1 : R) / 3

theorem component_iso {s : SField R} (hs : IsoStrain s) (i : Fin 3) : component s i = third s := by
  unfold component third
  apply List.map_congr_left
  intro r hr
  obtain ⟨h01, h12, h0⟩ := hs r hr
  have hi : r i = r 0 := by fin_cases i <;> simp [h01, h12]
  rw [hi]
  simp only [sum3, ← h12, ← h01]
  field_simp
  ring

theorem rotatedField_iso {s : SField R} (hs : IsoStrain s) (T : Mat3 R)
    (horth : ∀ a b, ∑ i, T i a * T i b = if a = b then 1 else 0) : rotatedField T s = s := by
  unfold rotatedField
  conv_rhs => rw [← List.map_id s]
  apply List.map_congr_left
  intro r hr
  obtain ⟨h01, h12, _⟩ := hs r hr
  funext a
  have haa := horth a a
  rw [Fin.sum_univ_three, if_pos rfl] at haa
  have hra : r a = r 0 := by fin_cases a <;> simp [h01, h12]
  rw [strainRotated_sq, id, hra, ← h12, ← h01]
  linear_combination (r 0) * haa

theorem create_nonshear_iso {s : SField R} (hs : IsoStrain s) {k : Modulus} (hk : k.isShear = false) :
    create s k = .nonshear k.calcType (third s) (third s) := by
  rw [create_nonshear s hk, component_iso hs, component_iso hs]

theorem cIso_nonshear (L O : R) {k : Modulus} (hk : k.isShear = false) :
    cIso L O k = if k.isLongitudinal then L else O := by
  unfold cIso isoClass Modulus.isOffDiagonal
  cases hl : k.isLongitudinal <;> simp [hk]

theorem calcType_nonshear {k : Modulus} (hk : k.isShear = false) :
    k.calcType = if k.isLongitudinal then .longitudinal else .offDiagonal := by
  unfold Modulus.calcType Modulus.isOffDiagonal
  cases hl : k.isLongitudinal <;> simp [hk]

/-- with equal axial strains every key gets the value of the isotropic tensor built from the longitudinal value `L`
and the off-diagonal value `O` -/
theorem iso_spec {isZero : R → Bool} (hz : ZeroSpec isZero) (eig : Eig R)
    (heig : ∀ k ∈ shearKeys, Contract (eig k).1 (eig k).2 (fictitiousStrain k))
    (base : Params R → R) {s : SField R} (hs : IsoStrain s) :
    ∀ k ∈ allKeys, spec isZero eig base 2 (create s k) =
      cIso (base (.nonshear .longitudinal (third s) (third s))) (base (.nonshear .offDiagonal (third s) (third s))) k := by
  refine rank_induction (fun k _ hns => ?_) fun k hks ih => ?_
  · rw [create_nonshear_iso hs hns, spec_nonshear, cIso_nonshear _ _ hns, calcType_nonshear hns]
    cases k.isLongitudinal <;> rfl
  · have hsh := (mem_shearKeys.1 hks).2
    have hc := heig k hks
    rw [create_shear s hsh, spec_fix hz eig base s hks, rotatedField_iso hs _ hc.orth']
    set L := base (.nonshear .longitudinal (third s) (third s))
    set O := base (.nonshear .offDiagonal (third s) (third s))
    rw [← shearValue_exact isZero hz k hks (cIso L O) (eig k).1 (eig k).2 hc]
    apply shearValue_congr
    · intro k' hk'
      have := modulusKeys_canon_rank hz hks hk'
      exact ih k' this.1 this.2
    · intro k' hk'
      have := modulusKeysRotated_canon_rank hz _ hsh hk'
      obtain ⟨a, b, rfl⟩ := mem_modulusKeysRotated isZero hz.zero _ hk'
      rw [ih _ this.1 this.2, rotatedLookup_diag, rotate_iso L O _ hc.orth']
      rfl

/-- the same by Voigt pair: c11 = c22 = c33 = `L`, c12 = c13 = c23 = `O`, c44 = c55 = c66 = `(L − O)/2`, the other twelve vanish -/
theorem iso_values {isZero : R → Bool} (hz : ZeroSpec isZero) (eig : Eig R)
    (heig : ∀ k ∈ shearKeys, Contract (eig k).1 (eig k).2 (fictitiousStrain k))
    (base : Params R → R) {s : SField R} (hs : IsoStrain s) :
    let v := fun p : Int × Int => spec isZero eig base 2 (create s (keyOfVoigt p))
    let L := base (.nonshear .longitudinal (third s) (third s))
    let O := base (.nonshear .offDiagonal (third s) (third s))
    (∀ p ∈ [((1 : Int), (1 : Int)), (2, 2), (3, 3)], v p = L) ∧ (∀ p ∈ [((1 : Int), (2 : Int)), (1, 3), (2, 3)], v p = O) ∧
    (∀ p ∈ [((4 : Int), (4 : Int)), (5, 5), (6, 6)], v p = (L - O) / 2) ∧
    ∀ p ∈ [((1 : Int), (4 : Int)), (1, 5), (1, 6), (2, 4), (2, 5), (2, 6), (3, 4), (3, 5), (3, 6), (4, 5), (4, 6), (5, 6)],
      v p = 0 := by
  intro v L O
  obtain ⟨hL, hO, hS, hZ⟩ := isoClass_voigt
  have hv : ∀ (p : Int × Int) (n : Nat), p ∈ keys21 ∧ isoClass (keyOfVoigt p) = n →
      v p = match n with | 0 => L | 1 => O | 2 => (L - O) / 2 | _ => 0 := fun p n h => by
    show spec isZero eig base 2 (create s (keyOfVoigt p)) = _
    rw [iso_spec hz eig heig base hs _ (List.mem_map.mpr ⟨p, h.1, rfl⟩), cIso, h.2]
  exact ⟨fun p hp => hv p 0 (hL p hp), fun p hp => hv p 1 (hO p hp), fun p hp => hv p 2 (hS p hp),
    fun p hp => hv p 3 (hZ p hp)⟩

end isospec

end Cij.Tasks
