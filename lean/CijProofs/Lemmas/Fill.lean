/-
  Lemmas about the model of `fill_cij` (`CijModel/Fill.lean`) — no property statements here.

  * `dot`/`axpy` algebra on lists (a missing entry is 0);
  * `kerWitness` is SOUND and COMPLETE: it returns a non-zero kernel vector iff one exists — so the model's
    "rank < 21" is exactly "the stacked system has a non-trivial kernel" (no numerical threshold);
  * the checked normal equations make the model's solution the exact least-squares solution (`lstsq_minimizes`),
    unique when there is no kernel (`lstsq_unique`), equal to any exactly consistent tensor (`lstsq_consistent`),
    and independent of the order of the equations (`lstsq_perm_invariant`);
  * the decision stage (`verdict`) case by case; `fillWith` in terms of the stages;
  * meaning of the stacked rows; dropping; lookup.
-/
import Mathlib.Algebra.Order.Field.Basic
import Mathlib.Tactic.Ring
import Mathlib.Tactic.Linarith
import Mathlib.Tactic.FieldSimp
import Mathlib.Tactic.LinearCombination
import Mathlib.Data.List.Forall2
import Mathlib.Data.List.GetD
import CijModel.Fill

set_option linter.unusedSectionVars false
namespace Cij.Fill
variable {α : Type} [Field α] [DecidableEq α]

/-! ### dot / axpy -/
@[simp] theorem dot_nil_left (v : List α) : dot ([] : List α) v = 0 := by simp [dot]
@[simp] theorem dot_nil_right (u : List α) : dot u ([] : List α) = 0 := by cases u <;> simp [dot]
@[simp] theorem dot_cons (a b : α) (u v : List α) : dot (a :: u) (b :: v) = a * b + dot u v := by simp [dot]

theorem dot_comm (u v : List α) : dot u v = dot v u := by
  induction u generalizing v with
  | nil => simp
  | cons a u ih => cases v with
    | nil => simp
    | cons b v => simp [ih v, mul_comm]

theorem dot_axpy (k : α) (u v w : List α) : dot (axpy k u v) w = dot v w + k * dot u w := by
  induction u generalizing v w with
  | nil => simp [axpy]
  | cons a u ih =>
    cases v with
    | nil => cases w with
      | nil => simp
      | cons c w => simp [axpy, ih]; ring
    | cons b v => cases w with
      | nil => simp
      | cons c w => simp [axpy, ih]; ring

theorem dot_head_tail (s : List α) (v0 : α) (w : List α) : dot s (v0 :: w) = head0 s * v0 + dot s.tail w := by
  cases s <;> simp [head0]

theorem dot_zeros (u : List α) (n : Nat) : dot u (List.replicate n 0) = 0 := by
  induction u generalizing n with
  | nil => simp
  | cons a u ih => cases n <;> simp [List.replicate, ih]

theorem dot_all_zero (u v : List α) (h : ∀ x ∈ v, x = 0) : dot u v = 0 := by
  induction u generalizing v with
  | nil => simp
  | cons a u ih => cases v with
    | nil => simp
    | cons b v =>
      have hb : b = 0 := h b (by simp)
      simp [hb, ih v (fun x hx => h x (by simp [hx]))]

/-! ### kerWitness: sound and complete -/

theorem kerWitness_sound : ∀ (n : Nat) (rows : List (List α)) (w : List α), kerWitness n rows = some w →
    w.length = n ∧ (∃ x ∈ w, x ≠ 0) ∧ ∀ r ∈ rows, dot r w = 0 := by
  intro n
  induction n with
  | zero => intro rows w h; simp [kerWitness] at h
  | succ n ih =>
    intro rows w h
    unfold kerWitness at h
    split at h
    · -- no pivot: e₀
      rename_i hfind
      injection h with h; subst h
      refine ⟨by simp, ⟨1, by simp, one_ne_zero⟩, ?_⟩
      intro r hr
      have : ¬ (head0 r ≠ 0) := by
        have := List.find?_eq_none.mp hfind r hr
        simpa using this
      rw [dot_head_tail, dot_zeros]; simp at this; simp [this]
    · rename_i p hfind
      have hp : head0 p ≠ 0 := by simpa using List.find?_some hfind
      have hpm : p ∈ rows := List.mem_of_find?_eq_some hfind
      split at h
      · exact absurd h (by simp)
      · rename_i w' hw'
        injection h with h; subst h
        obtain ⟨hl, hne, hz⟩ := ih _ _ hw'
        refine ⟨by simp [hl], ?_, ?_⟩
        · obtain ⟨x, hx, hx0⟩ := hne; exact ⟨x, by simp [hx], hx0⟩
        · intro r hr
          have := hz _ (List.mem_map_of_mem (f := fun s => axpy (-(head0 s / head0 p)) p.tail s.tail) hr)
          rw [dot_axpy] at this
          rw [dot_head_tail]
          field_simp
          field_simp at this
          linear_combination this

theorem kerWitness_complete : ∀ (n : Nat) (rows : List (List α)), kerWitness n rows = none →
    ∀ v : List α, v.length = n → (∀ r ∈ rows, dot r v = 0) → ∀ x ∈ v, x = 0 := by
  intro n
  induction n with
  | zero => intro rows _ v hv _ x hx; simp at hv; subst hv; simp at hx
  | succ n ih =>
    intro rows h v hv hrows
    unfold kerWitness at h
    split at h
    · exact absurd h (by simp)
    · rename_i p hfind
      have hp : head0 p ≠ 0 := by simpa using List.find?_some hfind
      have hpm : p ∈ rows := List.mem_of_find?_eq_some hfind
      split at h
      · rename_i hw'
        cases v with
        | nil => simp at hv
        | cons v0 w =>
          have hwl : w.length = n := by simpa using hv
          have hpv := hrows p hpm
          rw [dot_head_tail] at hpv
          have hw0 : ∀ x ∈ w, x = 0 := by
            apply ih _ hw' w hwl
            intro r' hr'
            obtain ⟨s, hs, rfl⟩ := List.mem_map.mp hr'
            have hsv := hrows s hs
            rw [dot_head_tail] at hsv
            rw [dot_axpy]
            field_simp
            linear_combination (head0 p) * hsv - (head0 s) * hpv
          have hd : dot p.tail w = 0 := dot_all_zero _ _ hw0
          rw [hd, add_zero] at hpv
          have hv0 : v0 = 0 := (mul_eq_zero.mp hpv).resolve_left hp
          intro x hx
          rcases List.mem_cons.mp hx with rfl | hx
          · exact hv0
          · exact hw0 x hx
      · exact absurd h (by simp)

theorem kerWitness_isSome_iff {n : Nat} {A : List (List α)} :
    (kerWitness n A).isSome = true ↔ ∃ v : List α, v.length = n ∧ (∃ x ∈ v, x ≠ 0) ∧ ∀ r ∈ A, dot r v = 0 := by
  constructor
  · intro hk
    obtain ⟨w, hw⟩ := Option.isSome_iff_exists.mp hk
    exact ⟨w, kerWitness_sound _ _ _ hw⟩
  · rintro ⟨v, hl, ⟨x, hx, hx0⟩, hz⟩
    by_contra hnone
    exact hx0 (kerWitness_complete n A (by simpa using hnone) v hl hz x hx)

/-! ### least squares: the checked normal equations characterise the solution -/

theorem dot_all_zero_left (u v : List α) (h : ∀ x ∈ u, x = 0) : dot u v = 0 := by
  rw [dot_comm]; exact dot_all_zero v u h

theorem dot_tmulVec (A : List (List α)) (r d : List α) :
    dot (tmulVec A r) d = dot r (A.map fun a => dot a d) := by
  induction A generalizing r with
  | nil => simp [tmulVec]
  | cons a A ih =>
    cases r with
    | nil => simp [tmulVec]
    | cons ri r => simp [tmulVec, dot_axpy, ih]; ring

/-- what the model's check `normalEqHold` gives: `(A d)ᵀ (A x − b) = 0` for every direction `d` -/
theorem normalEq_weak {A : List (List α)} {b x : List α} (h : normalEqHold A b x = true) (d : List α) :
    dot (residualVec A b x) (A.map fun a => dot a d) = 0 := by
  rw [← dot_tmulVec]
  apply dot_all_zero_left
  simpa [normalEqHold] using h

/-- `y − x` as a list -/
def vsub (y x : List α) : List α := axpy (-1) x y

theorem dot_vsub (a y x : List α) : dot a (vsub y x) = dot a y - dot a x := by
  rw [vsub, dot_comm, dot_axpy, dot_comm y a, dot_comm x a]; ring

theorem length_axpy (k : α) (u v : List α) : (axpy k u v).length = max u.length v.length := by
  induction u generalizing v with
  | nil => simp [axpy]
  | cons a u ih => cases v <;> simp [axpy, ih]

theorem getD_axpy (k : α) (u v : List α) (i : Nat) : (axpy k u v).getD i 0 = v.getD i 0 + k * u.getD i 0 := by
  induction u generalizing v i with
  | nil => simp [axpy]
  | cons a u ih =>
    cases v with
    | nil => cases i with
      | zero => simp [axpy]
      | succ i => have := ih [] i; simp at this; simp [axpy, this]
    | cons b v => cases i with
      | zero => simp [axpy]
      | succ i => have := ih v i; simp at this; simp [axpy, this]

/-- residuals of two candidates differ by `A (y − x)`; hence the expansion of the sum of squares -/
theorem sumSq_residual_expand (A : List (List α)) (b x y : List α) (hb : b.length = A.length) :
    sumSq (residualVec A b y) = sumSq (residualVec A b x)
      + 2 * dot (residualVec A b x) (A.map fun a => dot a (vsub y x))
      + sumSq (A.map fun a => dot a (vsub y x)) := by
  induction A generalizing b with
  | nil => simp [sumSq, residualVec]
  | cons a A ih =>
    cases b with
    | nil => simp at hb
    | cons β b =>
      have hb' : b.length = A.length := by simpa using hb
      have := ih b hb'
      simp only [sumSq, residualVec, List.zipWith_cons_cons, List.map_cons, dot_cons] at this ⊢
      rw [dot_vsub]
      linear_combination this

end Cij.Fill

namespace Cij.Fill
variable {α : Type} [Field α] [LinearOrder α] [IsStrictOrderedRing α]

theorem sumSq_nonneg (u : List α) : 0 ≤ sumSq u := by
  induction u with
  | nil => simp [sumSq]
  | cons a u ih => simp only [sumSq, dot_cons] at ih ⊢; nlinarith [mul_self_nonneg a]

theorem le_sumSq_of_mem (u : List α) (x : α) (hx : x ∈ u) : x * x ≤ sumSq u := by
  induction u with
  | nil => simp at hx
  | cons a u ih =>
    simp only [sumSq, dot_cons]
    rcases List.mem_cons.mp hx with rfl | h
    · have := sumSq_nonneg u; simp only [sumSq] at this; linarith
    · have := ih h; simp only [sumSq] at this; nlinarith [mul_self_nonneg a]

theorem sumSq_eq_zero {u : List α} (h : sumSq u = 0) : ∀ x ∈ u, x = 0 := by
  intro x hx
  have h1 := le_sumSq_of_mem u x hx
  rw [h] at h1
  exact mul_self_eq_zero.mp (le_antisymm h1 (mul_self_nonneg x))

/-- the checked solution minimises the sum of squared residuals (exact least squares) -/
theorem lstsq_minimizes {A : List (List α)} {b x : List α} (hb : b.length = A.length)
    (h : normalEqHold A b x = true) (y : List α) :
    sumSq (residualVec A b x) ≤ sumSq (residualVec A b y) := by
  rw [sumSq_residual_expand A b x y hb, normalEq_weak h]
  have := sumSq_nonneg (A.map fun a => dot a (vsub y x))
  linarith

/-- weak normal equations: `(A d)ᵀ (A x − b) = 0` for every direction `d` -/
def WeakNE (A : List (List α)) (b x : List α) : Prop :=
  ∀ d : List α, dot (residualVec A b x) (A.map fun a => dot a d) = 0

theorem length_vsub {n : Nat} {x y : List α} (hxl : x.length = n) (hyl : y.length = n) : (vsub y x).length = n := by
  simp [vsub, length_axpy, hxl, hyl]

theorem eq_of_vsub_zero {n : Nat} {x y : List α} (hxl : x.length = n) (hyl : y.length = n)
    (h : ∀ e ∈ vsub y x, e = 0) : x = y := by
  apply List.ext_getElem (by rw [hxl, hyl])
  intro i h1 h2
  have hi : i < (vsub y x).length := by rw [length_vsub hxl hyl, ← hxl]; exact h1
  have g := getD_axpy (-1 : α) x y i
  rw [← vsub, List.getD_eq_getElem _ _ hi, h _ (List.getElem_mem hi), List.getD_eq_getElem _ _ h1,
    List.getD_eq_getElem _ _ h2] at g
  linarith

/-- both attain the minimum, so the quadratic term `‖A (y − x)‖²` of the expansion vanishes -/
theorem weakNE_diff {A : List (List α)} {b x y : List α} (hb : b.length = A.length) (hx : WeakNE A b x)
    (hy : WeakNE A b y) : ∀ r ∈ A, dot r (vsub y x) = 0 := by
  have e1 := sumSq_residual_expand A b x y hb
  have e2 := sumSq_residual_expand A b y x hb
  rw [hx (vsub y x)] at e1; rw [hy (vsub x y)] at e2
  have n1 := sumSq_nonneg (A.map fun a => dot a (vsub y x))
  have n2 := sumSq_nonneg (A.map fun a => dot a (vsub x y))
  have hz : sumSq (A.map fun a => dot a (vsub y x)) = 0 := by linarith
  exact fun r hr => sumSq_eq_zero hz _ (List.mem_map_of_mem hr)

theorem weakNE_unique {n : Nat} {A : List (List α)} {b x y : List α} (hb : b.length = A.length)
    (hker : kerWitness n A = none) (hx : WeakNE A b x) (hy : WeakNE A b y)
    (hxl : x.length = n) (hyl : y.length = n) : x = y :=
  eq_of_vsub_zero hxl hyl
    (kerWitness_complete n A hker (vsub y x) (length_vsub hxl hyl) (weakNE_diff hb hx hy))

theorem lstsq_unique {n : Nat} {A : List (List α)} {b x y : List α} (hb : b.length = A.length)
    (hker : kerWitness n A = none) (hx : normalEqHold A b x = true) (hy : normalEqHold A b y = true)
    (hxl : x.length = n) (hyl : y.length = n) : x = y :=
  weakNE_unique hb hker (normalEq_weak hx) (normalEq_weak hy) hxl hyl

/-- consistent data + no kernel ⇒ the checked solution IS the consistent tensor -/
theorem lstsq_consistent {n : Nat} {A : List (List α)} {b x t : List α} (hb : b.length = A.length)
    (hker : kerWitness n A = none) (hx : normalEqHold A b x = true) (hxl : x.length = n) (htl : t.length = n)
    (ht : ∀ e ∈ residualVec A b t, e = 0) : x = t := by
  apply lstsq_unique hb hker hx _ hxl htl
  -- `‖Aᵀ r‖² = r · (A Aᵀ r)` vanishes with the residual `r`
  simp only [normalEqHold, List.all_eq_true, decide_eq_true_eq]
  apply sumSq_eq_zero
  rw [sumSq, dot_tmulVec]
  exact dot_all_zero_left _ _ ht


/-! ### the decision stage -/

theorem verdict_refuseRank_iff (P : Params α) (s : Solved α) :
    verdict P s = .error .refuseRank ↔ (s.rankDeficient = true ∧ P.ignoreRank = false) := by
  unfold verdict
  cases s.rankDeficient <;> cases P.ignoreRank <;> simp <;> split <;> simp

theorem verdict_refuseResidual_iff (P : Params α) (s : Solved α) :
    verdict P s = .error .refuseResidual ↔
      (¬(s.rankDeficient = true ∧ P.ignoreRank = false)) ∧ (∃ r ∈ s.residuals, P.residualAtol < r) ∧ P.ignoreResiduals = false := by
  unfold verdict
  cases s.rankDeficient <;> cases P.ignoreRank <;> cases P.ignoreResiduals <;> simp

theorem verdict_ok_iff (P : Params α) (s : Solved α) :
    verdict P s = .ok () ↔
      (¬(s.rankDeficient = true ∧ P.ignoreRank = false)) ∧ ¬((∃ r ∈ s.residuals, P.residualAtol < r) ∧ P.ignoreResiduals = false) := by
  unfold verdict
  cases s.rankDeficient <;> cases P.ignoreRank <;> cases P.ignoreResiduals <;> simp

theorem verdict_cases (P : Params α) (s : Solved α) :
    verdict P s = .ok () ∨ verdict P s = .error .refuseRank ∨ verdict P s = .error .refuseResidual := by
  unfold verdict
  split
  · exact Or.inr (Or.inl rfl)
  · split
    · exact Or.inr (Or.inr rfl)
    · exact Or.inl rfl

theorem solveStage_eq_some {A : List (List α)} {bs : List (List α)} {s : Solved α} (hs : solveStage A bs = some s) :
    bs.mapM (fun b => lstsq nsym A b) = some s.xs ∧ s.rankDeficient = (kerWitness nsym A).isSome ∧
    s.ssq = List.zipWith (fun b x => sumSq (residualVec A b x)) bs s.xs := by
  unfold solveStage at hs
  cases hm : List.mapM (fun b => lstsq nsym A b) bs with
  | none => simp [hm] at hs
  | some xs =>
    simp [hm] at hs
    subst hs
    exact ⟨rfl, rfl, rfl⟩

theorem rankDeficient_iff {A : List (List α)} {bs : List (List α)} {s : Solved α} (h : solveStage A bs = some s) :
    s.rankDeficient = true ↔ ∃ v : List α, v.length = nsym ∧ (∃ x ∈ v, x ≠ 0) ∧ ∀ r ∈ A, dot r v = 0 := by
  rw [(solveStage_eq_some h).2.1, kerWitness_isSome_iff]


/-! ### `fillWith` in terms of the solve and decision stages -/

theorem fillWith_of_solved {rel : Rows} {sel : List (Option Nat)} {P : Params α} {t : Table α} {s : Solved α}
    (hsel : (selIdxOf sel).isEmpty = false)
    (hs : solveStage (stackA (α := α) (selIdxOf sel) rel)
            ((List.range (nRows t)).map fun k => stackB (selColsOf sel t) rel k) = some s) :
    fillWith rel sel P t = match verdict P s with
      | .error e => .error e
      | .ok () => .ok (finish P t s.xs) := by
  simp only [fillWith, hsel, hs, Bool.false_eq_true, if_false]
  rfl

/-- refused for rank (flag off) ⇔ some non-zero tensor satisfies the homogeneous relations and vanishes on every
    supplied component, i.e. two relation-compatible tensors agree on the supplied components yet differ -/
theorem fillWith_refuseRank_iff {rel : Rows} {sel : List (Option Nat)} {P : Params α} {t : Table α} {s : Solved α}
    (hsel : (selIdxOf sel).isEmpty = false)
    (hs : solveStage (stackA (α := α) (selIdxOf sel) rel)
            ((List.range (nRows t)).map fun k => stackB (selColsOf sel t) rel k) = some s) :
    fillWith rel sel P t = .error .refuseRank ↔
      (P.ignoreRank = false ∧ ∃ v : List α, v.length = nsym ∧ (∃ x ∈ v, x ≠ 0) ∧
        ∀ r ∈ stackA (α := α) (selIdxOf sel) rel, dot r v = 0) := by
  rw [fillWith_of_solved hsel hs, ← rankDeficient_iff hs]
  rcases verdict_cases P s with h | h | h
  · have := (verdict_refuseRank_iff P s).not.mp (by rw [h]; simp)
    rw [h]; simp only [reduceCtorEq, false_iff]; tauto
  · have := (verdict_refuseRank_iff P s).mp h
    rw [h]; simp only [true_iff]; tauto
  · have := (verdict_refuseRank_iff P s).not.mp (by rw [h]; simp)
    rw [h]; simp only [Except.error.injEq, reduceCtorEq, false_iff]; tauto

theorem fillWith_cases (rel : Rows) (sel : List (Option Nat)) (t : Table α) :
    (∃ e, e ≠ .refuseRank ∧ e ≠ .refuseResidual ∧ ∀ P : Params α, fillWith rel sel P t = .error e) ∨
    ∃ s : Solved α, ∀ P : Params α, fillWith rel sel P t = match verdict P s with
      | .error e => .error e
      | .ok () => .ok (finish P t s.xs) := by
  by_cases hsel : (selIdxOf sel).isEmpty = true
  · left
    by_cases hrel : rel.isEmpty = true
    · exact ⟨.linAlgError, by simp, by simp, fun P => by simp [fillWith, hsel, hrel]⟩
    · exact ⟨.indexError, by simp, by simp, fun P => by simp [fillWith, hsel, hrel]⟩
  · cases hs : solveStage (stackA (α := α) (selIdxOf sel) rel)
        ((List.range (nRows t)).map fun k => stackB (selColsOf sel t) rel k) with
    | none => exact Or.inl ⟨.solver, by simp, by simp, fun P => by simp [fillWith, hsel, hs]⟩
    | some s => exact Or.inr ⟨s, fun P => fillWith_of_solved (by simpa using hsel) hs⟩

/-- the flags only disable refusals: whatever is accepted with both flags off is accepted, with the same table,
    under any setting of the flags -/
theorem flags_only_disable {rel : Rows} {sel : List (Option Nat)} (P : Params α) (t out : Table α)
    (h : fillWith rel sel { P with ignoreRank := false, ignoreResiduals := false } t = .ok out) :
    fillWith rel sel P t = .ok out := by
  rcases fillWith_cases rel sel t with ⟨e, _, _, he⟩ | ⟨s, hs⟩
  · rw [he] at h; cases h
  · rw [hs] at h ⊢
    rcases verdict_cases { P with ignoreRank := false, ignoreResiduals := false } s with hv | hv | hv
    · have hok := (verdict_ok_iff _ s).mp hv
      simp only [and_true] at hok
      have : verdict P s = .ok () := (verdict_ok_iff P s).mpr ⟨fun hc => hok.1 hc.1, fun hc => hok.2 hc.1⟩
      rw [hv] at h; rw [this]
      simpa [finish] using h
    · rw [hv] at h; cases h
    · rw [hv] at h; cases h

/-- with `ignore_rank` the rank refusal never happens; with `ignore_residuals` the residual refusal never happens -/
theorem ignoreRank_never_refuseRank {rel : Rows} {sel : List (Option Nat)} (P : Params α) (t : Table α)
    (h : P.ignoreRank = true) : fillWith rel sel P t ≠ .error .refuseRank := by
  rcases fillWith_cases rel sel t with ⟨e, he1, _, he⟩ | ⟨s, hs⟩
  · rw [he]; exact fun h' => he1 (Except.error.inj h')
  · rw [hs]
    intro hc
    cases hv : verdict P s with
    | ok u => rw [hv] at hc; cases hc
    | error e =>
      rw [hv] at hc
      have he : e = .refuseRank := Except.error.inj hc
      have := (verdict_refuseRank_iff P s).mp (he ▸ hv)
      rw [h] at this; simp at this

theorem ignoreResiduals_never_refuseResidual {rel : Rows} {sel : List (Option Nat)} (P : Params α) (t : Table α)
    (h : P.ignoreResiduals = true) : fillWith rel sel P t ≠ .error .refuseResidual := by
  rcases fillWith_cases rel sel t with ⟨e, _, he2, he⟩ | ⟨s, hs⟩
  · rw [he]; exact fun h' => he2 (Except.error.inj h')
  · rw [hs]
    intro hc
    cases hv : verdict P s with
    | ok u => rw [hv] at hc; cases hc
    | error e =>
      rw [hv] at hc
      have he : e = .refuseResidual := Except.error.inj hc
      have := (verdict_refuseResidual_iff P s).mp (he ▸ hv)
      rw [h] at this; simp at this

/-! ### acceptance bounds -/

theorem mem_zipWith_of_mem_zip {β γ δ : Type} (f : β → γ → δ) {l1 : List β} {l2 : List γ} {p : β × γ}
    (h : p ∈ List.zip l1 l2) : f p.1 p.2 ∈ List.zipWith f l1 l2 := by
  rw [← List.map_uncurry_zip_eq_zipWith]
  exact List.mem_map.2 ⟨p, h, rfl⟩

/-- when the table was accepted with the residual flag off — determined or not, any number of stacked rows — every
    entry `e` of every residual vector `A x − b` has `e² ≤ residual_atol` -/
theorem accept_residual_entries {A : List (List α)} {bs : List (List α)} {s : Solved α} {P : Params α}
    (hs : solveStage A bs = some s) (hv : verdict P s = .ok ()) (hflag : P.ignoreResiduals = false) :
    ∀ p ∈ List.zip bs s.xs, ∀ e ∈ residualVec A p.1 p.2, e * e ≤ P.residualAtol := by
  have hok := (verdict_ok_iff P s).mp hv
  have hres : s.residuals = s.ssq := rfl
  have hall : ∀ r ∈ s.ssq, r ≤ P.residualAtol := by
    intro r hr
    by_contra hc
    exact hok.2 ⟨⟨r, by rw [hres]; exact hr, not_le.mp hc⟩, hflag⟩
  intro p hp e he
  have hmem : sumSq (residualVec A p.1 p.2) ∈ s.ssq := by
    rw [(solveStage_eq_some hs).2.2]; exact mem_zipWith_of_mem_zip _ hp
  exact le_trans (le_sumSq_of_mem _ e he) (hall _ hmem)


/-! ### what the stacked rows mean -/

theorem dot_indicator (i : Nat) : ∀ (n s : Nat) (v : List α),
    dot ((List.range' s n).map fun j => if j = i then (1 : α) else 0) v
      = if s ≤ i ∧ i < s + n then v.getD (i - s) 0 else 0 := by
  intro n
  induction n with
  | zero => intro s v; simp
  | succ n ih =>
    intro s v
    cases v with
    | nil => simp
    | cons b v =>
      simp only [List.range'_succ, List.map_cons, dot_cons, ih (s + 1) v]
      by_cases h1 : s = i
      · subst h1; simp
      · by_cases h2 : s < i
        · have e : i - s = (i - (s + 1)) + 1 := by omega
          have c1 : (s + 1 ≤ i ∧ i < s + 1 + n) ↔ (s ≤ i ∧ i < s + (n + 1)) := by omega
          simp only [h1, if_false, zero_mul, zero_add, c1]
          split
          · rw [e]; simp
          · rfl
        · have c1 : ¬(s + 1 ≤ i ∧ i < s + 1 + n) := by omega
          have c2 : ¬(s ≤ i ∧ i < s + (n + 1)) := by omega
          simp [h1, c1, c2]

theorem dot_selectorRow (i : Nat) (hi : i < nsym) (v : List α) : dot (selectorRow (α := α) i) v = v.getD i 0 := by
  have := dot_indicator (α := α) i nsym 0 v
  simp only [List.range_eq_range', selectorRow] at this ⊢
  rw [this]; simp [hi]

/-- the stacked system: vanishing on it = vanishing on the supplied components and satisfying the homogeneous relations -/
theorem stackA_kernel_iff (sel : List Nat) (rel : Rows) (hsel : ∀ i ∈ sel, i < nsym) (v : List α) :
    (∀ r ∈ stackA (α := α) sel rel, dot r v = 0) ↔
      (∀ i ∈ sel, v.getD i 0 = 0) ∧ (∀ r ∈ rel, dot (castRow (α := α) r) v = 0) := by
  simp only [stackA, List.mem_append, List.mem_map]
  constructor
  · intro h
    refine ⟨fun i hi => ?_, fun r hr => h _ (Or.inr ⟨r, hr, rfl⟩)⟩
    rw [← dot_selectorRow i (hsel i hi)]; exact h _ (Or.inl ⟨i, hi, rfl⟩)
  · rintro ⟨h1, h2⟩ r (⟨i, hi, rfl⟩ | ⟨q, hq, rfl⟩)
    · rw [dot_selectorRow i (hsel i hi)]; exact h1 i hi
    · exact h2 q hq

/-- the residual vector of the stacked system: supplied-value displacements, then relation violations -/
theorem residualVec_stack (sel : List Nat) (selCols : List (List α)) (rel : Rows) (k : Nat) (x : List α)
    (hlen : sel.length = selCols.length) (hidx : ∀ i ∈ sel, i < nsym) :
    residualVec (stackA (α := α) sel rel) (stackB selCols rel k) x =
      List.zipWith (fun i c => x.getD i 0 - c.getD k 0) sel selCols ++
      rel.map (fun r => dot (castRow (α := α) r) x - (Int.cast r.rhs : α) / (Int.cast (Int.ofNat r.den) : α)) := by
  have h1 : ∀ (sel : List Nat) (selCols : List (List α)), (∀ i ∈ sel, i < nsym) →
      List.zipWith (fun r bi => dot r x - bi) (sel.map (selectorRow (α := α))) (selCols.map fun c => c.getD k 0)
        = List.zipWith (fun i c => x.getD i 0 - c.getD k 0) sel selCols := by
    intro sel
    induction sel with
    | nil => intro selCols _; simp
    | cons i sel ih =>
      intro selCols hi
      cases selCols with
      | nil => simp
      | cons c selCols =>
        simp only [List.map_cons, List.zipWith_cons_cons]
        rw [dot_selectorRow i (hi i (by simp)), ih selCols (fun j hj => hi j (by simp [hj]))]
  have h2 : ∀ rel : Rows,
      List.zipWith (fun r bi => dot r x - bi) (rel.map (castRow (α := α)))
          (rel.map fun r => (Int.cast r.rhs : α) / (Int.cast (Int.ofNat r.den) : α))
        = rel.map (fun r => dot (castRow (α := α) r) x - (Int.cast r.rhs : α) / (Int.cast (Int.ofNat r.den) : α)) := by
    intro rel
    induction rel with
    | nil => simp
    | cons r rel ih => simp only [List.map_cons, List.zipWith_cons_cons, ih]
  unfold residualVec stackA stackB
  rw [List.zipWith_append (by simp [hlen]), h1 sel selCols hidx, h2 rel]


/-! ### consistent data are reproduced -/

theorem mapM_eq_some_iff {β γ : Type} {f : β → Option γ} : ∀ {l : List β} {ys : List γ},
    l.mapM f = some ys ↔ List.Forall₂ (fun b y => f b = some y) l ys
  | [], ys => by simp [eq_comm]
  | a :: l, ys => by
    rw [List.mapM_cons, List.forall₂_cons_left_iff]
    cases hfa : f a with
    | none => simp
    | some y =>
      cases hl : l.mapM f with
      | none => simp [← mapM_eq_some_iff, hl]
      | some ys' => simp [← mapM_eq_some_iff, hl, eq_comm]

theorem lstsq_some {n : Nat} {A : List (List α)} {b x : List α} (h : lstsq n A b = some x) :
    normalEqHold A b x = true ∧ x.length = n := by
  unfold lstsq at h
  simp only at h
  split at h
  · rename_i hne
    injection h with h; subst h
    exact ⟨hne, by simp⟩
  · simp at h

theorem solveStage_xs {A : List (List α)} {bs : List (List α)} {s : Solved α} (hs : solveStage A bs = some s) :
    ∀ p ∈ List.zip bs s.xs, normalEqHold A p.1 p.2 = true ∧ p.2.length = nsym :=
  fun _ hp => lstsq_some (List.forall₂_zip (mapM_eq_some_iff.1 (solveStage_eq_some hs).1) hp)

theorem solveStage_xs_length {A : List (List α)} {bs : List (List α)} {s : Solved α} (hs : solveStage A bs = some s) :
    ∀ x ∈ s.xs, x.length = nsym := by
  have hall := mapM_eq_some_iff.1 (solveStage_eq_some hs).1
  clear hs
  generalize s.xs = xs at hall
  induction hall with
  | nil => simp
  | cons h1 _ ih => exact List.forall_mem_cons.2 ⟨(lstsq_some h1).2, ih⟩

/-- every volume row: a tensor `t` that reproduces the supplied values and satisfies the relations exactly IS the
    solution the model writes back, whenever the stacked system has no kernel -/
theorem solveStage_consistent {A : List (List α)} {bs : List (List α)} {s : Solved α}
    (hs : solveStage A bs = some s) (hfull : s.rankDeficient = false) :
    ∀ p ∈ List.zip bs s.xs, p.1.length = A.length → ∀ t : List α, t.length = nsym →
      (∀ e ∈ residualVec A p.1 t, e = 0) → p.2 = t := by
  intro p hp hb t htl ht
  obtain ⟨hne, hxl⟩ := solveStage_xs hs p hp
  have hk : kerWitness nsym A = none := by
    rw [(solveStage_eq_some hs).2.1] at hfull
    simpa using hfull
  exact lstsq_consistent hb hk hne hxl htl ht

/-! ### dropping -/

theorem allClose0_iff (a : α) (col : List α) : allClose0 a col = true ↔ ∀ x ∈ col, |x| ≤ a := by
  simp only [allClose0, List.all_eq_true, decide_eq_true_eq, abs_le]
  constructor
  · intro h x hx; have := h x hx; constructor <;> linarith [this.1, this.2]
  · intro h x hx; have := h x hx; constructor <;> linarith [this.1, this.2]

/-- the output keeps exactly the columns of the written-back table that are not modulus-like, or exceed `drop_atol`
    somewhere -/
theorem mem_finish_iff (P : Params α) (t : Table α) (xs : List (List α)) (c : String × List α) :
    c ∈ finish P t xs ↔ c ∈ writeAll t xs ∧ (matchesCdd c.1.toLower.toList = false ∨ ∃ x ∈ c.2, P.dropAtol < |x|) := by
  have hclose : allClose0 P.dropAtol c.2 = false ↔ ∃ x ∈ c.2, P.dropAtol < |x| := by
    rw [← Bool.not_eq_true, allClose0_iff]
    simp only [not_forall, not_le, exists_prop]
  simp only [finish, List.mem_filter, Bool.not_eq_true', Bool.and_eq_false_iff, hclose]

theorem getD_selectorRow (j i : Nat) (hi : i < nsym) :
    (selectorRow (α := α) j).getD i 0 = if i = j then 1 else 0 := by
  simp [selectorRow, List.getD_eq_getElem?_getD, List.getElem?_map, List.getElem?_range hi]

theorem length_selectorRow (j : Nat) : (selectorRow (α := α) j).length = nsym := by simp [selectorRow]

theorem stackA_rows_le (sel : List Nat) (rel : Rows) (hrel : ∀ r ∈ rel, r.coeffs.length ≤ nsym) :
    ∀ a ∈ stackA (α := α) sel rel, a.length ≤ nsym := by
  intro a ha
  unfold stackA at ha
  rcases List.mem_append.1 ha with ha | ha
  · obtain ⟨i, _, rfl⟩ := List.mem_map.1 ha
    exact le_of_eq (length_selectorRow i)
  · obtain ⟨r, hr, rfl⟩ := List.mem_map.1 ha
    simpa [castRow] using hrel r hr

/-! ### order of the equations (hence of the columns) is irrelevant -/

theorem weak_as_sum (A : List (List α)) (b x : List α) (f : List α → α) :
    dot (residualVec A b x) (A.map f) = ((List.zip A b).map fun p => (dot p.1 x - p.2) * f p.1).sum := by
  induction A generalizing b with
  | nil => simp [residualVec]
  | cons a A ih =>
    cases b with
    | nil => simp [residualVec]
    | cons β b =>
      have := ih b
      simp only [residualVec] at this
      simp [residualVec, this]

/-- the weak normal equations only depend on the multiset of (row, right-hand side) pairs -/
theorem weakNE_perm {A A' : List (List α)} {b b' x : List α} (hp : (List.zip A b).Perm (List.zip A' b'))
    (h : WeakNE A b x) : WeakNE A' b' x := by
  intro d
  have := h d
  rw [weak_as_sum] at this ⊢
  rw [← this]
  exact ((hp.map _).sum_eq).symm

/-- rank refusal only depends on the SET of stacked rows -/
theorem kerWitness_isSome_congr {n : Nat} {A A' : List (List α)} (h : ∀ r, r ∈ A ↔ r ∈ A') :
    (kerWitness n A).isSome = (kerWitness n A').isSome := by
  rw [Bool.eq_iff_iff, kerWitness_isSome_iff, kerWitness_isSome_iff]
  simp only [h]

/-- permuting the equations (columns of the table in another order) does not change the solution of a determined
    system: both checked solutions coincide -/
theorem lstsq_perm_invariant {n : Nat} {A A' : List (List α)} {b b' x x' : List α}
    (hb : b.length = A.length) (hp : (List.zip A b).Perm (List.zip A' b'))
    (hker : kerWitness n A = none) (hx : normalEqHold A b x = true) (hx' : normalEqHold A' b' x' = true)
    (hxl : x.length = n) (hxl' : x'.length = n) : x = x' :=
  weakNE_unique hb hker (normalEq_weak hx) (weakNE_perm hp.symm (normalEq_weak hx')) hxl hxl'

end Cij.Fill

/-! ### lookup of the relations (no arithmetic) -/
namespace Cij.Fill

/-- letter case is irrelevant: only the lower-cased names are looked at -/
theorem recognise_case (names names' : List String) (h : names.map String.toLower = names'.map String.toLower) :
    recognise names = recognise names' := by simp [recognise, h]

/-- writing back never touches a column whose lower-cased name is not a symbol -/
theorem writeBack_passthrough {α : Type} (t : Table α) (sym : String) (col : List α) (c : String × List α)
    (hc : c ∈ t) (hne : c.1.toLower ≠ sym) : c ∈ writeBack t sym col := by
  unfold writeBack
  split
  · rename_i hit hfind
    have hh : hit.1.toLower = sym := by simpa using List.find?_some hfind
    refine List.mem_map.mpr ⟨c, hc, ?_⟩
    have : (c.1 == hit.1) = false := by
      simp only [beq_eq_false_iff_ne, ne_eq]
      intro e; rw [e] at hne; exact hne hh
    simp [this]
  · exact List.mem_append_left _ hc


theorem writeAll_passthrough {α : Type} [OfNat α 0] (t : Table α) (xs : List (List α)) (c : String × List α)
    (hc : c ∈ t) (hne : c.1.toLower ∉ symbolNames) : c ∈ writeAll t xs := by
  unfold writeAll
  have key : ∀ (l : List (Nat × String)) (acc : Table α), (∀ p ∈ l, p.2 ∈ symbolNames) → c ∈ acc →
      c ∈ l.foldl (fun acc p => writeBack acc p.2 (xs.map fun x => x.getD p.1 0)) acc := by
    intro l
    induction l with
    | nil => intro acc _ h; exact h
    | cons p l ih =>
      intro acc hl h
      simp only [List.foldl_cons]
      apply ih
      · intro q hq; exact hl q (List.mem_cons_of_mem _ hq)
      · apply writeBack_passthrough _ _ _ _ h
        intro e; exact hne (e ▸ hl p (List.mem_cons_self))
  exact key _ _ (fun p hp => (List.of_mem_zip hp).2) hc


theorem symbolNames_match : ∀ s ∈ symbolNames, matchesCdd s.toList = true := by decide +kernel

theorem packaged_error {sys : String} {e : Err} (h : packaged sys = .error e) : e = .fileNotFound := by
  unfold packaged at h
  split at h
  · cases h
  · exact (Except.error.inj h).symm

theorem resolve_ok {env : Env} {sys : String} {rel : Rows} (h : resolve env sys = .ok rel) :
    packaged sys = .ok rel ∨ env.userFile sys = some rel := by
  unfold resolve at h
  cases hp : packaged sys with
  | ok rows => simp only [hp] at h; exact Or.inl (congrArg Except.ok (Except.ok.inj h))
  | error e =>
    cases hu : env.userFile sys with
    | none => simp [hp, hu] at h
    | some rows => simp only [hp, hu] at h; exact Or.inr (congrArg some (Except.ok.inj h))

theorem resolve_error {env : Env} {sys : String} {e : Err} (h : resolve env sys = .error e) : e = .fileNotFound := by
  unfold resolve at h
  cases hp : packaged sys with
  | ok rows => simp [hp] at h
  | error e' =>
    cases hu : env.userFile sys with
    | some rows => simp [hp, hu] at h
    | none => simp only [hp, hu] at h; exact (Except.error.inj h) ▸ packaged_error hp

theorem resolve_cwd_irrelevant (pe pe' : String → Bool) (uf : String → Option Rows) (sys : String) :
    resolve ⟨pe, uf⟩ sys = resolve ⟨pe', uf⟩ sys := rfl

/-- a name that is not a packaged system and names a readable file: that file is the relations -/
theorem resolve_user_file (env : Env) (sys : String) (rows : Rows) (e : Err) (hp : packaged sys = .error e)
    (h : env.userFile sys = some rows) : resolve env sys = .ok rows := by simp [resolve, hp, h]

/-- a packaged system name means the packaged relations, whatever files exist -/
theorem resolve_packaged (env : Env) (sys : String) (rows : Rows) (h : packaged sys = .ok rows) :
    resolve env sys = .ok rows := by simp [resolve, h]

/-- … so for a packaged name the WHOLE environment (working directory) is irrelevant -/
theorem resolve_packaged_env_irrelevant (env env' : Env) (sys : String) (rows : Rows) (h : packaged sys = .ok rows) :
    resolve env sys = resolve env' sys := by simp [resolve, h]

end Cij.Fill
