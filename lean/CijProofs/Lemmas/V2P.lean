/- What the pieces of `CijModel/V2P.lean` do (C06); `lagrange4_cubic` also serves `Lemmas/LeastSq.lean`. -/
import CijModel.V2P
import Mathlib.Order.Defs.LinearOrder
import Mathlib.Data.List.GetD
import Mathlib.Tactic.Linarith
import Mathlib.Tactic.Ring
import Mathlib.Tactic.FieldSimp
import Mathlib.Algebra.Order.Field.Basic

namespace Cij.V2P

section
variable {α : Type} [LinearOrder α] [Zero α]

/-- Loop invariant of the bisection, in closed form: the returned index either never left the initial
    lower end or carries `a[k] ≤ v`; its successor is either the initial upper end or carries `v < a[k+1]`. -/
theorem bisect_inv (a : List α) (v : α) (lo up : Nat) (h : lo < up) :
    lo ≤ bisect a v lo up ∧ bisect a v lo up < up ∧
    (bisect a v lo up = lo ∨ nth a (bisect a v lo up) ≤ v) ∧
    (bisect a v lo up + 1 = up ∨ v < nth a (bisect a v lo up + 1)) := by
  fun_induction bisect a v lo up with
  | case1 lo up hgt mid hge ih =>
    have hm : mid < up := by omega
    obtain ⟨h1, h2, h3, h4⟩ := ih hm
    refine ⟨by omega, h2, ?_, h4⟩
    rcases h3 with h3 | h3
    · right; rw [h3]; exact hge
    · right; exact h3
  | case2 lo up hgt mid hge ih =>
    have hm : lo < mid := by omega
    obtain ⟨h1, h2, h3, h4⟩ := ih hm
    refine ⟨h1, by omega, h3, ?_⟩
    rcases h4 with h4 | h4
    · right; rw [h4]; exact not_le.mp hge
    · right; exact h4
  | case3 lo up hle =>
    exact ⟨le_refl _, h, Or.inl rfl, Or.inl (by omega)⟩

theorem findNearest_eq_bisect (a : List α) (v : α) : findNearest a v = bisect a v 0 (a.length - 1) := rfl

/-- a degenerate call (`up ≤ lo + 1`) returns `lo` -/
theorem bisect_base (a : List α) (v : α) (lo up : Nat) (h : up ≤ lo + 1) : bisect a v lo up = lo := by
  unfold bisect
  have : ¬ (up - lo > 1) := by omega
  simp [this]

end

section
variable {α : Type} [Zero α]

/-- index in the original row of the `i`-th entry of the padded row -/
def extIdx (n i : Nat) : Nat := if i = 0 then 3 else if i ≤ n then i - 1 else n - 4

theorem length_extend (p : List α) : (extend p).length = p.length + 2 := by
  simp [extend]

theorem nth_extend (p : List α) (i : Nat) (hi : i ≤ p.length + 1) :
    nth (extend p) i = nth p (extIdx p.length i) := by
  unfold extend nth extIdx
  cases i with
  | zero => simp
  | succ j =>
    simp only [List.getD_cons_succ, Nat.succ_ne_zero, if_false]
    by_cases hj : j < p.length
    · rw [List.getD_append _ _ _ _ hj]; simp [Nat.succ_le_of_lt hj]
    · have : j = p.length := by omega
      subst this
      rw [List.getD_append_right _ _ _ _ (le_refl _)]
      simp

theorem nth_map {β : Type} [Zero β] (f : α → β) (l : List α) (i : Nat) (hi : i < l.length) :
    nth (l.map f) i = f (nth l i) := by
  unfold nth
  rw [List.getD_eq_getElem _ _ (by simpa using hi), List.getD_eq_getElem _ _ hi]
  simp

theorem extend_map {β : Type} [Zero β] (f : α → β) (l : List α) (h : 4 ≤ l.length) :
    extend (l.map f) = (extend l).map f := by
  unfold extend
  simp only [List.map_cons, List.map_append, List.map_nil, List.length_map]
  rw [nth_map f l 3 (by omega), nth_map f l (l.length - 4) (by omega)]

theorem extIdx_mid (n k : Nat) (hk1 : 1 ≤ k) (hk2 : k ≤ n) : extIdx n k = k - 1 := by
  unfold extIdx
  rw [if_neg (by omega), if_pos hk2]

/-- the four entries of a window `k-1 … k+2` (1 ≤ k ≤ n-1) of the padded row come from four *different*
    positions of the original row, all in range -/
theorem extIdx_window (n k : Nat) (hn : 4 ≤ n) (hk1 : 1 ≤ k) (hk2 : k + 1 ≤ n) :
    extIdx n (k - 1) < n ∧ extIdx n k < n ∧ extIdx n (k + 1) < n ∧ extIdx n (k + 2) < n ∧
    extIdx n (k - 1) ≠ extIdx n k ∧ extIdx n (k - 1) ≠ extIdx n (k + 1) ∧ extIdx n (k - 1) ≠ extIdx n (k + 2) ∧
    extIdx n k ≠ extIdx n (k + 1) ∧ extIdx n k ≠ extIdx n (k + 2) ∧ extIdx n (k + 1) ≠ extIdx n (k + 2) := by
  have e0 : extIdx n (k - 1) = if k = 1 then 3 else k - 2 := by
    unfold extIdx
    by_cases h : k = 1
    · simp [h]
    · rw [if_neg (by omega), if_pos (by omega), if_neg h]
      omega
  have e3 : extIdx n (k + 2) = if k + 2 ≤ n then k + 1 else n - 4 := by
    unfold extIdx
    rw [if_neg (by omega)]
    rfl
  rw [e0, extIdx_mid n k hk1 (by omega), extIdx_mid n (k + 1) (by omega) hk2, e3]
  split_ifs <;> omega

end

section
variable {α : Type} [LinearOrder α] [Zero α]

/-- the row is strictly increasing along the volume axis (qha: volumes decrease ⇒ pressure increases with index) -/
def StrictIncr (p : List α) : Prop := ∀ i j, i < j → j < p.length → nth p i < nth p j

theorem StrictIncr.ne {p : List α} (h : StrictIncr p) {i j : Nat} (hi : i < p.length) (hj : j < p.length)
    (hij : i ≠ j) : nth p i ≠ nth p j := by
  rcases Nat.lt_or_gt_of_ne hij with h' | h'
  · exact ne_of_lt (h i j h' hj)
  · exact ne_of_gt (h j i h' hi)

theorem StrictIncr.le {p : List α} (h : StrictIncr p) {i j : Nat} (hij : i ≤ j) (hj : j < p.length) :
    nth p i ≤ nth p j := by
  rcases Nat.eq_or_lt_of_le hij with h' | h'
  · rw [h']
  · exact le_of_lt (h i j h' hj)

theorem strictIncr_of_pairwise {p : List α} (h : p.Pairwise (· < ·)) : StrictIncr p := by
  intro i j hij hj
  have hi : i < p.length := by omega
  unfold nth
  rw [List.getD_eq_getElem _ _ hi, List.getD_eq_getElem _ _ hj]
  exact (List.pairwise_iff_getElem.mp h) i j hi hj hij

theorem StrictIncr.window_ne {p : List α} (hs : StrictIncr p) (hn : 4 ≤ p.length) {k : Nat} (hk1 : 1 ≤ k)
    (hk2 : k + 1 ≤ p.length) :
    nth (extend p) (k - 1) ≠ nth (extend p) k ∧ nth (extend p) (k - 1) ≠ nth (extend p) (k + 1) ∧
    nth (extend p) (k - 1) ≠ nth (extend p) (k + 2) ∧ nth (extend p) k ≠ nth (extend p) (k + 1) ∧
    nth (extend p) k ≠ nth (extend p) (k + 2) ∧ nth (extend p) (k + 1) ≠ nth (extend p) (k + 2) := by
  obtain ⟨w0, w1, w2, w3, d01, d02, d03, d12, d13, d23⟩ := extIdx_window p.length k hn hk1 hk2
  rw [nth_extend p (k - 1) (by omega), nth_extend p k (by omega), nth_extend p (k + 1) (by omega),
    nth_extend p (k + 2) (by omega)]
  exact ⟨hs.ne w0 w1 d01, hs.ne w0 w2 d02, hs.ne w0 w3 d03, hs.ne w1 w2 d12, hs.ne w1 w3 d13, hs.ne w2 w3 d23⟩

/-- The bracket found in the padded row: for `x₀ ≤ v < x_{n-1}` (entries of the original row) the index `k`
    returned on the padded row satisfies `1 ≤ k ≤ n-1` and `ext[k] ≤ v < ext[k+1]`.
    (No monotonicity needed; the bisection only reads interior entries of the padded row.) -/
theorem findNearest_extend (p : List α) (v : α) (hn : 4 ≤ p.length)
    (h0 : nth p 0 ≤ v) (h1 : v < nth p (p.length - 1)) :
    1 ≤ findNearest (extend p) v ∧ findNearest (extend p) v + 1 ≤ p.length ∧
    nth (extend p) (findNearest (extend p) v) ≤ v ∧ v < nth (extend p) (findNearest (extend p) v + 1) := by
  unfold findNearest
  simp only [length_extend]
  have hlt : 0 < p.length + 2 - 1 := by omega
  obtain ⟨_, h2, h3, h4⟩ := bisect_inv (extend p) v 0 (p.length + 2 - 1) hlt
  set k := bisect (extend p) v 0 (p.length + 2 - 1) with hk
  have e1 : nth (extend p) 1 = nth p 0 := by
    rw [nth_extend p 1 (by omega)]
    have : 1 ≤ p.length := by omega
    simp [extIdx, this]
  have en : nth (extend p) p.length = nth p (p.length - 1) := by
    rw [nth_extend p p.length (by omega)]
    have : p.length ≠ 0 := by omega
    simp [extIdx, this]
  have hk1 : 1 ≤ k := by
    by_contra hc
    have hk0 : k = 0 := by omega
    rcases h4 with h4 | h4
    · omega
    · rw [hk0] at h4; simp only [Nat.zero_add] at h4; rw [e1] at h4; exact absurd h0 (not_le.mpr h4)
  have hk2 : k + 1 ≤ p.length := by
    by_contra hc
    have hkn : k = p.length := by omega
    rcases h3 with h3 | h3
    · omega
    · rw [hkn, en] at h3; exact absurd h1 (not_lt.mpr h3)
  refine ⟨hk1, hk2, ?_, ?_⟩
  · rcases h3 with h3 | h3
    · omega
    · exact h3
  · rcases h4 with h4 | h4
    · omega
    · exact h4

end

section
variable {α : Type} [Field α]

/-- `_lagrange4` in the usual normal form (one common orientation of the node differences) -/
theorem lagrange4_basis (x x0 x1 x2 x3 y0 y1 y2 y3 : α)
    (h01 : x0 ≠ x1) (h02 : x0 ≠ x2) (h03 : x0 ≠ x3) (h12 : x1 ≠ x2) (h13 : x1 ≠ x3) (h23 : x2 ≠ x3) :
    lagrange4 x x0 x1 x2 x3 y0 y1 y2 y3 =
      (x - x1) * (x - x2) * (x - x3) * y0 / ((x0 - x1) * (x0 - x2) * (x0 - x3))
      - (x - x0) * (x - x2) * (x - x3) * y1 / ((x0 - x1) * (x1 - x2) * (x1 - x3))
      + (x - x0) * (x - x1) * (x - x3) * y2 / ((x0 - x2) * (x1 - x2) * (x2 - x3))
      - (x - x0) * (x - x1) * (x - x2) * y3 / ((x0 - x3) * (x1 - x3) * (x2 - x3)) := by
  unfold lagrange4
  have e01 : x0 - x1 ≠ 0 := sub_ne_zero.mpr h01
  have e02 : x0 - x2 ≠ 0 := sub_ne_zero.mpr h02
  have e03 : x0 - x3 ≠ 0 := sub_ne_zero.mpr h03
  have e12 : x1 - x2 ≠ 0 := sub_ne_zero.mpr h12
  have e13 : x1 - x3 ≠ 0 := sub_ne_zero.mpr h13
  have e23 : x2 - x3 ≠ 0 := sub_ne_zero.mpr h23
  have r10 : x1 - x0 = -(x0 - x1) := by ring
  have r20 : x2 - x0 = -(x0 - x2) := by ring
  have r30 : x3 - x0 = -(x0 - x3) := by ring
  have r21 : x2 - x1 = -(x1 - x2) := by ring
  have r31 : x3 - x1 = -(x1 - x3) := by ring
  have r32 : x3 - x2 = -(x2 - x3) := by ring
  rw [r10, r20, r30, r21, r31, r32]
  field_simp
  ring

theorem lagrange4_cubic (a b c d x x0 x1 x2 x3 : α)
    (h01 : x0 ≠ x1) (h02 : x0 ≠ x2) (h03 : x0 ≠ x3) (h12 : x1 ≠ x2) (h13 : x1 ≠ x3) (h23 : x2 ≠ x3) :
    lagrange4 x x0 x1 x2 x3
      (a + b * x0 + c * x0 ^ 2 + d * x0 ^ 3) (a + b * x1 + c * x1 ^ 2 + d * x1 ^ 3)
      (a + b * x2 + c * x2 ^ 2 + d * x2 ^ 3) (a + b * x3 + c * x3 ^ 2 + d * x3 ^ 3)
      = a + b * x + c * x ^ 2 + d * x ^ 3 := by
  rw [lagrange4_basis x x0 x1 x2 x3 _ _ _ _ h01 h02 h03 h12 h13 h23]
  have e01 : x0 - x1 ≠ 0 := sub_ne_zero.mpr h01
  have e02 : x0 - x2 ≠ 0 := sub_ne_zero.mpr h02
  have e03 : x0 - x3 ≠ 0 := sub_ne_zero.mpr h03
  have e12 : x1 - x2 ≠ 0 := sub_ne_zero.mpr h12
  have e13 : x1 - x3 ≠ 0 := sub_ne_zero.mpr h13
  have e23 : x2 - x3 ≠ 0 := sub_ne_zero.mpr h23
  field_simp
  ring

end

section
variable {β γ : Type}

theorem map_map_eq_self {f : β → γ} {g : γ → β} {l : List β} (h : ∀ x ∈ l, g (f x) = x) : (l.map f).map g = l := by
  rw [List.map_map]
  exact (List.map_congr_left (g := id) h).trans (List.map_id l)

theorem mapM_ok (f : β → Except Err γ) (g : β → γ) (l : List β) (h : ∀ x ∈ l, f x = .ok (g x)) :
    l.mapM f = .ok (l.map g) := by
  induction l with
  | nil => rfl
  | cons a t ih =>
    rw [List.mapM_cons, h a (List.mem_cons_self), ih (fun x hx => h x (List.mem_cons_of_mem _ hx))]
    rfl

end

section
variable {α : Type} [LinearOrder α]

theorem foldl_min_le (l : List α) (x : α) :
    l.foldl (fun m y => if y < m then y else m) x ≤ x ∧
    ∀ y ∈ l, l.foldl (fun m y => if y < m then y else m) x ≤ y := by
  induction l generalizing x with
  | nil => simp
  | cons a t ih =>
    simp only [List.foldl_cons, List.mem_cons]
    obtain ⟨h1, h2⟩ := ih (if a < x then a else x)
    have hx : (if a < x then a else x) ≤ x := by split_ifs with h; exact le_of_lt h; exact le_refl _
    have ha : (if a < x then a else x) ≤ a := by split_ifs with h; exact le_refl _; exact not_lt.mp h
    refine ⟨le_trans h1 hx, ?_⟩
    rintro y (rfl | hy)
    · exact le_trans h1 ha
    · exact h2 y hy

theorem foldl_min_mem (l : List α) (x : α) :
    l.foldl (fun m y => if y < m then y else m) x = x ∨
    l.foldl (fun m y => if y < m then y else m) x ∈ l := by
  induction l generalizing x with
  | nil => simp
  | cons a t ih =>
    simp only [List.foldl_cons, List.mem_cons]
    rcases ih (if a < x then a else x) with h | h
    · rw [h]; split_ifs
      · right; left; rfl
      · left; rfl
    · right; right; exact h

theorem listMin_spec {l : List α} {m : α} (h : listMin l = some m) : m ∈ l ∧ ∀ y ∈ l, m ≤ y := by
  cases l with
  | nil => simp [listMin] at h
  | cons x t =>
    simp only [listMin, Option.some.injEq] at h
    subst h
    obtain ⟨h1, h2⟩ := foldl_min_le t x
    refine ⟨?_, ?_⟩
    · rcases foldl_min_mem t x with h | h
      · rw [h]; exact List.mem_cons_self
      · exact List.mem_cons_of_mem _ h
    · intro y hy
      rcases List.mem_cons.mp hy with rfl | hy
      · exact h1
      · exact h2 y hy

/-- `listMax` is `listMin` for the reversed order -/
theorem listMax_spec {l : List α} {m : α} (h : listMax l = some m) : m ∈ l ∧ ∀ y ∈ l, y ≤ m :=
  listMin_spec (α := αᵒᵈ) h

theorem listMin_isSome {l : List α} (h : l ≠ []) : ∃ m, listMin l = some m := by
  cases l with
  | nil => exact absurd rfl h
  | cons x t => exact ⟨_, rfl⟩

theorem listMax_isSome {l : List α} (h : l ≠ []) : ∃ m, listMax l = some m :=
  listMin_isSome (α := αᵒᵈ) h


theorem status_of_rows_ne [Zero α] (P : List (List α)) (d : List α) (hne : ∀ row ∈ P, row ≠ []) :
    desiredPressureStatus P d =
      match listMin (lastColumn P), listMax d with
      | some lo, some hi => if lo < hi then .error .valueError else .ok ()
      | _, _ => .error .valueError := by
  have hemp : ¬ (P.any fun r => r.isEmpty) = true := by
    simpa only [List.any_eq_true, List.isEmpty_iff, not_exists, not_and] using hne
  unfold desiredPressureStatus
  rw [if_neg hemp]
  rfl

theorem not_min_lt_max_iff [Zero α] {P : List (List α)} {d : List α} {lo hi : α} (hlo : listMin (lastColumn P) = some lo)
    (hhi : listMax d = some hi) : ¬ lo < hi ↔ ∀ row ∈ P, ∀ x ∈ d, x ≤ row.getLastD 0 := by
  constructor
  · intro h row hrow x hx
    exact le_trans ((listMax_spec hhi).2 x hx)
      (le_trans (not_lt.mp h) ((listMin_spec hlo).2 _ (List.mem_map.mpr ⟨row, hrow, rfl⟩)))
  · intro h
    obtain ⟨row, hrow, rfl⟩ := List.mem_map.mp (listMin_spec hlo).1
    exact not_lt.mpr (h row hrow hi (listMax_spec hhi).1)

end

theorem namedProperties_diag : ∀ e ∈ namedProperties, e.1 = e.2 := by decide +kernel

end Cij.V2P
