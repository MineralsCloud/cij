import Lean.Meta.Tactic.Simp.RegisterCommand

/-- what evaluates the interpreter of `CijModel/ModeGammaGlue.lean` on translated code -/
register_simp_attr mg_simp
