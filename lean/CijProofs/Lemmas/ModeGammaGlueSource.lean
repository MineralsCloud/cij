/-
  `CijModel/Interp.lean` IS what `cij/core/mode_gamma.py` says.  `tools/gens/modegamma_src.py` re-translates the module on every run into
  `Generated/ModeGammaGlue.lean` (`fns` = the six straight-line functions, `loop` = `interpolate_modes`); `CijModel/ModeGammaGlue.lean`
  interprets those data.  Here: the interpretation equals the hand-written model with the exceptions of malformed inputs
  (`interpolateModeF`, `interpolateModesF`) for every scalar type with an `ExpLog` instance, every kernel, every input.  The proofs
  evaluate the interpreter by `mg_eval`; of the translated code they name only the locals the loop body reads (`loopLocals`).
-/
import CijModel.ModeGammaGlue
import CijModel.PPoly
import Generated.ModeGammaGlue
import CijProofs.Lemmas.Interp
import CijProofs.Lemmas.ModeGammaAttr

set_option linter.unusedSectionVars false
set_option linter.unusedVariables false
set_option linter.unusedSimpArgs false

namespace Cij.ModeGammaGlue
open Cij.Interp
open Generated.ModeGammaGlue (fns loop)

variable {α : Type} [Add α] [Mul α] [Neg α] [Zero α] [One α] [NatCast α] [ExpLog α]

/-! ### what the model is compared with -/

/-- the triple of arrays a Python function returns, for the model's list of triples -/
def colsVal (r : List (Triple α)) : Val α := .tuple3 (.arr (r.map (·.1))) (.arr (r.map (·.2.1))) (.arr (r.map (·.2.2)))

/-- the least-squares kernel over an arbitrary solver `S` = `numpy.linalg.lstsq(·, ·)[0]`: the matrix is `numpy.vander(x, order + 1)`
(rows `[x^order, …, x, 1]`), the right-hand side the 1-d array `y` of ONE mode; the solution is read as polynomial coefficients,
highest power first (`numpy.poly1d`), and sampled with its first and second derivative -/
def lsqKernel (S : List (List α) → List α → Except Err (List α)) (order : Nat) : Interpolant α := fun xs ys pts =>
  match S (vander xs (order + 1)) ys with
  | .error e => .error e
  | .ok a => .ok (pts.map fun x => (polyval a x, polyval (polyder a) x, polyval (polyderN 2 a) x))

/-- the kernel the model is run with for a method (for `hermite` and an unknown method none is called: `LenFor`) -/
def Env.kernelFor (env : Env α) (m : Method) (order : Nat) : Interpolant α :=
  match m with
  | .spline => env.spline order
  | .lagrange => env.lagrange
  | .krogh => env.krogh
  | .pchip => env.pchip
  | .akima => env.akima
  | .lsqPoly => lsqKernel env.lstsq order
  | .hermite | .unknown => env.spline order          -- never called by the model for these two

/-! ### evaluation lemmas -/

@[simp] theorem bind_ok {β γ : Type} (v : β) (f : β → Out γ) : (Out.ok v).bind f = f v := rfl
@[simp] theorem bind_raise {β γ : Type} (e : Err) (f : β → Out γ) : (Out.raise e : Out β).bind f = .raise e := rfl
@[simp] theorem bind_stuck {β γ : Type} (f : β → Out γ) : (Out.stuck : Out β).bind f = .stuck := rfl

theorem applyFn_log (env : Env α) (l : List α) : applyFn env .npLog [.arr l] [] = .ok (.arr (l.map ExpLog.log)) := rfl
theorem applyFn_exp (env : Env α) (l : List α) : applyFn env .npExp [.arr l] [] = .ok (.arr (l.map ExpLog.exp)) := rfl
theorem applyFn_flip (env : Env α) (l : List α) : applyFn env .npFlip [.arr l] [(.axis, .nat 0)] = .ok (.arr l.reverse) := rfl
theorem applyFn_flip' (env : Env α) (l : List α) : applyFn env .npFlip [.arr l] [] = .ok (.arr l.reverse) := rfl
theorem applyFn_ceil (env : Env α) (n d : Nat) : applyFn env .npCeil [.quot n d] [] = .ok (.fint ((n + d - 1) / d)) := rfl
theorem applyFn_int (env : Env α) (n : Nat) : applyFn env .pyInt [.fint n] [] = .ok (.nat n) := rfl
theorem applyFn_int' (env : Env α) (n : Nat) : applyFn env .pyInt [.nat n] [] = .ok (.nat n) := rfl
theorem applyFn_range (env : Env α) (n : Nat) : applyFn env .pyRange [.nat n] [] = .ok (.range n) := rfl
theorem applyFn_array (env : Env α) (l : List α) : applyFn env .npArray [.pylist l] [] = .ok (.arr l) := rfl
theorem applyFn_array' (env : Env α) (l : List α) : applyFn env .npArray [.arr l] [] = .ok (.arr l) := rfl
theorem applyFn_vander (env : Env α) (x : List α) (n : Nat) : applyFn env .npVander [.arr x, .nat n] [] = .ok (.mat (vander x n)) := rfl
theorem applyFn_lstsq (env : Env α) (A : List (List α)) (b : List α) :
    applyFn env .npLstsq [.mat A, .arr b] [] =
      match env.lstsq A b with
      | .ok a => .ok (.tuple4 (.arr a) .opaque .opaque .opaque)
      | .error e => .raise e := rfl
theorem applyFn_poly1d (env : Env α) (a : List α) : applyFn env .npPoly1d [.arr a] [] = .ok (.poly a) := rfl
theorem applyFn_poly1d' (env : Env α) (a : List α) : applyFn env .npPoly1d [.poly a] [] = .ok (.poly a) := rfl
theorem applyFn_polyval (env : Env α) (a x : List α) :
    applyFn env .npPolyval [.poly a, .arr x] [] = .ok (.arr (x.map (polyval a))) := rfl
theorem applyFn_polyval' (env : Env α) (a x : List α) :
    applyFn env .npPolyval [.arr a, .arr x] [] = .ok (.arr (x.map (polyval a))) := rfl
theorem applyFn_polyder (env : Env α) (p : Val α) : applyFn env .npPolyder [p] [] = polyderVal p 1 := rfl
theorem applyFn_polyder_pos (env : Env α) (p : Val α) (m : Nat) : applyFn env .npPolyder [p, .nat m] [] = polyderVal p m := rfl
theorem applyFn_polyder_kw (env : Env α) (p : Val α) (m : Nat) : applyFn env .npPolyder [p] [(.m, .nat m)] = polyderVal p m := rfl
theorem applyFn_spline (env : Env α) (x y : List α) (k : Nat) :
    applyFn env .spUnivariateSpline [.arr x, .arr y] [(.k, .nat k)] = .ok (.interp (.spline k) x y 0) := rfl
theorem applyFn_lagrange (env : Env α) (x y : List α) :
    applyFn env .spLagrange [.arr x, .arr y] [] = .ok (.interp .lagrange x y 0) := rfl
theorem applyFn_krogh (env : Env α) (x y : List α) :
    applyFn env .spKrogh [.arr x, .arr y] [] = .ok (.interp .krogh x y 0) := rfl
theorem applyFn_pchip (env : Env α) (x y : List α) :
    applyFn env .spPchip [.arr x, .arr y] [] = .ok (.interp .pchip x y 0) := rfl
theorem applyFn_akima (env : Env α) (x y : List α) :
    applyFn env .spAkima [.arr x, .arr y] [] = .ok (.interp .akima x y 0) := rfl
theorem applyFn_hermite (env : Env α) (x y : List α) :
    applyFn env .spHermite [.arr x, .arr y] [] = .raise .typeError := rfl

theorem callVal_cls (env : Env α) (c : Lib) (vs : List (Val α)) (ks : List (Kw × Val α)) : callVal env (.cls c) vs ks = applyFn env c vs ks := rfl
theorem callVal_poly (env : Env α) (a x : List α) : callVal env (.poly a) [.arr x] [] = .ok (.arr (x.map (polyval a))) := rfl
theorem callVal_lagrange (env : Env α) (xs ys p : List α) (d : Nat) :
    callVal env (.interp .lagrange xs ys d) [.arr p] [] = sample env .lagrange xs ys p d := rfl
theorem callVal_krogh (env : Env α) (xs ys p : List α) : callVal env (.interp .krogh xs ys 0) [.arr p] [] = sample env .krogh xs ys p 0 := rfl
theorem callVal_spline (env : Env α) (k : Nat) (xs ys p : List α) :
    callVal env (.interp (.spline k) xs ys 0) [.arr p] [] = sample env (.spline k) xs ys p 0 := rfl
theorem callVal_spline_nu (env : Env α) (k n : Nat) (xs ys p : List α) :
    callVal env (.interp (.spline k) xs ys 0) [.arr p] [(.nu, .nat n)] = sample env (.spline k) xs ys p n := rfl
theorem callVal_pchip (env : Env α) (xs ys p : List α) :
    callVal env (.interp .pchip xs ys 0) [.arr p] [(.extrapolate, .bool true)] = sample env .pchip xs ys p 0 := rfl
theorem callVal_pchip_nu (env : Env α) (n : Nat) (xs ys p : List α) :
    callVal env (.interp .pchip xs ys 0) [.arr p] [(.extrapolate, .bool true), (.nu, .nat n)] = sample env .pchip xs ys p n := rfl
theorem callVal_akima (env : Env α) (xs ys p : List α) :
    callVal env (.interp .akima xs ys 0) [.arr p] [(.extrapolate, .bool true)] = sample env .akima xs ys p 0 := rfl
theorem callVal_akima_nu (env : Env α) (n : Nat) (xs ys p : List α) :
    callVal env (.interp .akima xs ys 0) [.arr p] [(.extrapolate, .bool true), (.nu, .nat n)] = sample env .akima xs ys p n := rfl
theorem callMeth_krogh (env : Env α) (xs ys p : List α) :
    callMeth env (.interp .krogh xs ys 0) "derivative" [.arr p] [] = sample env .krogh xs ys p 1 := rfl
theorem callMeth_krogh_der (env : Env α) (n : Nat) (xs ys p : List α) :
    callMeth env (.interp .krogh xs ys 0) "derivative" [.arr p] [(.der, .nat n)] = sample env .krogh xs ys p n := rfl
theorem callMeth_krogh_pos (env : Env α) (n : Nat) (xs ys p : List α) :
    callMeth env (.interp .krogh xs ys 0) "derivative" [.arr p, .nat n] [] = sample env .krogh xs ys p n := rfl

theorem sample0 (env : Env α) (k : Kern) (xs ys p : List α) :
    sample env k xs ys p 0 = match env.kernel k xs ys p with | .error e => .raise e | .ok r => .ok (.arr (r.map (·.1))) := rfl
theorem sample1 (env : Env α) (k : Kern) (xs ys p : List α) :
    sample env k xs ys p 1 = match env.kernel k xs ys p with | .error e => .raise e | .ok r => .ok (.arr (r.map (·.2.1))) := rfl
theorem sample2 (env : Env α) (k : Kern) (xs ys p : List α) :
    sample env k xs ys p 2 = match env.kernel k xs ys p with | .error e => .raise e | .ok r => .ok (.arr (r.map (·.2.2))) := rfl

theorem polyderVal_poly (a : List α) (m : Nat) : polyderVal (.poly a : Val α) m = .ok (.poly (polyderN m a)) := rfl
theorem polyderVal_lagrange (xs ys : List α) (d m : Nat) :
    polyderVal (.interp .lagrange xs ys d : Val α) m = .ok (.interp .lagrange xs ys (d + m)) := rfl
theorem globVal_pchip : (globVal .spPchip : Out (Val α)) = .ok (.cls .spPchip) := rfl
theorem globVal_akima : (globVal .spAkima : Out (Val α)) = .ok (.cls .spAkima) := rfl
theorem globVal_hermite : (globVal .spHermite : Out (Val α)) = .ok (.cls .spHermite) := rfl
theorem globVal_krogh : (globVal .spKrogh : Out (Val α)) = .ok (.cls .spKrogh) := rfl
theorem globVal_spline : (globVal .spUnivariateSpline : Out (Val α)) = .ok (.cls .spUnivariateSpline) := rfl
theorem attrVal_shape (l : List α) : attrVal (.arr l : Val α) "shape" = .ok (.shape [l.length]) := rfl
theorem attrVal_nv (nv nq np : Nat) (v : List (α × List (List α))) : attrVal (.qha nv nq np v) "nv" = .ok (.nat nv) := rfl
theorem attrVal_nq (nv nq np : Nat) (v : List (α × List (List α))) : attrVal (.qha nv nq np v) "nq" = .ok (.nat nq) := rfl
theorem attrVal_np (nv nq np : Nat) (v : List (α × List (List α))) : attrVal (.qha nv nq np v) "np" = .ok (.nat np) := rfl
theorem attrVal_volumes (nv nq np : Nat) (v : List (α × List (List α))) : attrVal (.qha nv nq np v) "volumes" = .ok (.vols v) := rfl
theorem attrVal_volume (x : α) (q : List (List α)) : attrVal (.vol x q) "volume" = .ok (.scalar x) := rfl
theorem attrVal_qpoints (x : α) (q : List (List α)) : attrVal (.vol x q) "q_points" = .ok (.qpts q) := rfl
theorem attrVal_modes (m : List α) : attrVal (.qpt m : Val α) "modes" = .ok (.pylist m) := rfl
theorem indexVal_shape (dims : List Nat) (k : Nat) :
    indexVal (.shape dims : Val α) (.nat k) = match dims[k]? with | some d => .ok (.nat d) | none => .raise (.other "IndexError") := rfl
theorem indexVal_qpts (q : List (List α)) (k : Nat) :
    indexVal (.qpts q) (.nat k) = match q[k]? with | some m => .ok (.qpt m) | none => .raise (.other "IndexError") := rfl
theorem indexVal_pylist (l : List α) (k : Nat) :
    indexVal (.pylist l) (.nat k) = match l[k]? with | some x => .ok (.scalar x) | none => .raise (.other "IndexError") := rfl
theorem sliceStepVal_arr (l : List α) (k : Nat) :
    sliceStepVal (.arr l) (.nat k) = if k = 0 then .raise .valueError else .ok (.arr (stride k l)) := rfl
theorem negVal_arr (l : List α) : negVal (.arr l) = .ok (.arr (l.map (- ·))) := rfl
theorem divVal_nat (n d : Nat) : divVal (.nat n : Val α) (.nat d) = if d = 0 then .raise .zeroDivision else .ok (.quot n d) := rfl
theorem eqVal_str (x y : String) : eqVal (.str x : Val α) (.str y) = .ok (.bool (x == y)) := rfl
theorem eqVal_nat (x y : Nat) : eqVal (.nat x : Val α) (.nat y) = .ok (.bool (x == y)) := rfl
theorem isinVal_strs (x : String) (l : List String) : isinVal (.str x : Val α) (.strs l) = .ok (.bool (l.contains x)) := rfl
theorem isinVal_range (k n : Nat) : isinVal (.nat k : Val α) (.range n) = .ok (.bool (decide (k < n))) := rfl
theorem tupleVal2 (a b : Val α) : tupleVal [a, b] = .ok (.tuple2 a b) := rfl
theorem tupleVal3 (a b c : Val α) : tupleVal [a, b, c] = .ok (.tuple3 a b c) := rfl
theorem unpackVal2 (a b : String) (x y : Val α) : unpackVal [a, b] (.tuple2 x y) = .ok [(b, y), (a, x)] := rfl
theorem unpackVal4 (a b c d : String) (x y z w : Val α) :
    unpackVal [a, b, c, d] (.tuple4 x y z w) = .ok [(d, w), (c, z), (b, y), (a, x)] := rfl
theorem addVal_nat (x y : Nat) : addVal (.nat x : Val α) (.nat y) = .ok (.nat (x + y)) := rfl

/-- the interpreter's `ceilDiv n d` and the model's `thinInterval n d` are both `(n + d - 1) / d` -/
theorem thinInterval_ne_zero (n d : Nat) (hn : n ≠ 0) (hd : d ≠ 0) : thinInterval n d ≠ 0 := by
  intro h
  unfold thinInterval at h
  have := (Nat.div_eq_zero_iff).mp h
  omega

theorem Out.bind_ite {β γ : Type} (c : Prop) [Decidable c] (a b : Out β) (f : β → Out γ) :
    (if c then a else b).bind f = if c then a.bind f else b.bind f := by split <;> rfl

theorem Out.bind_assoc {β γ δ : Type} (x : Out β) (f : β → Out γ) (g : γ → Out δ) :
    (x.bind f).bind g = x.bind fun v => (f v).bind g := by cases x <;> rfl

attribute [mg_simp] kwKnown bindArgs lookup runBody firstBranch Ex.eval evalArgs evalKw evalUKw constVal evalSeq evalShapes natsOf
  bind_ok bind_raise bind_stuck Out.bind_ite Out.ofOption
  applyFn_log applyFn_exp applyFn_flip applyFn_flip' applyFn_ceil applyFn_int applyFn_int' applyFn_range applyFn_array applyFn_array'
  applyFn_vander applyFn_lstsq applyFn_poly1d applyFn_poly1d' applyFn_polyval applyFn_polyval' applyFn_polyder applyFn_polyder_pos
  applyFn_polyder_kw applyFn_spline applyFn_lagrange applyFn_krogh applyFn_pchip applyFn_akima applyFn_hermite callVal_cls callVal_poly
  callVal_lagrange callVal_krogh callVal_spline callVal_spline_nu callVal_pchip callVal_pchip_nu callVal_akima callVal_akima_nu
  callMeth_krogh callMeth_krogh_der callMeth_krogh_pos polyderVal_poly polyderVal_lagrange globVal_pchip globVal_akima globVal_hermite
  globVal_krogh globVal_spline attrVal_shape attrVal_nv attrVal_nq attrVal_np attrVal_volumes attrVal_volume attrVal_qpoints
  attrVal_modes indexVal_shape indexVal_qpts indexVal_pylist sliceStepVal_arr negVal_arr divVal_nat eqVal_str eqVal_nat isinVal_strs
  isinVal_range tupleVal2 tupleVal3 unpackVal2 unpackVal4 addVal_nat
  BEq.rfl Bool.false_eq_true not_false_eq_true List.find?_cons_of_neg List.find?_cons_of_pos List.find?_nil List.any_cons List.any_nil
  List.all_cons List.all_nil Bool.or_false Bool.or_true Bool.and_self Option.map_none Option.map_some Option.isSome_none
  Option.bind_some Option.bind_none List.length_cons List.length_nil Nat.zero_add List.getElem?_cons_zero

/-- evaluate the interpreter on the generated statements.  A test the inputs do not decide (`order = 0`, the zero slice step) stays an
`if` and the evaluation continues in its branches -/
local macro "mg_eval" "[" ts:Lean.Parser.Tactic.simpLemma,* "]" : tactic =>
  `(tactic| simp only [mg_simp, runFn, fns, String.reduceBEq, ↓reduceIte, $ts,*])

/-! ### the six straight-line functions -/

/-- the return statement of the five kernel functions: the three sample arrays of ONE kernel call, as `(exp s, −s', −s'')` -/
theorem finish_samples (env : Env α) (K : Kern) (xs ys pts : List α) :
    ((sample env K xs ys pts 0).bind fun a => (applyFn env .npExp [a] []).bind fun e =>
      (sample env K xs ys pts 1).bind fun b => (negVal b).bind fun nb =>
      (sample env K xs ys pts 2).bind fun c => (negVal c).bind fun nc => tupleVal [e, nb, nc])
      = (Out.ofExcept (env.kernel K xs ys pts)).map fun r => colsVal (r.map fun (s, s1, s2) => (ExpLog.exp s, -s1, -s2)) := by
  unfold sample
  cases env.kernel K xs ys pts <;>
    simp [Out.ofExcept, Out.map, applyFn_exp, negVal_arr, tupleVal3, colsVal, List.map_map, Function.comp_def]

theorem finishMode_out (I : Interpolant α) (nv nf va : List α) :
    (Out.ofExcept (finishMode I nv nf va)).map colsVal
      = (Out.ofExcept (I (nv.map ExpLog.log) (nf.map ExpLog.log) (va.map ExpLog.log))).map
          fun r => colsVal (r.map fun (s, s1, s2) => (ExpLog.exp s, -s1, -s2)) := by
  unfold finishMode
  cases I _ _ _ <;> rfl

/-- a thinning method of the model in the order the source runs it, in the form in which `mg_eval` leaves the interpretation of a
thinning function: `ZeroDivisionError`, the `ValueError` of `[::0]`, then the constructor on the thinned nodes -/
theorem thinned_out (m : Method) (hm : m = .lagrange ∨ m = .krogh ∨ m = .pchip ∨ m = .akima ∨ m = .hermite) (order : Nat)
    (I : Interpolant α) (vols freqs va : List α) :
    (Out.ofExcept (interpolateModeF m order I vols freqs va)).map colsVal
      = if order = 0 then .raise .zeroDivision
        else if (vols.length + order - 1) / order = 0 then .raise .valueError
        else if m = .hermite then .raise .typeError
        else (Out.ofExcept (I ((stride ((vols.length + order - 1) / order) vols).map ExpLog.log).reverse
              ((stride ((vols.length + order - 1) / order) freqs).map ExpLog.log).reverse (va.map ExpLog.log))).map
            fun r => colsVal (r.map fun (s, s1, s2) => (ExpLog.exp s, -s1, -s2)) := by
  by_cases ho : order = 0
  · subst ho; rcases hm with rfl | rfl | rfl | rfl | rfl <;> rfl
  by_cases hk : (vols.length + order - 1) / order = 0
  · rcases hm with rfl | rfl | rfl | rfl | rfl <;>
      simp only [ho, hk, if_true, if_false, interpolateModeF, modeNodesF, thinInterval, beq_iff_eq, Out.ofExcept, Out.map, bind,
        Except.bind, bind_raise]
  · rcases hm with rfl | rfl | rfl | rfl | rfl <;>
      simp only [ho, hk, if_true, if_false, interpolateModeF, modeNodesF, thinInterval, beq_iff_eq, bind, Except.bind, reduceCtorEq,
        finishMode_out, List.map_reverse]
    rfl

theorem ite_else_same {β : Type} (c : Prop) [Decidable c] (a a' b : β) :
    (if c then a else if c then a' else b) = if c then a else b := by
  split <;> rfl

/-- `interpolate_mode_spline(mode_volumes, mode_freqs, v_array, order=order)` -/
theorem spline_is_source (env : Env α) (order : Nat) (vols freqs va : List α) :
    runFn fns env 2 "interpolate_mode_spline" [.arr vols, .arr freqs, .arr va] [("order", .nat order)]
      = (Out.ofExcept (interpolateModeF .spline order (env.spline order) vols freqs va)).map colsVal := by
  mg_eval []
  simp only [interpolateModeF, modeNodesF, bind, Except.bind, reduceCtorEq, beq_iff_eq, if_false, finishMode_out, List.map_reverse,
    Out.bind_assoc, bind_ok, finish_samples, Env.kernel]

/-- `interpolate_mode_lagrange(…)`: the thinning uses `mode_volumes.shape[0]` for BOTH arrays, and `[::0]` (no volume at all) is the
`ValueError` of `modeNodesF` -/
theorem lagrange_is_source (env : Env α) (order : Nat) (vols freqs va : List α) :
    runFn fns env 2 "interpolate_mode_lagrange" [.arr vols, .arr freqs, .arr va] [("order", .nat order)]
      = (Out.ofExcept (interpolateModeF .lagrange order env.lagrange vols freqs va)).map colsVal := by
  mg_eval []
  rw [thinned_out _ (by decide)]
  simp only [ite_else_same, Out.bind_assoc, bind_ok, finish_samples, reduceCtorEq, if_false, Env.kernel]

/-- `interpolate_mode_krogh(…)` -/
theorem krogh_is_source (env : Env α) (order : Nat) (vols freqs va : List α) :
    runFn fns env 2 "interpolate_mode_krogh" [.arr vols, .arr freqs, .arr va] [("order", .nat order)]
      = (Out.ofExcept (interpolateModeF .krogh order env.krogh vols freqs va)).map colsVal := by
  mg_eval []
  rw [thinned_out _ (by decide)]
  simp only [ite_else_same, Out.bind_assoc, bind_ok, finish_samples, reduceCtorEq, if_false, Env.kernel]

/-- `interpolate_mode_ppoly(…, method="pchip", …)` -/
theorem pchip_is_source (env : Env α) (order : Nat) (vols freqs va : List α) :
    runFn fns env 2 "interpolate_mode_ppoly" [.arr vols, .arr freqs, .arr va] [("method", .str "pchip"), ("order", .nat order)]
      = (Out.ofExcept (interpolateModeF .pchip order env.pchip vols freqs va)).map colsVal := by
  mg_eval []
  rw [thinned_out _ (by decide)]
  simp only [ite_else_same, Out.bind_assoc, bind_ok, finish_samples, reduceCtorEq, if_false, Env.kernel]

/-- `interpolate_mode_ppoly(…, method="akima", …)` -/
theorem akima_is_source (env : Env α) (order : Nat) (vols freqs va : List α) :
    runFn fns env 2 "interpolate_mode_ppoly" [.arr vols, .arr freqs, .arr va] [("method", .str "akima"), ("order", .nat order)]
      = (Out.ofExcept (interpolateModeF .akima order env.akima vols freqs va)).map colsVal := by
  mg_eval []
  rw [thinned_out _ (by decide)]
  simp only [ite_else_same, Out.bind_assoc, bind_ok, finish_samples, reduceCtorEq, if_false, Env.kernel]

/-- `interpolate_mode_ppoly(…, method="hermite", …)`: the thinning, then `CubicHermiteSpline(x, y)` → `TypeError`, whatever the kernel -/
theorem hermite_is_source (env : Env α) (I : Interpolant α) (order : Nat) (vols freqs va : List α) :
    runFn fns env 2 "interpolate_mode_ppoly" [.arr vols, .arr freqs, .arr va] [("method", .str "hermite"), ("order", .nat order)]
      = (Out.ofExcept (interpolateModeF .hermite order I vols freqs va)).map colsVal := by
  mg_eval []
  rw [thinned_out _ (by decide)]
  simp only [ite_else_same, if_true]

/-- `lstsq_polyfit(xs, ys, new_xs, order=order)`: `order + 1` columns, decreasing powers, ONE 1-d right-hand side; returns the
coefficient array and `polyval` of it at `new_xs` -/
theorem lstsq_polyfit_is_source (env : Env α) (fuel order : Nat) (xs ys new : List α) :
    runFn fns env (fuel + 1) "lstsq_polyfit" [.arr xs, .arr ys, .arr new] [("order", .nat order)]
      = (Out.ofExcept (env.lstsq (vander xs (order + 1)) ys)).map fun a => .tuple2 (.arr a) (.arr (new.map (polyval a))) := by
  mg_eval []
  cases env.lstsq (vander xs (order + 1)) ys <;> mg_eval [Out.ofExcept, Out.map, List.cons_append, List.nil_append]

/-- `interpolate_mode_lsq_poly(…)`: no thinning, no flip; `exp` of the fitted values, minus `polyval` of `polyder(p, 1)` and of
`polyder(p, 2)` -/
theorem lsq_poly_is_source (env : Env α) (order : Nat) (vols freqs va : List α) :
    runFn fns env 2 "interpolate_mode_lsq_poly" [.arr vols, .arr freqs, .arr va] [("order", .nat order)]
      = (Out.ofExcept (interpolateModeF .lsqPoly order (lsqKernel env.lstsq order) vols freqs va)).map colsVal := by
  mg_eval [↓lstsq_polyfit_is_source env 0, interpolateModeF, modeNodesF, lsqKernel, finishMode, bind, Except.bind]
  generalize env.lstsq _ _ = R
  cases R <;>
    mg_eval [Out.ofExcept, Out.map, List.cons_append, List.nil_append, pure, Except.pure, colsVal, polyderN, List.map_map,
      Function.comp_def, beq_iff_eq, reduceCtorEq]

/-! ### the loop, independent of the generated data -/

def cols3 (r : List (Triple α)) : List (List α) := [r.map (·.1), r.map (·.2.1), r.map (·.2.2)]

/-- a cell of the model seen from the interpretation: skipped cells assign nothing, the others assign their three columns -/
def toMine (j k : Nat) (col : List (Triple α)) : Option (List (List α)) :=
  if j == 0 && decide (k < 3) then none else some (cols3 col)

def mineOf {β γ : Type} (g : Nat → Nat → β → γ) (nq np : Nat) (c : List (List β)) : List (List γ) :=
  List.zipWith (fun j row => List.zipWith (g j) (List.range np) row) (List.range nq) c

theorem collect_lift {β γ δ : Type} (l : List β) (g : β → Except Err γ) (h : β → γ → δ) :
    Out.collect (l.map fun x => (Out.ofExcept (g x)).map (h x))
      = (Out.ofExcept (collect (l.map g))).map fun ys => List.zipWith h l ys := by
  induction l with
  | nil => rfl
  | cons x xs ih =>
    simp only [List.map_cons, Out.collect]
    rw [ih]
    cases hx : g x with
    | error e => simp [Out.ofExcept, Out.map, collect]
    | ok v =>
      cases hc : collect (xs.map g) with
      | error e => simp [Out.ofExcept, Out.map, collect, hc]
      | ok vs => simp [Out.ofExcept, Out.map, collect, hc]

theorem cells_transfer {β γ : Type} (cf : Nat → Nat → Except Err β) (g : Nat → Nat → β → γ) (nq np : Nat) :
    Out.collect ((List.range nq).map fun j => Out.collect ((List.range np).map fun k => (Out.ofExcept (cf j k)).map (g j k)))
      = (Out.ofExcept (cellsOf cf nq np)).map (mineOf g nq np) := by
  have inner : ∀ j, Out.collect ((List.range np).map fun k => (Out.ofExcept (cf j k)).map (g j k))
      = (Out.ofExcept (collect ((List.range np).map fun k => cf j k))).map (List.zipWith (g j) (List.range np)) :=
    fun j => collect_lift _ _ _
  simp only [inner]
  exact collect_lift (List.range nq) (fun j => collect ((List.range np).map fun k => cf j k)) _

theorem getD_map_range {γ : Type} (F : Nat → γ) (n j : Nat) (d : γ) (hj : j < n) : ((List.range n).map F).getD j d = F j := by
  simp [List.getD_eq_getElem?_getD, List.getElem?_range hj]

theorem collect_range_table {β : Type} [Inhabited β] (f : Nat → Except Err β) (n : Nat) (r : List β)
    (h : collect ((List.range n).map f) = .ok r) :
    (∀ i, i < n → f i = .ok (r.getD i default)) ∧ r = (List.range n).map fun i => r.getD i default := by
  have hlen : r.length = n := by simpa using (congrArg List.length ((collect_eq_ok _ _).mp h)).symm
  refine ⟨fun i hi => ?_, List.ext_getElem (by simp [hlen]) fun i h1 _ => by simp [List.getD_eq_getElem?_getD, h1]⟩
  obtain ⟨v, hv, hr⟩ := collect_range_ok f n r h i hi
  rw [hv, List.getD_eq_getElem?_getD, hr, Option.getD_some]

theorem cellsOf_table {β : Type} (cf : Nat → Nat → Except Err (List β)) (nq np : Nat) (c : List (List (List β)))
    (hc : cellsOf cf nq np = .ok c) :
    ∃ col : Nat → Nat → List β, (∀ j, j < nq → ∀ k, k < np → cf j k = .ok (col j k)) ∧
      c = (List.range nq).map fun j => (List.range np).map fun k => col j k := by
  obtain ⟨hrow, hc'⟩ := collect_range_table _ nq c hc
  have hcell := fun j hj => collect_range_table _ np _ (hrow j hj)
  refine ⟨fun j k => ((c.getD j default).getD k default), fun j hj k hk => (hcell j hj).1 k hk, ?_⟩
  exact hc'.trans (List.map_congr_left fun j hj => (hcell j (List.mem_range.mp hj)).2)

theorem mineOf_table {β γ : Type} (g : Nat → Nat → β → γ) (nq np : Nat) (col : Nat → Nat → β) :
    mineOf g nq np ((List.range nq).map fun j => (List.range np).map fun k => col j k)
      = (List.range nq).map fun j => (List.range np).map fun k => g j k (col j k) := by
  simp [mineOf, List.zipWith_map_right, List.zipWith_self]

def selP (p : Nat) (t : Triple α) : α := match p with | 0 => t.1 | 1 => t.2.1 | _ => t.2.2

theorem cols3_getD (col : List (Triple α)) (p : Nat) (hp : p < 3) : (cols3 col).getD p [] = col.map (selP p) := by
  match p, hp with
  | 0, _ => rfl
  | 1, _ => rfl
  | 2, _ => rfl

theorem getD_map_selP (col : List (Triple α)) (p t : Nat) : (col.map (selP p)).getD t 0 = selP p (col.getD t (0, 0, 0)) := by
  have h0 : (0 : α) = selP p ((0 : α), (0 : α), (0 : α)) := by
    unfold selP; split <;> rfl
  rw [List.getD_eq_getElem?_getD, List.getD_eq_getElem?_getD, List.getElem?_map]
  cases col[t]? with
  | none => exact h0
  | some x => rfl

def LenOK (I : Interpolant α) : Prop := ∀ xs ys pts r, I xs ys pts = .ok r → r.length = pts.length

/-- the kernel contract as the loop needs it: `hermite` raises before its kernel is called and an unknown method calls none -/
def LenFor (m : Method) (I : Interpolant α) : Prop := m ≠ .hermite → m ≠ .unknown → LenOK I

def zeroCol (va : List α) : List (Triple α) := va.map fun _ => ((0 : α), (0 : α), (0 : α))

/-- what the loop lemmas need of a cell function: Γ-acoustic cells are zero columns, every cell has one triple per grid point -/
structure CellOK (cf : Nat → Nat → Except Err (List (Triple α))) (va : List α) : Prop where
  skip : ∀ j k, (j == 0 && decide (k < 3)) = true → cf j k = .ok (zeroCol va)
  len : ∀ j k col, cf j k = .ok col → col.length = va.length

theorem cellF_length (m : Method) (order : Nat) (I : Interpolant α) (hI : LenFor m I) (vols va : List α)
    (freqs : List (List (List α))) (j k : Nat)
    (c : List (Triple α)) (h : cellF m order I vols va freqs j k = .ok c) : c.length = va.length := by
  -- along the branches of `cellF`: a zero column, an exception (no `c`), or the samples of `I`, one per grid point by `hI`
  unfold cellF at h
  split at h
  · cases h; simp
  · split at h
    · cases h
    · split at h
      · cases h; simp
      · rename_i hmu
        unfold interpolateModeF at h
        rename_i ser _
        cases hn : modeNodesF m order vols ser with
        | error e => simp [hn, bind, Except.bind] at h
        | ok nn =>
          obtain ⟨nv, nf⟩ := nn
          simp only [hn, bind, Except.bind] at h
          split at h
          · cases h
          · rename_i hmh
            unfold finishMode at h
            cases hr : I (nv.map ExpLog.log) (nf.map ExpLog.log) (va.map ExpLog.log) with
            | error e => simp [hr, bind, Except.bind] at h
            | ok r =>
              simp only [hr, bind, Except.bind, pure, Except.pure, Except.ok.injEq] at h
              subst h
              have hI' : LenOK I := hI (by simpa using hmh) (by simpa using hmu)
              simpa using hI' _ _ _ _ hr

theorem cellF_ok (m : Method) (order : Nat) (I : Interpolant α) (hI : LenFor m I) (vols va : List α)
    (freqs : List (List (List α))) : CellOK (cellF m order I vols va freqs) va :=
  ⟨fun j k h => by unfold cellF zeroCol; rw [if_pos (by simpa using h)],
   fun j k col h => cellF_length m order I hI vols va freqs j k col h⟩

theorem assemble_is (cf : Nat → Nat → Except Err (List (Triple α))) (va : List α) (hcf : CellOK cf va) (nq np : Nat)
    (c : List (List (List (Triple α)))) (hc : cellsOf cf nq np = .ok c)
    (p : Nat) (hp : p < 3) :
    assembleOut (mineOf toMine nq np c) nq np [va.length, nq, np] (some p) = .ok (assemble va.length c (selP p)) := by
  obtain ⟨col, hcol, rfl⟩ := cellsOf_table cf nq np c hc
  have hget : ∀ j, j ∈ List.range nq → ∀ k, k ∈ List.range np →
      ((mineOf toMine nq np ((List.range nq).map fun j => (List.range np).map fun k => col j k)).getD j []).getD k none
        = toMine j k (col j k) := fun j hj k hk => by
    rw [mineOf_table, getD_map_range _ _ _ _ (List.mem_range.mp hj), getD_map_range _ _ _ _ (List.mem_range.mp hk)]
  simp only [assembleOut, and_self, true_and]
  rw [if_pos]
  · simp only [assemble, List.map_map, Function.comp_def]
    congr 1
    refine List.map_congr_left fun t _ => List.map_congr_left fun j hj => List.map_congr_left fun k hk => ?_
    rw [hget j hj k hk]
    by_cases hskip : (j == 0 && decide (k < 3)) = true
    · -- a skipped cell: the model's column is all zeros
      have hz : col j k = zeroCol va :=
        Except.ok.inj ((hcol j (List.mem_range.mp hj) k (List.mem_range.mp hk)).symm.trans (hcf.skip j k hskip))
      simp only [toMine, hskip, if_true, hz, zeroCol, List.getD_eq_getElem?_getD, List.getElem?_map]
      cases va[t]? <;> (unfold selP; split <;> rfl)
    · simp only [toMine, hskip, Bool.false_eq_true, if_false]
      rw [cols3_getD (α := α) _ p hp]
      exact getD_map_selP _ p t
  · simp only [List.all_eq_true]
    intro j hj k hk
    rw [hget j hj k hk]
    by_cases hs : (j == 0 && decide (k < 3)) = true
    · simp [toMine, hs]
    · simp only [toMine, hs, Bool.false_eq_true, if_false]
      rw [cols3_getD (α := α) _ p hp, List.length_map, beq_iff_eq]
      exact hcf.len j k _ (hcol j (List.mem_range.mp hj) k (List.mem_range.mp hk))

def modesOf (cf : Nat → Nat → Except Err (List (Triple α))) (va : List α) (nq np : Nat) :
    Except Err (List (List (List α)) × List (List (List α)) × List (List (List α))) := do
  let c ← cellsOf cf nq np
  pure (assemble va.length c (·.1), assemble va.length c (·.2.1), assemble va.length c (·.2.2))

theorem interpolateModesF_eq_modesOf (m : Method) (order : Nat) (I : Interpolant α) (vols va : List α) (nq np : Nat)
    (freqs : List (List (List α))) :
    interpolateModesF m order I vols va nq np freqs = modesOf (cellF m order I vols va freqs) va nq np := rfl

/-- the loop, given the cells: one independent cell per `(j, k)`, collected in loop order (the first exception aborts), the three
arrays read back at `[t][j][k]` -/
theorem loop_generic (cf : Nat → Nat → Except Err (List (Triple α))) (va : List α) (hcf : CellOK cf va) (nq np : Nat) :
    (Out.collect ((List.range nq).map fun j => Out.collect ((List.range np).map fun k =>
        (Out.ofExcept (cf j k)).map (toMine j k)))).bind
      (fun cells => Out.collect [assembleOut cells nq np [va.length, nq, np] (some 0),
        assembleOut cells nq np [va.length, nq, np] (some 1), assembleOut cells nq np [va.length, nq, np] (some 2)])
      = (Out.ofExcept (modesOf cf va nq np)).map fun r => [r.1, r.2.1, r.2.2] := by
  rw [cells_transfer]
  unfold modesOf
  cases hc : cellsOf cf nq np with
  | error e => simp [Out.ofExcept, Out.map, bind, Except.bind]
  | ok c =>
    simp only [Out.ofExcept, Out.map, bind_ok, bind, Except.bind, pure, Except.pure]
    rw [assemble_is cf va hcf nq np c hc 0 (by decide), assemble_is cf va hcf nq np c hc 1 (by decide),
      assemble_is cf va hcf nq np c hc 2 (by decide)]
    simp only [Out.collect, bind_ok]
    rfl

theorem modesOf_cell (cf : Nat → Nat → Except Err (List (Triple α))) (va : List α) (nq np : Nat)
    (F G D : List (List (List α))) (h : modesOf cf va nq np = .ok (F, G, D))
    (t j k : Nat) (ht : t < va.length) (hj : j < nq) (hk : k < np) :
    ∃ col, cf j k = .ok col ∧
      entry F t j k = some (col.getD t (0, 0, 0)).1 ∧ entry G t j k = some (col.getD t (0, 0, 0)).2.1 ∧
      entry D t j k = some (col.getD t (0, 0, 0)).2.2 := by
  unfold modesOf at h
  cases hc : cellsOf cf nq np with
  | error e => rw [hc] at h; cases h
  | ok c =>
    rw [hc] at h
    simp only [bind, Except.bind, pure, Except.pure, Except.ok.injEq, Prod.mk.injEq] at h
    obtain ⟨rfl, rfl, rfl⟩ := h
    obtain ⟨col, hcol, hjk⟩ := cellsOf_cell cf nq np c hc j k hj hk
    exact ⟨col, hcol, assemble_entry _ c _ t j k ht col hjk, assemble_entry _ c _ t j k ht col hjk,
      assemble_entry _ c _ t j k ht col hjk⟩

theorem collect_ok_map' {β γ : Type} (l : List β) (f : β → γ) : collect (l.map fun x => (Except.ok (f x) : Except Err γ)) = .ok (l.map f) := by
  induction l with
  | nil => rfl
  | cons x xs ih => simp [collect, ih]

theorem collect_ok_map {β γ : Type} (l : List β) (f : β → γ) : Out.collect (l.map fun x => Out.ok (f x)) = .ok (l.map f) := by
  induction l with
  | nil => rfl
  | cons x xs ih => simp [Out.collect, ih]

theorem modesOf_zero (cf : Nat → Nat → Except Err (List (Triple α))) (va : List α) (nq np : Nat)
    (h : ∀ j, j < nq → ∀ k, k < np → cf j k = .ok (zeroCol va)) :
    modesOf cf va nq np = .ok (zeros3 va.length nq np, zeros3 va.length nq np, zeros3 va.length nq np) := by
  have hc : cellsOf cf nq np = .ok ((List.range nq).map fun _ => (List.range np).map fun _ => zeroCol va) := by
    unfold cellsOf
    have : ((List.range nq).map fun j => collect ((List.range np).map fun k => cf j k))
        = (List.range nq).map fun _ => (Except.ok ((List.range np).map fun _ => zeroCol va) : Except Err _) := by
      refine List.map_congr_left fun j hj => ?_
      have : ((List.range np).map fun k => cf j k) = (List.range np).map fun _ => (Except.ok (zeroCol va) : Except Err _) :=
        List.map_congr_left fun k hk => h j (List.mem_range.mp hj) k (List.mem_range.mp hk)
      rw [this, collect_ok_map']
    rw [this, collect_ok_map']
  unfold modesOf
  simp only [hc, bind, Except.bind, pure, Except.pure, assemble, List.map_map, Function.comp_def, zeros3, zeroCol]
  have h0 : ∀ t, (va.map fun _ => ((0 : α), (0 : α), (0 : α))).getD t (0, 0, 0) = (0, 0, 0) := by
    intro t
    rw [List.getD_eq_getElem?_getD, List.getElem?_map]
    cases va[t]? <;> rfl
  simp only [h0]

theorem cellF_unknown_zero (order : Nat) (I : Interpolant α) (vols va : List α) (freqs : List (List (List α))) (j k : Nat)
    (col : List (Triple α)) (h : cellF .unknown order I vols va freqs j k = .ok col) : col = zeroCol va := by
  unfold cellF at h
  split at h
  · exact (Except.ok.inj h).symm
  · split at h
    · cases h
    · simp only [BEq.rfl, if_true] at h
      exact (Except.ok.inj h).symm

/-- the loop when no branch is taken: every cell is still read, the three zero arrays come back -/
theorem loop_generic_none (cf : Nat → Nat → Except Err (List (Triple α))) (va : List α)
    (hz : ∀ j k col, cf j k = .ok col → col = zeroCol va) (nq np : Nat) :
    (Out.collect ((List.range nq).map fun j => Out.collect ((List.range np).map fun k =>
        (Out.ofExcept (cf j k)).map fun _ => (none : Option (List (List α)))))).bind
      (fun cells => Out.collect [assembleOut cells nq np [va.length, nq, np] none,
        assembleOut cells nq np [va.length, nq, np] none, assembleOut cells nq np [va.length, nq, np] none])
      = (Out.ofExcept (modesOf cf va nq np)).map fun r => [r.1, r.2.1, r.2.2] := by
  rw [cells_transfer]
  cases hc : cellsOf cf nq np with
  | error e => simp [modesOf, hc, Out.ofExcept, Out.map, bind, Except.bind]
  | ok c =>
    obtain ⟨col, hcol, rfl⟩ := cellsOf_table cf nq np c hc
    rw [modesOf_zero cf va nq np fun j hj k hk => by rw [hcol j hj k hk, hz j k _ (hcol j hj k hk)]]
    rfl


/-! ### `interpolate_modes` on the generated data -/

/-- every volume has the `nq × np` frequencies the header announces -/
def Shaped (volumes : List (α × List (List α))) (nq np : Nat) : Prop :=
  ∀ vl ∈ volumes, ∀ j, j < nq → ∀ k, k < np → ∃ row x, vl.2[j]? = some row ∧ row[k]? = some x

theorem scalarsOf_map {β : Type} (l : List β) (f : β → α) : scalarsOf (l.map fun x => Val.scalar (f x)) = .ok (l.map f) := by
  induction l with
  | nil => rfl
  | cons x xs ih => simp [scalarsOf, ih]

def elemOut (vl : α × List (List α)) (j k : Nat) : Out (Val α) :=
  match vl.2[j]? with
  | none => .raise indexError
  | some row =>
    match row[k]? with
    | none => .raise indexError
    | some x => .ok (.scalar x)

/-- the comprehension over the volumes IS `seriesE`: same values, `IndexError` at the same (first) volume -/
theorem series_collect (volumes : List (α × List (List α))) (j k : Nat) (F : α × List (List α) → Out (Val α))
    (hF : ∀ vl, F vl = elemOut vl j k) :
    Out.collect (volumes.map F) = (Out.ofExcept (seriesE (volumes.map (·.2)) j k)).map fun xs => xs.map Val.scalar := by
  induction volumes with
  | nil => rfl
  | cons v vs ih =>
    simp only [List.map_cons, Out.collect, ih, hF v, elemOut, seriesE]
    cases h1 : v.2[j]? with
    | none => simp [Out.ofExcept, Out.map]
    | some row =>
      cases h2 : row[k]? with
      | none => simp [Out.ofExcept, Out.map, h2]
      | some x =>
        cases seriesE (vs.map (·.2)) j k with
        | error e => simp [Out.ofExcept, Out.map, h2]
        | ok xs => simp [Out.ofExcept, Out.map, h2]

theorem scalarsOf_scalars (xs : List α) : scalarsOf (xs.map Val.scalar) = .ok xs := by
  have := scalarsOf_map xs (fun x : α => x)
  simpa using this

theorem collect_replicate {β : Type} (n : Nat) (v : β) : Out.collect (List.replicate n (Out.ok v)) = .ok (List.replicate n v) := by
  induction n with
  | zero => rfl
  | succ n ih => simp [List.replicate_succ, Out.collect, ih]

theorem collect2_congr {β : Type} (nq np : Nat) (f g : Nat → Nat → Out β) (h : ∀ j, j < nq → ∀ k, k < np → f j k = g j k) :
    Out.collect ((List.range nq).map fun j => Out.collect ((List.range np).map fun k => f j k))
      = Out.collect ((List.range nq).map fun j => Out.collect ((List.range np).map fun k => g j k)) := by
  congr 1
  refine List.map_congr_left fun j hj => ?_
  congr 1
  exact List.map_congr_left fun k hk => h j (List.mem_range.mp hj) k (List.mem_range.mp hk)

/-- prologue of `interpolate_modes` (arguments, header fields, shapes, node volumes, loop ranges) and the dispatch chain -/
local macro "loop_prologue" "[" ts:Lean.Parser.Tactic.simpLemma,* "]" : tactic =>
  `(tactic| simp [LoopSpec.run, loop, bindArgs, lookup, evalSeq, evalShapes, natsOf, Ex.eval, evalArgs, evalKw, evalUKw, attrVal_nv,
      attrVal_nq, attrVal_np, attrVal_shape, attrVal_volumes, attrVal_volume, indexVal_shape, Out.ofOption, collect_ok_map,
      scalarsOf_map, applyFn_array, applyFn_range, chooseDispatch, eqVal_str, isinVal_strs, targetOk, targetPos, List.lookup,
      List.findIdx_cons, $ts,*])

/-- one pass through the loop body up to the call of the mode function -/
local macro "cell_eval" "[" ts:Lean.Parser.Tactic.simpLemma,* "]" : tactic =>
  `(tactic| simp [cellRun, loop, lookup, Ex.eval, evalArgs, evalKw, evalUKw, Out.ofOption, eqVal_nat, isinVal_range, applyFn_range,
      attrVal_volumes, attrVal_qpoints, $ts,*])

 set_option hygiene false in
/-- the element expression of the series comprehension, evaluated for one volume -/
local macro "elem_eval" : tactic =>
  `(tactic| (
    intro vl
    simp only [elemOut, indexVal_qpts]
    cases vl.2[j]? with
    | none => simp [indexError]
    | some row =>
      simp only [bind_ok, attrVal_modes, indexVal_pylist]
      cases row[k]? with
      | none => simp [indexError]
      | some x => simp))

set_option hygiene false in
/-- the proof for one method: `m` = the model's method, `I` = its kernel, `thm` = the source theorem of the function it dispatches to,
applied up to the two node arrays -/
local macro "loop_case" m:term "," I:term "," thm:term : tactic =>
  `(tactic| (
    loop_prologue []
    rw [collect2_congr nq np _ (fun j k => (Out.ofExcept (cellF $m order $I (volumes.map (·.1)) va (volumes.map (·.2)) j k)).map
        (toMine j k))]
    · have hg := loop_generic (cellF $m order $I (volumes.map (·.1)) va (volumes.map (·.2))) va
        (cellF_ok $m order $I hI (volumes.map (·.1)) va (volumes.map (·.2))) nq np
      exact hg
    · intro j hj k hk
      by_cases hskip : (j == 0 && decide (k < 3)) = true
      · have h0 : j = 0 := by simp at hskip; exact hskip.1
        have h3 : k < 3 := by simp at hskip; exact hskip.2
        cell_eval [h0, h3, cellF, toMine, Out.ofExcept, Out.map]
      · have hs : ¬ (j = 0 ∧ k < 3) := by simpa using hskip
        have hk3 : (j == 0) = true → decide (k < 3) = false := by
          intro h0
          have h0' : j = 0 := by simpa using h0
          simpa using fun h => hs ⟨h0', h⟩
        have hnot : (j == 0 && decide (k < 3)) = false := by simpa using hskip
        have hmu : ($m == Method.unknown) = false := by decide
        cases hj0 : (j == 0) <;>
        · cell_eval [hj0, hk3]
          rw [series_collect volumes j k _ (by elem_eval)]
          unfold cellF
          rw [hnot]
          cases hser : seriesE (volumes.map (·.2)) j k with
          | error e => simp [Out.ofExcept, Out.map]
          | ok ser =>
            simp only [Out.ofExcept, Out.map, bind_ok, scalarsOf_scalars, applyFn_array]
            rw [$thm:term]
            simp only [hmu, Bool.false_eq_true, if_false]
            generalize interpolateModeF $m order $I _ ser va = R
            cases R <;> simp [Out.ofExcept, Out.map, colsVal, toMine, hnot, cols3]))

section LoopData
variable (env : Env α) (order nv nq np : Nat) (volumes : List (α × List (List α))) (va : List α) (s : String)

/-- the locals of `interpolate_modes` when its loops start -/
def loopLocals : Locals α :=
  [("l7", .arr (volumes.map (·.1))), ("l3", .nat va.length), ("l2", .nat np), ("l1", .nat nq), ("l0", .nat nv),
    ("qha_input", .qha nv nq np volumes), ("v_array", .arr va), ("method", .str s), ("order", .nat order)]

/-- `if j == 0 and k in range(3): continue` -/
theorem loop_skip (j k : Nat) :
    loop.skip.eval env (runFn fns env 2) (("l9", .nat k) :: ("l8", .nat j) :: loopLocals order nv nq np volumes va s)
      = .ok (.bool (j == 0 && decide (k < 3))) := by
  simp only [mg_simp, loop, loopLocals, String.reduceBEq]
  cases j == 0 <;> rfl

theorem loop_series (j k : Nat) :
    loop.series.2.eval env (runFn fns env 2) (("l9", .nat k) :: ("l8", .nat j) :: loopLocals order nv nq np volumes va s)
      = (Out.ofExcept (seriesE (volumes.map (·.2)) j k)).map Val.arr := by
  simp only [mg_simp, loop, loopLocals, String.reduceBEq]
  rw [series_collect volumes j k _ fun vl => by
    unfold elemOut
    cases vl.2[j]? with
    | none => rfl
    | some row =>
      cases h : row[k]? <;> simp only [bind_ok, attrVal_modes, indexVal_pylist, h]
      rfl]
  cases seriesE (volumes.map (·.2)) j k with
  | error e => rfl
  | ok ser => simp only [Out.ofExcept, Out.map, bind_ok, scalarsOf_scalars, applyFn_array]

theorem chooseDispatch_mem {user : String → List (Val α) → List (String × Val α) → Out (Val α)} {loc : Locals α} {d : Dispatch} :
    ∀ {rows : List Dispatch}, chooseDispatch env user loc rows = .ok (some d) → d ∈ rows
  | [], h => by cases h
  | r :: rest, h => by
    unfold chooseDispatch at h
    cases ht : r.test.eval env user loc with
    | ok b =>
      rw [ht, bind_ok] at h
      split at h
      · cases h; exact List.mem_cons_self
      · exact List.mem_cons_of_mem _ (chooseDispatch_mem h)
      · cases h
    | raise e => rw [ht] at h; cases h
    | stuck => rw [ht] at h; cases h

theorem rows_ok : ∀ d ∈ loop.dispatch, d.args = [.var "l7", .var "l10", .var "v_array"] ∧
    (d.targets.all (targetOk · "l8" "l9") ∧ (d.targets.map (·.array)).Nodup) ∧
    targetPos d.targets "l4" = some 0 ∧ targetPos d.targets "l5" = some 1 ∧ targetPos d.targets "l6" = some 2 := by
  intro d hd
  simp only [loop, List.mem_cons, List.not_mem_nil, or_false] at hd
  rcases hd with rfl | rfl | rfl | rfl | rfl <;> exact ⟨rfl, by decide, rfl, rfl, rfl⟩

theorem cellRun_none (I : Interpolant α) (j k : Nat) :
    cellRun loop fns env (loopLocals order nv nq np volumes va s) none "l8" "l9" j k
      = (Out.ofExcept (cellF .unknown order I (volumes.map (·.1)) va (volumes.map (·.2)) j k)).map fun _ => none := by
  have hser := loop_series env order nv nq np volumes va s j k
  have hsk := loop_skip env order nv nq np volumes va s j k
  simp only [loop] at hser hsk
  simp only [cellRun, loop, hsk, hser, bind_ok]
  unfold cellF
  cases (j == 0 && decide (k < 3))
  · cases seriesE (volumes.map (·.2)) j k <;> rfl
  · rfl

variable {order nv nq np volumes va s}

/-- `interpolate_modes` around its loops, for every method string; `chosen` is what the dispatch chain takes -/
theorem loop_run_eq (chosen : Option Dispatch)
    (hch : chooseDispatch env (runFn fns env 2) (loopLocals order nv nq np volumes va s) loop.dispatch = .ok chosen) :
    loop.run fns env [.qha nv nq np volumes, .arr va, .str s, .nat order]
      = (Out.collect ((List.range nq).map fun j => Out.collect ((List.range np).map fun k =>
          cellRun loop fns env (loopLocals order nv nq np volumes va s) chosen "l8" "l9" j k))).bind fun cells =>
        match chosen with
        | none => Out.collect [assembleOut cells nq np [va.length, nq, np] none, assembleOut cells nq np [va.length, nq, np] none,
            assembleOut cells nq np [va.length, nq, np] none]
        | some d =>
          if d.targets.all (targetOk · "l8" "l9") ∧ (d.targets.map (·.array)).Nodup then
            Out.collect [assembleOut cells nq np [va.length, nq, np] (targetPos d.targets "l4"),
              assembleOut cells nq np [va.length, nq, np] (targetPos d.targets "l5"),
              assembleOut cells nq np [va.length, nq, np] (targetPos d.targets "l6")]
          else .stuck := by
  simp only [loopLocals, loop] at hch
  simp only [mg_simp, LoopSpec.run, loop, loopLocals, collect_ok_map, scalarsOf_map, List.lookup, List.map_cons, List.map_nil,
    String.reduceBEq, ↓reduceIte, hch]
  cases chosen <;> rfl

/-- the loop for the row `d` of the dispatch chain: if the function the row calls is the model's `interpolateModeF m` on every series,
`interpolate_modes` is the model's `interpolateModesF m` -/
theorem loop_row (m : Method) (I : Interpolant α) (hm : m ≠ .unknown) (hI : LenFor m I) {d : Dispatch} {ks : List (String × Val α)}
    (hch : chooseDispatch env (runFn fns env 2) (loopLocals order nv nq np volumes va s) loop.dispatch = .ok (some d))
    (hks : ∀ j k ser, evalUKw env (runFn fns env 2)
      (("l10", .arr ser) :: ("l9", .nat k) :: ("l8", .nat j) :: loopLocals order nv nq np volumes va s) d.kw = .ok ks)
    (hcall : ∀ ser, runFn fns env 2 d.callee [.arr (volumes.map (·.1)), .arr ser, .arr va] ks
      = (Out.ofExcept (interpolateModeF m order I (volumes.map (·.1)) ser va)).map colsVal) :
    loop.run fns env [.qha nv nq np volumes, .arr va, .str s, .nat order]
      = (Out.ofExcept (interpolateModesF m order I (volumes.map (·.1)) va nq np (volumes.map (·.2)))).map
          fun r => [r.1, r.2.1, r.2.2] := by
  obtain ⟨hargs, htg, h4, h5, h6⟩ := rows_ok d (chooseDispatch_mem env hch)
  have hcell : ∀ j k, cellRun loop fns env (loopLocals order nv nq np volumes va s) (some d) "l8" "l9" j k
      = (Out.ofExcept (cellF m order I (volumes.map (·.1)) va (volumes.map (·.2)) j k)).map (toMine j k) := by
    intro j k
    have hser := loop_series env order nv nq np volumes va s j k
    have hsk := loop_skip env order nv nq np volumes va s j k
    simp only [loop] at hser hsk
    simp only [cellRun, loop, hsk, hser, bind_ok]
    unfold cellF
    cases hskip : (j == 0 && decide (k < 3))
    · cases seriesE (volumes.map (·.2)) j k with
      | error e => rfl
      | ok ser =>
        have hmu : (m == Method.unknown) = false := by simpa using hm
        simp only [Out.ofExcept, Out.map, bind_ok, hargs, hks]
        simp only [mg_simp, loopLocals, String.reduceBEq, hcall, hmu, if_false]
        cases interpolateModeF m order I (volumes.map (·.1)) ser va <;> simp [Out.ofExcept, Out.map, colsVal, toMine, hskip, cols3]
    · simp [Out.ofExcept, Out.map, toMine, hskip]
  simp only [loop_run_eq env _ hch, hcell, htg, h4, h5, h6, if_true]
  exact loop_generic _ va (cellF_ok m order I hI _ va _) nq np

/-- no row taken: nothing is assigned, but every non-acoustic series is still read (`IndexError`) -/
theorem loop_none (I : Interpolant α)
    (hch : chooseDispatch env (runFn fns env 2) (loopLocals order nv nq np volumes va s) loop.dispatch = .ok none) :
    loop.run fns env [.qha nv nq np volumes, .arr va, .str s, .nat order]
      = (Out.ofExcept (interpolateModesF .unknown order I (volumes.map (·.1)) va nq np (volumes.map (·.2)))).map
          fun r => [r.1, r.2.1, r.2.2] := by
  simp only [loop_run_eq env _ hch, cellRun_none env order nv nq np volumes va s I]
  exact loop_generic_none _ va (cellF_unknown_zero order I _ va _) nq np

end LoopData

/-- The loop is the source's.  For every method string `s` (the seven of the dispatch table and any other), every order, EVERY input
— no volume, volume blocks with too few q-points or modes included — and every library whose kernel returns one sample per evaluation
point: the interpretation of the translated `interpolate_modes` is the model's `interpolateModesF` for the method `Method.ofString s`,
run with the kernel the libraries provide for that method — same arrays in the same order, same first exception. -/
theorem loop_is_source (env : Env α) (s : String) (order nv nq np : Nat) (volumes : List (α × List (List α))) (va : List α)
    (hI : LenFor (Method.ofString s) (env.kernelFor (Method.ofString s) order)) :
    loop.run fns env [.qha nv nq np volumes, .arr va, .str s, .nat order]
      = (Out.ofExcept (interpolateModesF (Method.ofString s) order (env.kernelFor (Method.ofString s) order)
            (volumes.map (·.1)) va nq np (volumes.map (·.2)))).map fun r => [r.1, r.2.1, r.2.2] := by
  -- for a method of the table: the row the chain takes and its keyword arguments are computed (`rfl`)
  by_cases h1 : s = "spline"
  · subst h1
    exact loop_row env .spline (env.spline order) (by decide) hI rfl (fun _ _ _ => rfl)
      fun ser => spline_is_source env order _ ser va
  by_cases h2 : s = "lagrange"
  · subst h2
    exact loop_row env .lagrange env.lagrange (by decide) hI rfl (fun _ _ _ => rfl)
      fun ser => lagrange_is_source env order _ ser va
  by_cases h3 : s = "krogh"
  · subst h3
    exact loop_row env .krogh env.krogh (by decide) hI rfl (fun _ _ _ => rfl)
      fun ser => krogh_is_source env order _ ser va
  by_cases h4 : s = "pchip"
  · subst h4
    exact loop_row env .pchip env.pchip (by decide) hI rfl (fun _ _ _ => rfl)
      fun ser => pchip_is_source env order _ ser va
  by_cases h5 : s = "akima"
  · subst h5
    exact loop_row env .akima env.akima (by decide) hI rfl (fun _ _ _ => rfl)
      fun ser => akima_is_source env order _ ser va
  by_cases h6 : s = "hermite"
  · subst h6
    exact loop_row env .hermite _ (by decide) (fun h => absurd rfl h) rfl (fun _ _ _ => rfl)
      fun ser => hermite_is_source env _ order _ ser va
  by_cases h7 : s = "lsq_poly"
  · subst h7
    exact loop_row env .lsqPoly (lsqKernel env.lstsq order) (by decide) hI rfl (fun _ _ _ => rfl)
      fun ser => lsq_poly_is_source env order _ ser va
  have hm : Method.ofString s = .unknown := by
    unfold Method.ofString
    split <;> simp_all
  rw [hm]
  refine loop_none env _ ?_
  simp only [mg_simp, chooseDispatch, loop, loopLocals, String.reduceBEq, List.contains_cons, List.contains_nil, beq_false_of_ne h1,
    beq_false_of_ne h2, beq_false_of_ne h3, beq_false_of_ne h4, beq_false_of_ne h5, beq_false_of_ne h6, beq_false_of_ne h7]

/-! ### the faithful model on well-formed inputs is the model of `CijModel/Interp.lean` -/

theorem seriesE_ok (freqs : List (List (List α))) (j k : Nat) (ser : List α) (h : seriesE freqs j k = .ok ser) :
    ser = series freqs j k := by
  induction freqs generalizing ser with
  | nil => simp [seriesE] at h; subst h; rfl
  | cons v vs ih =>
    unfold seriesE at h
    cases h1 : v[j]? with
    | none => simp [h1] at h
    | some row =>
      cases h2 : row[k]? with
      | none => simp [h1, h2] at h
      | some x =>
        cases h3 : seriesE vs j k with
        | error e => simp [h1, h2, h3] at h
        | ok xs =>
          simp only [h1, h2, h3, Except.ok.injEq] at h
          subst h
          simp [series, List.getD_eq_getElem?_getD, h1, h2, ih xs h3]

theorem seriesE_shaped (freqs : List (List (List α))) (j k : Nat)
    (h : ∀ vol ∈ freqs, ∃ row x, vol[j]? = some row ∧ row[k]? = some x) : seriesE freqs j k = .ok (series freqs j k) := by
  induction freqs with
  | nil => rfl
  | cons v vs ih =>
    obtain ⟨row, x, h1, h2⟩ := h v List.mem_cons_self
    have := ih fun vol hv => h vol (List.mem_cons_of_mem _ hv)
    simp [seriesE, h1, h2, this, series, List.getD_eq_getElem?_getD]

/-- with at least one volume and node arrays of equal length (what `interpolate_modes` builds) `modeNodesF` is `modeNodes` -/
theorem modeNodesF_eq {β : Type} (m : Method) (order : Nat) (vols freqs : List β) (hl : vols.length = freqs.length) (hne : vols ≠ []) :
    modeNodesF m order vols freqs = modeNodes m order vols freqs := by
  by_cases ho : order = 0
  · subst ho; cases m <;> rfl
  · have hk : thinInterval vols.length order ≠ 0 := thinInterval_ne_zero _ _ (by simpa using hne) ho
    cases m <;> simp only [modeNodesF, modeNodes, thin, beq_iff_eq, ho, hk, if_false, ← hl]

theorem interpolateModeF_eq (m : Method) (order : Nat) (I : Interpolant α) (vols freqs va : List α) (hl : vols.length = freqs.length)
    (hne : vols ≠ []) : interpolateModeF m order I vols freqs va = interpolateMode m order I vols freqs va := by
  unfold interpolateModeF interpolateMode
  rw [modeNodesF_eq m order vols freqs hl hne]

theorem cellsOf_congr {β : Type} (f g : Nat → Nat → Except Err β) (nq np : Nat) (h : ∀ j, j < nq → ∀ k, k < np → f j k = g j k) :
    cellsOf f nq np = cellsOf g nq np := by
  unfold cellsOf
  congr 1
  refine List.map_congr_left fun j hj => ?_
  congr 1
  exact List.map_congr_left fun k hk => h j (List.mem_range.mp hj) k (List.mem_range.mp hk)

/-- on well-formed inputs (at least one volume, every block with the `nq × np` frequencies of the header) the model with the exceptions is the model
the other theorems of C11 and C13 are stated about -/
theorem interpolateModesF_eq (m : Method) (order : Nat) (I : Interpolant α) (va : List α) (nq np : Nat)
    (volumes : List (α × List (List α))) (hne : volumes ≠ []) (hshape : Shaped volumes nq np) :
    interpolateModesF m order I (volumes.map (·.1)) va nq np (volumes.map (·.2))
      = interpolateModes m order I (volumes.map (·.1)) va nq np (volumes.map (·.2)) := by
  unfold interpolateModesF interpolateModes cells
  rw [cellsOf_congr _ (fun j k => cell m order I (volumes.map (·.1)) va j k (series (volumes.map (·.2)) j k)) nq np]
  · rfl
  · intro j hj k hk
    have hs : seriesE (volumes.map (·.2)) j k = .ok (series (volumes.map (·.2)) j k) := by
      apply seriesE_shaped
      intro vol hv
      obtain ⟨vl, hvl, rfl⟩ := List.mem_map.mp hv
      exact hshape vl hvl j hj k hk
    unfold cellF cell
    simp only [hs]
    rw [interpolateModeF_eq m order I _ _ va (by simp [series]) (by simpa using hne)]

/-! ### the libraries the model is run with -/

theorem lenOK_lsqKernel (S : List (List α) → List α → Except Err (List α)) (order : Nat) : LenOK (lsqKernel S order) := by
  intro xs ys pts r h
  unfold lsqKernel at h
  split at h
  · cases h
  · cases h; simp

section Std
variable {β : Type} [Add β] [Sub β] [Mul β] [Div β] [Neg β] [Zero β] [One β] [NatCast β] [BEq β] [LT β] [DecidableLT β] [LE β]
  [DecidableLE β] [ExpLog β]

/-- contract of `numpy.linalg.lstsq` on the systems `lstsq_polyfit` builds: on `vander(x, n + 1)` and a 1-d right-hand side it returns
what the model's exact solver `lstsqPolyfit` returns (which IS the least-squares polynomial: `lsq_minimises`, `lsq_total`) -/
def SolvesVander (S : List (List β) → List β → Except Err (List β)) : Prop :=
  ∀ xs ys n, S (vander xs (n + 1)) ys = match lstsqPolyfit xs ys n with | some a => .ok a | none => .error .linAlg

theorem lsqKernel_model (S : List (List β) → List β → Except Err (List β)) (hS : SolvesVander S) (order : Nat) :
    lsqKernel S order = lsqInterpolant order := by
  funext xs ys pts
  unfold lsqKernel lsqInterpolant
  rw [hS xs ys order]
  cases lstsqPolyfit xs ys order <;> rfl

theorem lenOK_newton : LenOK (newtonInterpolant : Interpolant β) := by
  intro xs ys pts r h
  unfold newtonInterpolant at h
  cases h; simp

theorem mapM_length {γ δ : Type} (f : γ → Option δ) (l : List γ) (r : List δ) (h : l.mapM f = some r) : r.length = l.length := by
  induction l generalizing r with
  | nil => cases h; rfl
  | cons x xs ih =>
    rw [List.mapM_cons] at h
    cases hx : f x <;> cases hxs : xs.mapM f <;> simp [hx, hxs] at h
    subst h
    simp [ih _ hxs]

theorem lenOK_hermite (slopes : List β → List β → List β) : LenOK (PPoly.hermiteInterpolant slopes) := by
  intro xs ys pts r h
  unfold PPoly.hermiteInterpolant at h
  split at h
  · simp only at h
    split at h
    · rename_i r' hr
      cases h
      exact mapM_length _ _ _ hr
    · cases h
  · cases h

/-- the libraries as the model has them: FITPACK a parameter `lib`, the interpolating polynomial (Newton form) for `lagrange` and
`krogh`, the modelled scipy classes for `pchip` and `akima`, a least-squares solver `S` -/
def stdEnv (lib : Interpolant β) (S : List (List β) → List β → Except Err (List β)) : Env β :=
  ⟨fun _ => lib, newtonInterpolant, newtonInterpolant, PPoly.pchipInterpolant, PPoly.akimaInterpolant, S⟩

theorem stdEnv_kernelFor (lib : Interpolant β) (S : List (List β) → List β → Except Err (List β)) (hS : SolvesVander S)
    (m : Method) (order : Nat) : (stdEnv lib S).kernelFor m order = PPoly.kernelFull m order lib := by
  cases m <;> simp [stdEnv, Env.kernelFor, PPoly.kernelFull, kernelOf, lsqKernel_model S hS]

theorem stdEnv_lenOK_of (lib : Interpolant β) (S : List (List β) → List β → Except Err (List β)) (m : Method) (order : Nat)
    (hlib : m = .spline ∨ m = .hermite ∨ m = .unknown → LenOK lib) : LenOK ((stdEnv lib S).kernelFor m order) := by
  cases m
  case spline | hermite | unknown => exact hlib (by simp)
  case lagrange | krogh => exact lenOK_newton
  case pchip | akima => exact lenOK_hermite _
  case lsqPoly => exact lenOK_lsqKernel S order

theorem stdEnv_lenOK (lib : Interpolant β) (hlib : LenOK lib) (S : List (List β) → List β → Except Err (List β)) (m : Method)
    (order : Nat) : LenOK ((stdEnv lib S).kernelFor m order) :=
  stdEnv_lenOK_of lib S m order fun _ => hlib

/-- with the libraries of `stdEnv` the loop's kernel contract holds for every method but the
FITPACK spline, for which it is the contract of the parameter `lib` -/
theorem stdEnv_lenFor (lib : Interpolant β) (S : List (List β) → List β → Except Err (List β)) (m : Method) (order : Nat)
    (hlib : m = .spline → LenOK lib) : LenFor m ((stdEnv lib S).kernelFor m order) :=
  fun hh hu => stdEnv_lenOK_of lib S m order fun h => h.elim hlib fun h => h.elim (absurd · hh) (absurd · hu)

/-- contract of `numpy.linalg.lstsq` including the system with NO rows (no volume): the zero solution there (minimum norm, no
exception), the model's exact solver otherwise -/
def SolvesVanderF (S : List (List β) → List β → Except Err (List β)) : Prop :=
  ∀ xs ys n, S (vander xs (n + 1)) ys =
    if xs.isEmpty then .ok (List.replicate (n + 1) 0)
    else match lstsqPolyfit xs ys n with | some a => .ok a | none => .error .linAlg

theorem lsqKernel_modelF (S : List (List β) → List β → Except Err (List β)) (hS : SolvesVanderF S) (order : Nat) :
    lsqKernel S order = lsqInterpolantF order := by
  funext xs ys pts
  unfold lsqKernel lsqInterpolantF lsqInterpolant
  rw [hS xs ys order]
  by_cases h : xs.isEmpty
  · simp [h]
  · simp only [h, Bool.false_eq_true, if_false]
    cases lstsqPolyfit xs ys order <;> rfl

theorem lenOK_lsqInterpolantF (order : Nat) : LenOK (lsqInterpolantF order : Interpolant β) := by
  intro xs ys pts r h
  unfold lsqInterpolantF lsqInterpolant at h
  split at h
  · cases h; simp
  · split at h
    · cases h
    · cases h; simp

end Std

/-- for the examples of Properties/C11.lean: the translated loop RUN over ℚ with exp = log = id, the libraries of `stdEnv` (a stand-in
spline library that raises `ValueError`, a solver that raises), a header with ONE q-point and `np` modes, the grid `[4]` -/
def runQ (vols : List (Rat × List (List Rat))) (np : Nat) (s : String) (order : Nat) : Out (List (List (List (List Rat)))) :=
  letI : ExpLog Rat := ⟨id, id⟩
  loop.run (α := Rat) fns (stdEnv (β := Rat) (fun _ _ _ => Except.error Err.valueError) (fun _ _ => Except.error Err.linAlg))
    [.qha vols.length 1 np vols, .arr [4], .str s, .nat order]

/-! ### inventory -/

def allExprs : List Ex := fns.flatMap FnSpec.exprs ++ loop.exprs

/-- every library function / class the module names -/
def usedLibs : List Lib := allExprs.flatMap Ex.libs

/-- everything the translator could not place in its grammar -/
def outsideGrammar : List String :=
  allExprs.flatMap Ex.outside ++ loop.dispatch.flatMap fun d => d.targets.flatMap fun t => t.index.flatMap AxisSel.outside

/-- nothing of the module is outside the grammar: no `other` expression, no unknown dotted name, no unknown keyword, no unknown index -/
theorem nothing_outside : outsideGrammar = [] := by decide +kernel

/-- the library functions the module calls are, without repetition, these (in order of first use); in particular the ONLY elementwise
transcendental functions are `numpy.log` and `numpy.exp` -/
theorem used_libs : usedLibs.eraseDups =
    [.spUnivariateSpline, .npFlip, .npLog, .npExp, .pyInt, .npCeil, .spLagrange, .npPolyder, .spKrogh, .spPchip, .spAkima, .spHermite,
      .npVander, .npLstsq, .npPoly1d, .npPolyval, .npArray, .pyRange] := by decide +kernel

/-- the translator's name tables are the inverse of `Lib.pyName` / `Kw.pyName` -/
theorem tables_ok : (∀ e ∈ Generated.ModeGammaGlue.libTable, e.2.pyName = e.1) ∧ (∀ e ∈ Generated.ModeGammaGlue.kwTable, e.2.pyName = e.1) := by
  decide +kernel

/-- every `def` / `lambda` / `class` of the file is one of the seven translated functions (each defined once), nothing is
only pinned; the module has no statement besides imports and these definitions; `numpy` is numpy and `scipy` is scipy -/
theorem inventory_complete :
    Generated.ModeGammaGlue.definedFunctions = Generated.ModeGammaGlue.handled.map (·.1) ∧
    Generated.ModeGammaGlue.definedFunctions.Nodup ∧
    (∀ h ∈ Generated.ModeGammaGlue.handled, h.2 = .translated "fns" ∨ h.2 = .translated "loop") ∧
    Generated.ModeGammaGlue.definedFunctions = fns.map (·.name) ++ [loop.name] ∧
    Generated.ModeGammaGlue.moduleAssigns = [] ∧ Generated.ModeGammaGlue.moduleOtherStatements = [] ∧
    (∀ e ∈ Generated.ModeGammaGlue.imports, (e.1 = "numpy" → e.2 = "numpy") ∧ (e.1 = "scipy" → e.2.startsWith "scipy") ∧
      e.1 ∉ Generated.ModeGammaGlue.definedFunctions) := by
  decide +kernel

end Cij.ModeGammaGlue
