/- Lemmas about `CijModel/Shear.lean` for C03 and C04: consequences of the eigen contract, frame independence of the strain
   energy, rotation of tensors that factor over pairings of their indices, the energy loop as sums; ending in `shearValue_exact`. -/
import CijModel.Shear
import Mathlib.LinearAlgebra.Matrix.NonsingularInverse
import Mathlib.Algebra.BigOperators.Fin
import Mathlib.Tactic.Ring
import Mathlib.Tactic.FieldSimp
import Mathlib.Tactic.FinCases
import Mathlib.Tactic.LinearCombination

/- the derived `BEq` of the key types is the structural equality (needed for `Decidable (k ∈ l)`) -/
deriving instance ReflBEq, LawfulBEq for Cij.Strain
deriving instance ReflBEq, LawfulBEq for Cij.Modulus

namespace Cij.Shear

section algebra
open Finset

theorem sum3_eq {M} [AddCommMonoid M] (f : Fin 3 → M) : sum3 f = ∑ i, f i := by
  simp [sum3, Fin.sum_univ_three]

section swaps
variable {ι κ M : Type*} [Fintype ι] [Fintype κ] [AddCommMonoid M]

theorem sum_out3 (f : ι → ι → ι → κ → M) :
    ∑ i, ∑ j, ∑ k, ∑ a, f i j k a = ∑ a, ∑ i, ∑ j, ∑ k, f i j k a := by
  calc ∑ i, ∑ j, ∑ k, ∑ a, f i j k a = ∑ i, ∑ a, ∑ j, ∑ k, f i j k a :=
        sum_congr rfl fun i _ => sum_comm_cycle
    _ = ∑ a, ∑ i, ∑ j, ∑ k, f i j k a := sum_comm

theorem sum_out4 (f : ι → ι → ι → ι → κ → M) :
    ∑ i, ∑ j, ∑ k, ∑ l, ∑ a, f i j k l a = ∑ a, ∑ i, ∑ j, ∑ k, ∑ l, f i j k l a := by
  calc ∑ i, ∑ j, ∑ k, ∑ l, ∑ a, f i j k l a = ∑ i, ∑ a, ∑ j, ∑ k, ∑ l, f i j k l a :=
        sum_congr rfl fun i _ => sum_out3 (f i)
    _ = ∑ a, ∑ i, ∑ j, ∑ k, ∑ l, f i j k l a := sum_comm

theorem sum_swap22 (f : ι → ι → ι → ι → M) :
    ∑ k, ∑ l, ∑ i, ∑ j, f k l i j = ∑ i, ∑ j, ∑ k, ∑ l, f k l i j := by
  calc ∑ k, ∑ l, ∑ i, ∑ j, f k l i j = ∑ i, ∑ k, ∑ l, ∑ j, f k l i j :=
        sum_comm_cycle
    _ = ∑ i, ∑ j, ∑ k, ∑ l, f k l i j := sum_congr rfl fun i _ => sum_comm_cycle

end swaps

section contract
variable {R : Type} [CommRing R]

theorem Contract.orth' {T : Mat3 R} {lam : Vec3 R} {e : Mat3 R} (h : Contract T lam e) (a b : Fin 3) :
    ∑ i, T i a * T i b = if a = b then 1 else 0 := by
  have := h.orth a b
  rw [sum3_eq] at this
  simpa using this

theorem Contract.diag' {T : Mat3 R} {lam : Vec3 R} {e : Mat3 R} (h : Contract T lam e) (a b : Fin 3) :
    ∑ i, ∑ j, T i a * e i j * T j b = if a = b then lam a else 0 := by
  have := h.diag a b
  simp only [sum3_eq] at this
  simpa using this

/-- `strain_rotated` reads only the squares of the entries of `T`: `(Tᵀ diag(s) T)_aa = Σ_i T_ia² s_i` -/
theorem strainRotated_sq (T : Mat3 R) (s : Vec3 R) (a : Fin 3) :
    strainRotated T s a = T 0 a * T 0 a * s 0 + T 1 a * T 1 a * s 1 + T 2 a * T 2 a * s 2 := by
  simp only [strainRotated, sum3]
  simp
  ring

theorem Contract.rows {T : Mat3 R} {lam : Vec3 R} {e : Mat3 R} (h : Contract T lam e) (i j : Fin 3) :
    ∑ a, T i a * T j a = if i = j then 1 else 0 := by
  have h1 : (Matrix.of T).transpose * Matrix.of T = 1 := by
    ext a b
    simp only [Matrix.mul_apply, Matrix.transpose_apply, Matrix.of_apply, Matrix.one_apply]
    exact h.orth' a b
  have h2 : Matrix.of T * (Matrix.of T).transpose = 1 :=
    (Matrix.mul_eq_one_comm_of_card_eq (Fin 3) (Fin 3) R rfl).mp h1
  have := congrFun (congrFun h2 i) j
  simpa [Matrix.mul_apply, Matrix.one_apply] using this

theorem Contract.decomp {T : Mat3 R} {lam : Vec3 R} {e : Mat3 R} (h : Contract T lam e) (i j : Fin 3) :
    e i j = ∑ a, T i a * lam a * T j a := by
  -- e_ij = Σ_{k l} (TTᵀ)_ik e_kl (TTᵀ)_lj = Σ_{a b} T_ia (TᵀeT)_ab T_jb
  have hI : e i j = ∑ k, ∑ l, (∑ a, T i a * T k a) * e k l * (∑ b, T l b * T j b) := by
    simp only [h.rows]
    simp [Finset.sum_ite_eq, Finset.sum_ite_eq']
  rw [hI]
  have : ∀ k l, (∑ a, T i a * T k a) * e k l * (∑ b, T l b * T j b) =
      ∑ a, ∑ b, T i a * (T k a * e k l * T l b) * T j b := by
    intro k l
    rw [Finset.sum_mul, Finset.sum_mul]
    refine sum_congr rfl fun a _ => ?_
    rw [Finset.mul_sum]
    refine sum_congr rfl fun b _ => by ring
  simp only [this]
  rw [sum_comm_cycle (f := fun k l a => ∑ b, T i a * (T k a * e k l * T l b) * T j b)]
  refine sum_congr rfl fun a _ => ?_
  rw [sum_comm_cycle (f := fun k l b => T i a * (T k a * e k l * T l b) * T j b)]
  have : ∀ b, ∑ k, ∑ l, T i a * (T k a * e k l * T l b) * T j b =
      T i a * (∑ k, ∑ l, T k a * e k l * T l b) * T j b := by
    intro b
    simp only [Finset.mul_sum, Finset.sum_mul]
  simp only [this, h.diag']
  simp [Finset.sum_ite_eq]

theorem Contract.eigvec {T : Mat3 R} {lam : Vec3 R} {e : Mat3 R} (h : Contract T lam e) (i a : Fin 3) :
    ∑ j, e i j * T j a = lam a * T i a := by
  calc ∑ j, e i j * T j a = ∑ j, (∑ b, T i b * lam b * T j b) * T j a :=
        sum_congr rfl fun j _ => by rw [h.decomp i j]
    _ = ∑ b, T i b * lam b * ∑ j, T j b * T j a := by
        simp only [Finset.sum_mul, Finset.mul_sum]
        rw [Finset.sum_comm]
        exact sum_congr rfl fun b _ => sum_congr rfl fun j _ => by ring
    _ = lam a * T i a := by
        simp only [h.orth']
        simp [Finset.sum_ite_eq']
        ring

theorem Contract.of_eigvecs {T : Mat3 R} {lam : Vec3 R} {e : Mat3 R}
    (orth : ∀ a b, ∑ i, T i a * T i b = if a = b then 1 else 0) (ev : ∀ i a, ∑ j, e i j * T j a = lam a * T i a) :
    Contract T lam e := by
  refine ⟨fun a b => ?_, fun a b => ?_⟩
  · rw [sum3_eq, orth, Nat.cast_one, Nat.cast_zero]
  · simp only [sum3_eq]
    calc ∑ i, ∑ j, T i a * e i j * T j b = ∑ i, T i a * ∑ j, e i j * T j b :=
          sum_congr rfl fun i _ => by rw [Finset.mul_sum]; exact sum_congr rfl fun j _ => mul_assoc ..
      _ = lam b * ∑ i, T i a * T i b := by
          rw [Finset.mul_sum]; exact sum_congr rfl fun i _ => by rw [ev]; ring
      _ = if a = b then lam a else ((0 : Nat) : R) := by
          rw [orth, Nat.cast_zero]; split <;> simp [*]

theorem fict_row_mulVec {key : Modulus} {i c : Fin 3} (h : ∀ j, fictitiousMask key i j = decide (j = c)) (x : Vec3 R) :
    ∑ j, fictitiousStrain key i j * x j = x c := by
  simp only [fictitiousStrain, h, decide_eq_true_eq, Nat.cast_one, Nat.cast_zero, ite_mul, one_mul, zero_mul,
    Finset.sum_ite_eq', Finset.mem_univ, if_true]

theorem fict_row_zero {key : Modulus} {i : Fin 3} (h : ∀ j, fictitiousMask key i j = false) (x : Vec3 R) :
    ∑ j, fictitiousStrain key i j * x j = 0 := by
  simp [fictitiousStrain, h]

/-- the strain energy is frame independent: `Σ C_ijkl e_ij e_kl = Σ_ab C'_aabb λ_a λ_b` (Finset form) -/
theorem energy_invariant_sum {T : Mat3 R} {lam : Vec3 R} {e : Mat3 R} (h : Contract T lam e)
    (C : Fin 3 → Fin 3 → Fin 3 → Fin 3 → R) :
    ∑ i, ∑ j, ∑ k, ∑ l, C i j k l * e i j * e k l =
    ∑ a, ∑ b, (∑ i, ∑ j, ∑ k, ∑ l, T i a * T j a * T k b * T l b * C i j k l) * lam a * lam b := by
  have hterm : ∀ i j k l, C i j k l * e i j * e k l =
      ∑ a, ∑ b, T i a * T j a * T k b * T l b * C i j k l * lam a * lam b := by
    intro i j k l
    rw [h.decomp i j, h.decomp k l, mul_assoc, Finset.sum_mul_sum, Finset.mul_sum]
    refine sum_congr rfl fun a _ => ?_
    rw [Finset.mul_sum]
    refine sum_congr rfl fun b _ => by ring
  simp only [hterm]
  rw [sum_out4 (fun i j k l a => ∑ b, T i a * T j a * T k b * T l b * C i j k l * lam a * lam b)]
  refine sum_congr rfl fun a _ => ?_
  rw [sum_out4 (fun i j k l b => T i a * T j a * T k b * T l b * C i j k l * lam a * lam b)]
  refine sum_congr rfl fun b _ => ?_
  simp only [Finset.sum_mul]

theorem rotate_major (T : Mat3 R) (C : Fin 3 → Fin 3 → Fin 3 → Fin 3 → R)
    (hC : ∀ i j k l, C i j k l = C k l i j) (a b c d : Fin 3) :
    rotate T C a b c d = rotate T C c d a b := by
  simp only [rotate, sum3_eq]
  rw [sum_swap22 (fun i j k l => T i c * T j d * T k a * T l b * C i j k l)]
  refine sum_congr rfl fun i _ => sum_congr rfl fun j _ => sum_congr rfl fun k _ => sum_congr rfl fun l _ => ?_
  rw [hC i j k l]; ring

theorem energy_invariant_model {T : Mat3 R} {lam : Vec3 R} {e : Mat3 R} (h : Contract T lam e)
    (C : Fin 3 → Fin 3 → Fin 3 → Fin 3 → R) :
    (sum3 fun i => sum3 fun j => sum3 fun k => sum3 fun l => C i j k l * e i j * e k l) =
    sum3 fun a => sum3 fun b => rotate T C a a b b * lam a * lam b := by
  simp only [rotate, sum3_eq]
  exact energy_invariant_sum h C

theorem rotate_add (T : Mat3 R) (C D : Fin 3 → Fin 3 → Fin 3 → Fin 3 → R) (a b c d : Fin 3) :
    rotate T (fun i j k l => C i j k l + D i j k l) a b c d = rotate T C a b c d + rotate T D a b c d := by
  simp only [rotate, sum3_eq, mul_add, Finset.sum_add_distrib]

theorem rotate_smul (T : Mat3 R) (x : R) (C : Fin 3 → Fin 3 → Fin 3 → Fin 3 → R) (a b c d : Fin 3) :
    rotate T (fun i j k l => x * C i j k l) a b c d = x * rotate T C a b c d := by
  simp only [rotate, sum3_eq, Finset.mul_sum]
  refine sum_congr rfl fun i _ => sum_congr rfl fun j _ => sum_congr rfl fun k _ => sum_congr rfl fun l _ => by ring

theorem sum_mul_sum4 (f g : Fin 3 → Fin 3 → R) :
    (∑ i, ∑ j, f i j) * ∑ k, ∑ l, g k l = ∑ i, ∑ j, ∑ k, ∑ l, f i j * g k l := by
  rw [Finset.sum_mul]
  refine sum_congr rfl fun i _ => ?_
  rw [Finset.sum_mul]
  refine sum_congr rfl fun j _ => ?_
  rw [Finset.mul_sum]
  exact sum_congr rfl fun k _ => Finset.mul_sum ..

theorem rotate_pair12 (T A B : Mat3 R) (a b c d : Fin 3) :
    rotate T (fun i j k l => A i j * B k l) a b c d =
      (∑ i, ∑ j, T i a * T j b * A i j) * ∑ k, ∑ l, T k c * T l d * B k l := by
  simp only [rotate, sum3_eq, sum_mul_sum4]
  refine sum_congr rfl fun i _ => sum_congr rfl fun j _ => sum_congr rfl fun k _ => sum_congr rfl fun l _ => by ring

theorem rotate_pair13 (T A B : Mat3 R) (a b c d : Fin 3) :
    rotate T (fun i j k l => A i k * B j l) a b c d =
      (∑ i, ∑ k, T i a * T k c * A i k) * ∑ j, ∑ l, T j b * T l d * B j l := by
  simp only [rotate, sum3_eq, sum_mul_sum4]
  refine sum_congr rfl fun i _ => ?_
  rw [Finset.sum_comm]
  refine sum_congr rfl fun k _ => sum_congr rfl fun j _ => sum_congr rfl fun l _ => by ring

theorem rotate_pair14 (T A B : Mat3 R) (a b c d : Fin 3) :
    rotate T (fun i j k l => A i l * B j k) a b c d =
      (∑ i, ∑ l, T i a * T l d * A i l) * ∑ j, ∑ k, T j b * T k c * B j k := by
  simp only [rotate, sum3_eq, sum_mul_sum4]
  refine sum_congr rfl fun i _ => ?_
  rw [sum_comm_cycle (f := fun j k l => T i a * T j b * T k c * T l d * (A i l * B j k))]
  refine sum_congr rfl fun l _ => sum_congr rfl fun j _ => sum_congr rfl fun k _ => by ring

def delta (i j : Fin 3) : R := if i = j then 1 else 0

theorem sum_mul_delta (f : Fin 3 → Fin 3 → R) : ∑ i, ∑ j, f i j * delta i j = ∑ i, f i i := by
  refine sum_congr rfl fun i _ => ?_
  simp only [delta, mul_ite, mul_one, mul_zero, Finset.sum_ite_eq, Finset.mem_univ, if_true]

/-- every orthogonal frame leaves a tensor `x δ_ij δ_kl + y (δ_ik δ_jl + δ_il δ_jk)` unchanged: each pairing rotates to a product of
two entries of `TᵀT` -/
theorem rotate_delta (T : Mat3 R) (horth : ∀ a b, ∑ i, T i a * T i b = delta a b) (x y : R) (a b c d : Fin 3) :
    rotate T (fun i j k l => x * (delta i j * delta k l) + y * (delta i k * delta j l + delta i l * delta j k)) a b c d =
      x * (delta a b * delta c d) + y * (delta a c * delta b d + delta a d * delta b c) := by
  rw [rotate_add, rotate_smul, rotate_smul, rotate_add, rotate_pair12, rotate_pair13, rotate_pair14]
  simp only [sum_mul_delta, horth]

end contract

end algebra

section lists
variable {X : Type} {R : Type}

theorem foldl_add_eq [AddCommMonoid R] (g : X → R) (l : List X) (z : R) :
    l.foldl (fun acc x => acc + g x) z = z + (l.map g).sum := by
  induction l generalizing z with
  | nil => simp
  | cons x xs ih => simp [ih, add_assoc]

theorem sum_map_div [DivisionRing R] (f : X → R) (d : R) (l : List X) :
    (l.map fun x => f x / d).sum = (l.map f).sum / d := by
  induction l with
  | nil => simp
  | cons x xs ih => simp [ih, add_div]

theorem sum_filter_split [AddCommMonoid R] (f : X → R) (p : X → Bool) (l : List X) :
    (l.map f).sum = ((l.filter fun x => !p x).map f).sum + ((l.filter p).map f).sum := by
  induction l with
  | nil => simp
  | cons x xs ih =>
    cases hp : p x <;> simp [hp, ih, add_assoc, add_left_comm]

theorem sum_filter_const [Semiring R] (f : X → R) (p : X → Bool) (v : R) (l : List X)
    (h : ∀ x ∈ l, p x = true → f x = v) : ((l.filter p).map f).sum = ((l.filter p).length : R) * v := by
  induction l with
  | nil => simp
  | cons x xs ih =>
    have ih' := ih (fun y hy => h y (List.mem_cons_of_mem _ hy))
    cases hp : p x
    · simp [hp, ih']
    · simp [hp, ih', h x (List.mem_cons_self) hp, add_mul, add_comm]

theorem sum_filter_of_zero [AddCommMonoid R] (f : X → R) (p : X → Bool) (l : List X)
    (h : ∀ x ∈ l, p x = false → f x = 0) : ((l.filter p).map f).sum = (l.map f).sum := by
  induction l with
  | nil => simp
  | cons x xs ih =>
    have ih' := ih (fun y hy => h y (List.mem_cons_of_mem _ hy))
    cases hp : p x
    · simp [hp, ih', h x (List.mem_cons_self) hp]
    · simp [hp, ih']

theorem mem_product {nz : List Pair} {pq : Pair × Pair} : pq ∈ product nz ↔ pq.1 ∈ nz ∧ pq.2 ∈ nz := by
  obtain ⟨p, q⟩ := pq
  simp only [product, List.mem_flatMap, List.mem_map, Prod.mk.injEq]
  constructor
  · rintro ⟨a, ha, b, hb, rfl, rfl⟩; exact ⟨ha, hb⟩
  · rintro ⟨hp, hq⟩; exact ⟨p, hp, q, hq, rfl, rfl⟩

theorem sum_map_pairs {Y : Type} [AddCommMonoid R] (l1 : List X) (l2 : List Y) (g : X × Y → R) :
    ((l1.flatMap fun p => l2.map fun q => (p, q)).map g).sum = (l1.map fun p => (l2.map fun q => g (p, q)).sum).sum := by
  induction l1 with
  | nil => simp
  | cons x xs ih => simp [List.flatMap_cons, List.map_append, List.sum_append, ih, List.map_map, Function.comp_def]

theorem sum3_eq_map [AddCommMonoid R] (f : Fin 3 → R) : sum3 f = (fin3.map f).sum := by
  simp [sum3, fin3, add_assoc]

theorem product_filter (p : Pair → Bool) (l : List Pair) :
    product (l.filter p) = (product l).filter fun pq => p pq.1 && p pq.2 := by
  have gen : ∀ l1 l2 : List Pair, ((l1.filter p).flatMap fun a => (l2.filter p).map fun b => (a, b)) =
      (l1.flatMap fun a => l2.map fun b => (a, b)).filter fun pq => p pq.1 && p pq.2 := by
    intro l1 l2
    induction l1 with
    | nil => rfl
    | cons a as ih =>
      rw [List.flatMap_cons, List.filter_append, ← ih, List.filter_map]
      cases ha : p a <;> simp [ha, Function.comp_def]
  exact gen l l

end lists

/-- index pairs set to 1 by `fictitious_strain` -/
def maskPairs (key : Modulus) : List Pair := allPairs9.filter fun p => fictitiousMask key p.1 p.2

/-- loop iterations of the original-frame energy that are not skipped -/
def origPairs (key : Modulus) : List (Pair × Pair) :=
  (product (maskPairs key)).filter fun pq => !(decide (some (keyOfPairs pq) = some key))

/-- the skipped ones -/
def targetPairs (key : Modulus) : List (Pair × Pair) :=
  (product (maskPairs key)).filter fun pq => decide (some (keyOfPairs pq) = some key)

theorem key4_major : ∀ i j k l : Fin 3, key4 i j k l = key4 k l i j := by decide +kernel

/-- number of skipped iterations = multiplicity (4 or 8) -/
theorem targetPairs_length : ∀ key ∈ shearKeys, (targetPairs key).length = key.multiplicity := by
  decide +kernel

theorem product_mask (key : Modulus) :
    (product allPairs9).filter (fun pq => fictitiousMask key pq.1.1 pq.1.2 && fictitiousMask key pq.2.1 pq.2.2) =
    product (maskPairs key) :=
  (product_filter (fun p => fictitiousMask key p.1 p.2) allPairs9).symm

/-- the key of a rotated-frame iteration read back through `rotatedLookup`'s indices -/
theorem key4_diag_idx : ∀ a b : Fin 3,
    (idx (key4 a a b b).i.i = a ∧ idx (key4 a a b b).i.j = a ∧ idx (key4 a a b b).j.i = b ∧ idx (key4 a a b b).j.j = b) ∨
    (idx (key4 a a b b).i.i = b ∧ idx (key4 a a b b).i.j = b ∧ idx (key4 a a b b).j.i = a ∧ idx (key4 a a b b).j.j = a) := by
  decide +kernel

theorem key4_diag_nonshear : ∀ a b : Fin 3, (key4 a a b b).isShear = false := by decide +kernel

theorem shearKeys_mult : ∀ key ∈ shearKeys, key.multiplicity = 4 ∨ key.multiplicity = 8 := by decide +kernel

theorem nzPairs_diag {α : Type} [NatCast α] (isZero : α → Bool) (h0 : isZero ((0 : Nat) : α) = true) (lam : Vec3 α) :
    nzPairs isZero (diagMat lam) = (fin3.filter fun a => !isZero (lam a)).map fun a => (a, a) := by
  have hdiag : allPairs9.filter (fun p => decide (p.1 = p.2)) = fin3.map fun a => (a, a) := by decide
  calc allPairs9.filter (fun p => !isZero (diagMat lam p.1 p.2))
      = allPairs9.filter fun p => (!isZero (lam p.1)) && decide (p.1 = p.2) :=
        List.filter_congr fun p _ => by by_cases h : p.1 = p.2 <;> simp [diagMat, h, h0]
    _ = (fin3.map fun a => (a, a)).filter fun p => !isZero (lam p.1) := by rw [← List.filter_filter, hdiag]
    _ = (fin3.filter fun a => !isZero (lam a)).map fun a => (a, a) := List.filter_map

section field
variable {R : Type} [Field R]

theorem nzPairs_fict (isZero : R → Bool) (h0 : isZero (0 : R) = true) (h1 : isZero (1 : R) = false)
    (key : Modulus) : nzPairs isZero (fictitiousStrain key) = maskPairs key := by
  unfold nzPairs maskPairs
  apply List.filter_congr
  intro p _
  unfold fictitiousStrain
  cases fictitiousMask key p.1 p.2 <;> simp [h0, h1]

theorem mem_modulusKeysRotated (isZero : R → Bool) (h0 : isZero (0 : R) = true)
    (lam : Vec3 R) {d : Modulus} (hd : d ∈ modulusKeysRotated isZero lam) : ∃ a b : Fin 3, d = key4 a a b b := by
  unfold modulusKeysRotated energyKeys energyPairs at hd
  rw [nzPairs_diag isZero (by rwa [Nat.cast_zero])] at hd
  obtain ⟨⟨p, q⟩, hpq, rfl⟩ := List.mem_map.mp hd
  have hm := mem_product.mp (List.mem_filter.mp hpq).1
  obtain ⟨a, _, rfl⟩ := List.mem_map.mp hm.1
  obtain ⟨b, _, rfl⟩ := List.mem_map.mp hm.2
  exact ⟨a, b, rfl⟩

theorem energyPairs_fict (isZero : R → Bool) (h0 : isZero (0 : R) = true) (h1 : isZero (1 : R) = false)
    (key : Modulus) : energyPairs isZero (fictitiousStrain key) (some key) = origPairs key := by
  unfold energyPairs origPairs
  rw [nzPairs_fict isZero h0 h1]

theorem isZero_one {isZero : R → Bool} (hz : ∀ x, isZero x = true ↔ x = 0) : isZero (1 : R) = false :=
  Bool.eq_false_iff.2 fun h => one_ne_zero ((hz 1).1 h)

theorem modulusKeys_eq {isZero : R → Bool} (hz : ∀ x, isZero x = true ↔ x = 0) (key : Modulus) :
    modulusKeys isZero key = (origPairs key).map keyOfPairs := by
  unfold modulusKeys energyKeys
  rw [energyPairs_fict isZero ((hz 0).2 rfl) (isZero_one hz)]

theorem fict_one_of_mem (key : Modulus) {p : Pair} (hp : p ∈ maskPairs key) :
    fictitiousStrain (α := R) key p.1 p.2 = 1 := by
  have : fictitiousMask key p.1 p.2 = true := (List.mem_filter.mp hp).2
  simp [fictitiousStrain, this]

theorem sum3_four_eq_list (g : Fin 3 → Fin 3 → Fin 3 → Fin 3 → R) :
    (sum3 fun i => sum3 fun j => sum3 fun k => sum3 fun l => g i j k l) =
    ((product allPairs9).map fun pq => g pq.1.1 pq.1.2 pq.2.1 pq.2.2).sum := by
  simp only [product, allPairs9, sum_map_pairs, ← sum3_eq_map]

end field

section energies
variable {R : Type} [Field R]

theorem strainEnergy_eq_sum (isZero : R → Bool) (e : Mat3 R) (r : Modulus → R) (target : Option Modulus) :
    strainEnergy isZero e r target =
      ((energyPairs isZero e target).map fun pq => r (keyOfPairs pq) * e pq.1.1 pq.1.2 * e pq.2.1 pq.2.2).sum / 2 := by
  unfold strainEnergy
  rw [foldl_add_eq, sum_map_div, Nat.cast_zero, zero_add, Nat.cast_ofNat]

theorem strainEnergy_orig (isZero : R → Bool) (hz : ∀ x, isZero x = true ↔ x = 0) (key : Modulus) (c : Modulus → R) :
    strainEnergy isZero (fictitiousStrain key) c (some key) =
      ((origPairs key).map fun pq => c (keyOfPairs pq)).sum / 2 := by
  rw [strainEnergy_eq_sum, energyPairs_fict isZero ((hz 0).2 rfl) (isZero_one hz)]
  congr 1
  apply congrArg
  apply List.map_congr_left
  intro pq hpq
  have hm := (mem_product.mp (List.mem_filter.mp hpq).1)
  rw [fict_one_of_mem key hm.1, fict_one_of_mem key hm.2]
  ring

/-- the full energy `Σ C_ijkl e_ij e_kl` of the fictitious strain = requested part + multiplicity × target -/
theorem full_energy_fict (key : Modulus) (hk : key ∈ shearKeys) (c : Modulus → R) :
    (sum3 fun i => sum3 fun j => sum3 fun k => sum3 fun l =>
        tensorOf c i j k l * fictitiousStrain key i j * fictitiousStrain key k l) =
      ((origPairs key).map fun pq => c (keyOfPairs pq)).sum + (key.multiplicity : R) * c key := by
  rw [sum3_four_eq_list]
  rw [← sum_filter_of_zero _ (fun pq => fictitiousMask key pq.1.1 pq.1.2 && fictitiousMask key pq.2.1 pq.2.2)
    (product allPairs9) (by
      intro pq _ hpq
      unfold fictitiousStrain
      cases h1 : fictitiousMask key pq.1.1 pq.1.2 <;> cases h2 : fictitiousMask key pq.2.1 pq.2.2 <;> simp [h1, h2] at hpq ⊢),
    product_mask key]
  have hcongr : ((product (maskPairs key)).map fun pq : Pair × Pair =>
      tensorOf c pq.1.1 pq.1.2 pq.2.1 pq.2.2 * fictitiousStrain key pq.1.1 pq.1.2 * fictitiousStrain key pq.2.1 pq.2.2) =
      (product (maskPairs key)).map fun pq => c (keyOfPairs pq) := by
    apply List.map_congr_left
    intro pq hpq
    have hm := mem_product.mp hpq
    rw [fict_one_of_mem key hm.1, fict_one_of_mem key hm.2, mul_one, mul_one]
    rfl
  rw [hcongr, sum_filter_split (fun pq => c (keyOfPairs pq)) (fun pq => decide (some (keyOfPairs pq) = some key))]
  have hconst := sum_filter_const (fun pq : Pair × Pair => c (keyOfPairs pq))
    (fun pq => decide (some (keyOfPairs pq) = some key)) (c key) (product (maskPairs key))
    (by intro x _ hx; simp at hx; rw [hx])
  rw [hconst]
  have hlen := targetPairs_length key hk
  unfold targetPairs at hlen
  rw [hlen]
  rfl

theorem rotatedLookup_diag (T : Mat3 R) (c : Modulus → R) (a b : Fin 3) :
    rotatedLookup T c (key4 a a b b) = rotate T (tensorOf c) a a b b := by
  unfold rotatedLookup
  rcases key4_diag_idx a b with ⟨h1, h2, h3, h4⟩ | ⟨h1, h2, h3, h4⟩
  · rw [h1, h2, h3, h4]
  · rw [h1, h2, h3, h4]
    exact rotate_major T (tensorOf c) (fun i j k l => by unfold tensorOf; rw [key4_major]) b b a a

/-- without a target the loop computes half the full quadratic form `Σ g(c_ijkl) e_ij e_kl`: the cells it leaves out are zero -/
theorem strainEnergy_full (isZero : R → Bool) (hz : ∀ x, isZero x = true ↔ x = 0) (e : Mat3 R) (g : Modulus → R) :
    strainEnergy isZero e g none =
      (sum3 fun i => sum3 fun j => sum3 fun k => sum3 fun l => g (key4 i j k l) * e i j * e k l) / 2 := by
  rw [strainEnergy_eq_sum, energyPairs, nzPairs, product_filter, sum3_four_eq_list]
  simp only [reduceCtorEq, decide_false, Bool.not_false, List.filter_true]
  rw [sum_filter_of_zero]
  · rfl
  · intro pq _ h
    cases ha : isZero (e pq.1.1 pq.1.2)
    · have hb : isZero (e pq.2.1 pq.2.2) = true := by simpa [ha] using h
      rw [(hz _).1 hb, mul_zero]
    · rw [(hz _).1 ha, mul_zero, zero_mul]

theorem sum3_diag (lam : Vec3 R) (G : Fin 3 → Fin 3 → Fin 3 → Fin 3 → R) :
    (sum3 fun i => sum3 fun j => sum3 fun k => sum3 fun l => G i j k l * diagMat lam i j * diagMat lam k l) =
      sum3 fun a => sum3 fun b => G a a b b * lam a * lam b := by
  simp only [sum3_eq, diagMat, Nat.cast_zero, mul_ite, ite_mul, mul_zero, zero_mul, Finset.sum_ite_irrel,
    Finset.sum_const_zero, Finset.sum_ite_eq, Finset.mem_univ, if_true]

theorem strainEnergy_diag (isZero : R → Bool) (hz : ∀ x, isZero x = true ↔ x = 0) (lam : Vec3 R) (g : Modulus → R) :
    strainEnergy isZero (diagMat lam) g none =
      (sum3 fun a => sum3 fun b => g (key4 a a b b) * lam a * lam b) / 2 := by
  rw [strainEnergy_full isZero hz, sum3_diag lam fun i j k l => g (key4 i j k l)]

theorem strainEnergy_rot (isZero : R → Bool) (hz : ∀ x, isZero x = true ↔ x = 0)
    (T : Mat3 R) (lam : Vec3 R) (c : Modulus → R) :
    strainEnergy isZero (diagMat lam) (rotatedLookup T c) none =
      (sum3 fun a => sum3 fun b => rotate T (tensorOf c) a a b b * lam a * lam b) / 2 := by
  rw [strainEnergy_diag isZero hz]
  simp only [rotatedLookup_diag]

end energies

section solver
variable {R : Type} [Field R]

theorem strainEnergy_congr (isZero : R → Bool) (e : Mat3 R) (target : Option Modulus) (r r' : Modulus → R)
    (h : ∀ k ∈ energyKeys isZero e target, r k = r' k) :
    strainEnergy isZero e r target = strainEnergy isZero e r' target := by
  rw [strainEnergy_eq_sum, strainEnergy_eq_sum]
  congr 2
  apply List.map_congr_left
  intro pq hpq
  rw [h (keyOfPairs pq) (List.mem_map.mpr ⟨pq, hpq, rfl⟩)]

theorem shearValue_congr (isZero : R → Bool) (key : Modulus) (lam : Vec3 R) (r r' g g' : Modulus → R)
    (h1 : ∀ k ∈ modulusKeys isZero key, r k = r' k) (h2 : ∀ k ∈ modulusKeysRotated isZero lam, g k = g' k) :
    shearValue isZero key lam r g = shearValue isZero key lam r' g' := by
  unfold shearValue
  rw [strainEnergy_congr isZero (diagMat lam) none g g' h2,
    strainEnergy_congr isZero (fictitiousStrain key) (some key) r r' h1]

theorem target_entries_one (key : Modulus) :
    fictitiousStrain (α := R) key (idx key.i.i) (idx key.i.j) = 1 ∧
    fictitiousStrain (α := R) key (idx key.j.i) (idx key.j.j) = 1 := by
  simp [fictitiousStrain, fictitiousMask]

theorem shearValue_unfold (isZero : R → Bool) (hz : ∀ x, isZero x = true ↔ x = 0) (k : Modulus) (lam : Vec3 R)
    (f g : Modulus → R) :
    shearValue isZero k lam f g =
      2 * (strainEnergy isZero (diagMat lam) g none - (((origPairs k).map keyOfPairs).map f).sum / 2) / (1 * 1) /
        (k.multiplicity : R) := by
  unfold shearValue targetModulus
  rw [strainEnergy_orig isZero hz, (target_entries_one k).1, (target_entries_one k).2, List.map_map]
  simp only [Nat.cast_ofNat]
  rfl

/-- the core identity behind `c03_exact` -/
theorem shearValue_exact [CharZero R] (isZero : R → Bool) (hz : ∀ x, isZero x = true ↔ x = 0)
    (key : Modulus) (hk : key ∈ shearKeys) (c : Modulus → R) (T : Mat3 R) (lam : Vec3 R)
    (h : Contract T lam (fictitiousStrain key)) :
    shearValue isZero key lam c (rotatedLookup T c) = c key := by
  rw [shearValue_unfold isZero hz, strainEnergy_rot isZero hz, ← energy_invariant_model h (tensorOf c),
    full_energy_fict key hk c, List.map_map, Function.comp_def]
  have hm : ((key.multiplicity : Nat) : R) ≠ 0 := by
    rcases shearKeys_mult key hk with h4 | h8
    · rw [h4]; norm_num
    · rw [h8]; norm_num
  field_simp
  ring

end solver

end Cij.Shear
