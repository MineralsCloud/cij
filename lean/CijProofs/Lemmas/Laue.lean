/-
  The notions of C08 over ℝ (`rot`, `relationsHold`, `invariant`, 3×3 products, determinant, axis) and the lemmas that
  lift the kernel-checked facts over ℤ[√3] to them.

  * `φ : ℤ[√3] → ℝ`, `(a, b) ↦ a + b√3`, respects `+`, `*`, numerals;
  * `comp (rotate G (tensorOf c)) a = Σ_b (Σ_{x ∈ fiber b} coef G (std a) x) · c_b` for every real matrix `G`
    (linearity of `rotate` in the tensor, regrouped by canonical key);
  * hence for the doubled generator `2R` of the model: `= Σ_b φ(actZ g a b) · c_b`, and for the rotation
    `R = (2R)/2` itself:  `comp (rotate R (tensorOf c)) a − c_a = (Σ_b φ(defectZ g a b) c_b) / 16`;
  * a tensor with the minor/major symmetries is determined by its 21 canonical components, and `rotate`
    preserves these symmetries — so invariance of the full tensor is invariance of the 21 components;
  * `combCheck … = true` (kernel-checked in LaueSysCerts.lean) transports "annihilates c" from the source rows to
    the target rows;
  * `rotate` is homogeneous of degree 4 in the matrix (`rotate_smul`), and identities among the generator matrices
    are checked over ℤ[√3] and lifted (`realHalf`).
-/
import Mathlib.Analysis.Real.Sqrt
import Mathlib.Algebra.BigOperators.Fin
import Mathlib.Tactic.Ring
import Mathlib.Tactic.FinCases
import Mathlib.Tactic.LinearCombination
import CijProofs.Lemmas.LaueCerts

namespace Cij.Laue
open Finset

noncomputable def φ (z : ZS) : ℝ := (z.re : ℝ) + (z.im : ℝ) * Real.sqrt 3

@[simp] theorem ZS.add_re (a b : ZS) : (a + b).re = a.re + b.re := rfl
@[simp] theorem ZS.add_im (a b : ZS) : (a + b).im = a.im + b.im := rfl
@[simp] theorem ZS.sub_re (a b : ZS) : (a - b).re = a.re - b.re := rfl
@[simp] theorem ZS.sub_im (a b : ZS) : (a - b).im = a.im - b.im := rfl
@[simp] theorem ZS.neg_re (a : ZS) : (-a).re = -a.re := rfl
@[simp] theorem ZS.neg_im (a : ZS) : (-a).im = -a.im := rfl
@[simp] theorem ZS.mul_re (a b : ZS) : (a * b).re = a.re * b.re + 3 * (a.im * b.im) := rfl
@[simp] theorem ZS.mul_im (a b : ZS) : (a * b).im = a.re * b.im + a.im * b.re := rfl
@[simp] theorem ZS.ofNat_re (n : Nat) : (OfNat.ofNat n : ZS).re = (n : Int) := rfl
@[simp] theorem ZS.ofNat_im (n : Nat) : (OfNat.ofNat n : ZS).im = 0 := rfl
@[simp] theorem ZS.ofInt_re (n : Int) : (ZS.ofInt n).re = n := rfl
@[simp] theorem ZS.ofInt_im (n : Int) : (ZS.ofInt n).im = 0 := rfl

theorem φ_add (a b : ZS) : φ (a + b) = φ a + φ b := by simp only [φ, ZS.add_re, ZS.add_im]; push_cast; ring
theorem φ_sub (a b : ZS) : φ (a - b) = φ a - φ b := by simp only [φ, ZS.sub_re, ZS.sub_im]; push_cast; ring
theorem φ_neg (a : ZS) : φ (-a) = -φ a := by simp only [φ, ZS.neg_re, ZS.neg_im]; push_cast; ring
theorem φ_mul (a b : ZS) : φ (a * b) = φ a * φ b := by
  simp only [φ, ZS.mul_re, ZS.mul_im]; push_cast
  linear_combination (-(a.im : ℝ) * (b.im : ℝ)) * Real.mul_self_sqrt (show (0 : ℝ) ≤ 3 by norm_num)
theorem φ_ofNat (n : Nat) : φ (OfNat.ofNat n : ZS) = (n : ℝ) := by
  show (((n : Int)) : ℝ) + ((0 : Int) : ℝ) * Real.sqrt 3 = n
  simp
theorem φ_zero : φ (0 : ZS) = 0 := by simpa using φ_ofNat 0
theorem φ_one : φ (1 : ZS) = 1 := by simpa using φ_ofNat 1
theorem φ_two : φ (2 : ZS) = 2 := by simpa using φ_ofNat 2
theorem φ_sixteen : φ (16 : ZS) = 16 := by simpa using φ_ofNat 16
theorem φ_ofInt (n : Int) : φ (ZS.ofInt n) = (n : ℝ) := by simp [φ]
theorem φ_sqrt3 : φ ZS.sqrt3 = Real.sqrt 3 := by simp [φ, ZS.sqrt3]

def app {α : Type} (T : Tensor4 α) (x : Idx4) : α := T x.1 x.2.1 x.2.2.1 x.2.2.2

theorem comp_eq_app {α : Type} (T : Tensor4 α) (b : Fin 21) : comp T b = app T (stdOfKey b) := rfl

theorem sum4_eq_sumList (f : Fin 3 → Fin 3 → Fin 3 → Fin 3 → ℝ) :
    sum4 f = sumList (tuples.map fun x => f x.1 x.2.1 x.2.2.1 x.2.2.2) := by
  have h3 : ∀ g : Fin 3 → ℝ, sum3 g = ([0, 1, 2].map g).sum := fun g => by simp [sum3, add_assoc]
  have hs : ∀ l : List ℝ, sumList l = l.sum := fun _ => rfl
  simp only [sum4, h3, hs, tuples, List.flatMap_def, List.map_flatten, List.sum_flatten, List.map_map,
    Function.comp_def]

theorem regroup (key : Idx4 → Fin 21) (f : Idx4 → ℝ) (c : Fin 21 → ℝ) (l : List Idx4) :
    sumList (l.map fun x => f x * c (key x)) = ∑ b : Fin 21, sumList ((l.filter fun x => key x = b).map f) * c b := by
  induction l with
  | nil => simp [sumList]
  | cons x l ih =>
    have h1 : ∀ b, sumList (((x :: l).filter fun y => key y = b).map f)
        = (if key x = b then f x else 0) + sumList ((l.filter fun y => key y = b).map f) := by
      intro b
      by_cases h : key x = b <;> simp [List.filter, h, sumList]
    simp only [h1, add_mul, Finset.sum_add_distrib, ite_mul, zero_mul, Finset.sum_ite_eq, Finset.mem_univ, if_true]
    simp only [List.map, sumList, List.foldr] at ih ⊢
    rw [← ih]

theorem app_rotate_tensorOf (G : Mat3 ℝ) (c : Fin 21 → ℝ) (t : Idx4) :
    app (rotate G (tensorOf c)) t = ∑ b : Fin 21, sumList ((fiber b).map (coef G t)) * c b := by
  have := regroup keyOf (coef G t) c tuples
  simp only [fiber]
  rw [← this]
  simp only [app, rotate]
  rw [sum4_eq_sumList]
  rfl

theorem sum3_eq (f : Fin 3 → ℝ) : sum3 f = ∑ i, f i := (Fin.sum_univ_three f).symm

theorem rotate_as_sum (A : Mat3 ℝ) (T : Tensor4 ℝ) (i j k l : Fin 3) :
    rotate A T i j k l = ∑ x : Idx4, coef A (i, j, k, l) x * app T x := by
  simp only [rotate, sum4, sum3_eq, Fintype.sum_prod_type, coef, app]

theorem coef_smul (s : ℝ) (A : Mat3 ℝ) (t x : Idx4) : coef (fun i j => s * A i j) t x = s ^ 4 * coef A t x := by
  simp only [coef]; ring

theorem rotate_smul (s : ℝ) (A : Mat3 ℝ) (T : Tensor4 ℝ) (i j k l : Fin 3) :
    rotate (fun a b => s * A a b) T i j k l = s ^ 4 * rotate A T i j k l := by
  simp only [rotate_as_sum, coef_smul, mul_assoc, Finset.mul_sum]

/-- real doubled generator -/
noncomputable def G2 (g : Gen) : Mat3 ℝ := gen2 (Real.sqrt 3) g

theorem apply_matOfRows {α β : Type} (f : α → β) (r0 r1 r2 : α × α × α) (i j : Fin 3) :
    f (matOfRows r0 r1 r2 i j) =
      matOfRows (f r0.1, f r0.2.1, f r0.2.2) (f r1.1, f r1.2.1, f r1.2.2) (f r2.1, f r2.2.1, f r2.2.2) i j := by
  fin_cases i <;> fin_cases j <;> rfl

theorem φ_gen2 (g : Gen) (i j : Fin 3) : φ (gen2 ZS.sqrt3 g i j) = G2 g i j := by
  cases g <;> simp only [G2, gen2, apply_matOfRows φ, φ_zero, φ_one, φ_two, φ_neg, φ_sqrt3]

theorem φ_coef (g : Gen) (t x : Idx4) : φ (coef (gen2 ZS.sqrt3 g) t x) = coef (G2 g) t x := by
  simp only [coef, φ_mul, φ_gen2]

theorem φ_sumList_map (l : List Idx4) (f : Idx4 → ZS) : φ (sumList (l.map f)) = sumList (l.map fun x => φ (f x)) := by
  induction l with
  | nil => simp [sumList, φ_zero]
  | cons x l ih => simp only [sumList, List.map, List.foldr] at ih ⊢; rw [φ_add, ih]

theorem φ_actZ (g : Gen) (a b : Fin 21) : φ (actZ g a b) = sumList ((fiber b).map (coef (G2 g) (stdOfKey a))) := by
  simp only [actZ, φ_sumList_map, φ_coef]

theorem comp_rotate_G2 (g : Gen) (c : Fin 21 → ℝ) (a : Fin 21) :
    comp (rotate (G2 g) (tensorOf c)) a = ∑ b : Fin 21, φ (actZ g a b) * c b := by
  rw [comp_eq_app, app_rotate_tensorOf]
  simp only [φ_actZ]

/-- the rotation itself: `R = (2R)/2` -/
noncomputable def rot (g : Gen) : Mat3 ℝ := fun i j => G2 g i j / 2

theorem rotate_rot (g : Gen) (T : Tensor4 ℝ) (i j k l : Fin 3) :
    rotate (rot g) T i j k l = rotate (G2 g) T i j k l / 16 := by
  show rotate (fun a b => G2 g a b / 2) T i j k l = _
  simp only [div_eq_inv_mul, rotate_smul]; norm_num

theorem comp_rotate_rot (g : Gen) (c : Fin 21 → ℝ) (a : Fin 21) :
    comp (rotate (rot g) (tensorOf c)) a - c a = (∑ b : Fin 21, φ (defectZ g a b) * c b) / 16 := by
  have h := comp_rotate_G2 g c a
  simp only [comp_eq_app, app] at h ⊢
  rw [rotate_rot, h]
  simp only [defectZ, φ_sub, sub_mul, Finset.sum_sub_distrib]
  have : ∑ b : Fin 21, φ (if a = b then (16 : ZS) else 0) * c b = 16 * c a := by
    simp [apply_ite φ, φ_sixteen, φ_zero, ite_mul]
  rw [this]; ring

structure Symm (T : Tensor4 ℝ) : Prop where
  m1 : ∀ i j k l, T i j k l = T j i k l
  m2 : ∀ i j k l, T i j k l = T i j l k
  mj : ∀ i j k l, T i j k l = T k l i j

theorem fromStandard_comm (a b : Int) : Strain.fromStandard a b = Strain.fromStandard b a := by
  have e : (if a ≤ b then (a, b) else (b, a)) = if b ≤ a then (b, a) else (a, b) := by
    split_ifs with h1 h2 h2
    · rw [le_antisymm h1 h2]
    · rfl
    · rfl
    · omega
  unfold Strain.fromStandard
  rw [e]

/-- the two strains are sorted by Voigt index; on a tie either order gives the same Voigt pair -/
theorem voigt_major (i j k l : Int) :
    (Modulus.fromStandard i j k l).bind Modulus.voigt = (Modulus.fromStandard k l i j).bind Modulus.voigt := by
  unfold Modulus.fromStandard
  cases Strain.fromStandard i j <;> cases Strain.fromStandard k l <;> try rfl
  rename_i a b
  simp only [Modulus.sortByVoigt, bind, Option.bind_some, pure]
  cases ha : a.voigt <;> cases hb : b.voigt <;> try rfl
  rename_i va vb
  simp only [Option.bind_some]
  rcases lt_trichotomy va vb with h | rfl | h
  · simp [h, not_lt.mpr h.le]
  · simp [Modulus.voigt, ha, hb]
  · simp [h, not_lt.mpr h.le]

theorem keyIndex_symm (i j k l : Fin 3) :
    keyIndex i j k l = keyIndex j i k l ∧ keyIndex i j k l = keyIndex i j l k ∧ keyIndex i j k l = keyIndex k l i j := by
  simp only [keyIndex, keyIndexNat]
  refine ⟨?_, ?_, ?_⟩
  · simp only [Modulus.fromStandard, fromStandard_comm (i.val + 1 : Int)]
  · simp only [Modulus.fromStandard, fromStandard_comm (k.val + 1 : Int)]
  · rw [voigt_major]

theorem symm_tensorOf (c : Fin 21 → ℝ) : Symm (tensorOf c) where
  m1 i j k l := congrArg c (keyIndex_symm i j k l).1
  m2 i j k l := congrArg c (keyIndex_symm i j k l).2.1
  mj i j k l := congrArg c (keyIndex_symm i j k l).2.2

theorem rotate_reindex (A : Mat3 ℝ) (T : Tensor4 ℝ) {σ : Idx4 → Idx4} (hσ : Function.Involutive σ)
    (hc : ∀ t x, coef A t (σ x) = coef A (σ t) x) (hT : ∀ x, app T (σ x) = app T x) (t : Idx4) :
    app (rotate A T) t = app (rotate A T) (σ t) := by
  have e : ∀ t : Idx4, app (rotate A T) t = ∑ x : Idx4, coef A t x * app T x :=
    fun t => rotate_as_sum A T t.1 t.2.1 t.2.2.1 t.2.2.2
  rw [e, e, ← Equiv.sum_comp (hσ.toPerm σ)]
  exact sum_congr rfl fun x _ => by rw [Function.Involutive.coe_toPerm, hc, hT]

theorem symm_rotate (G : Mat3 ℝ) {T : Tensor4 ℝ} (h : Symm T) : Symm (rotate G T) where
  m1 i j k l := rotate_reindex G T (σ := fun x => (x.2.1, x.1, x.2.2.1, x.2.2.2)) (fun _ => rfl)
    (fun t x => by simp only [coef]; ring) (fun x => (h.m1 ..).symm) (i, j, k, l)
  m2 i j k l := rotate_reindex G T (σ := fun x => (x.1, x.2.1, x.2.2.2, x.2.2.1)) (fun _ => rfl)
    (fun t x => by simp only [coef]; ring) (fun x => (h.m2 ..).symm) (i, j, k, l)
  mj i j k l := rotate_reindex G T (σ := fun x => (x.2.2.1, x.2.2.2, x.1, x.2.1)) (fun _ => rfl)
    (fun t x => by simp only [coef]; ring) (fun x => (h.mj ..).symm) (i, j, k, l)

theorem mem_tuples (x : Idx4) : x ∈ tuples := by
  obtain ⟨p, q, r, s⟩ := x
  have h3 : ∀ i : Fin 3, i ∈ [0, 1, 2] := by decide
  simp only [tuples, List.mem_flatMap, List.mem_map]
  exact ⟨p, h3 p, q, h3 q, r, h3 r, s, h3 s, rfl⟩

/-- the canonical representative of a tuple is one of its 8 symmetric images -/
theorem canon_rep : ∀ x ∈ tuples,
    let y := stdOfKey (keyOf x)
    y = x ∨ y = (x.2.1, x.1, x.2.2.1, x.2.2.2) ∨ y = (x.1, x.2.1, x.2.2.2, x.2.2.1) ∨ y = (x.2.1, x.1, x.2.2.2, x.2.2.1) ∨
    y = (x.2.2.1, x.2.2.2, x.1, x.2.1) ∨ y = (x.2.2.2, x.2.2.1, x.1, x.2.1) ∨ y = (x.2.2.1, x.2.2.2, x.2.1, x.1) ∨
    y = (x.2.2.2, x.2.2.1, x.2.1, x.1) := by
  decide +kernel

theorem key_std : ∀ a : Fin 21, keyOf (stdOfKey a) = a := by decide +kernel

/-- a symmetric tensor is determined by its 21 canonical components -/
theorem app_eq_comp {T : Tensor4 ℝ} (h : Symm T) (i j k l : Fin 3) : T i j k l = comp T (keyIndex i j k l) := by
  have hc := canon_rep (i, j, k, l) (mem_tuples _)
  simp only at hc
  rw [comp_eq_app]
  change T i j k l = app T (stdOfKey (keyOf (i, j, k, l)))
  rcases hc with hc | hc | hc | hc | hc | hc | hc | hc <;> rw [hc] <;> simp only [app]
  · exact h.m1 i j k l
  · exact h.m2 i j k l
  · rw [h.m1 i j k l]; exact h.m2 j i k l
  · exact h.mj i j k l
  · rw [h.mj i j k l]; exact h.m1 k l i j
  · rw [h.mj i j k l]; exact h.m2 k l i j
  · rw [h.mj i j k l, h.m1 k l i j]; exact h.m2 l k i j

theorem comp_tensorOf (c : Fin 21 → ℝ) (a : Fin 21) : comp (tensorOf c) a = c a := by
  rw [comp_eq_app]; exact congrArg c (key_std a)

/-- invariance of the full 3⁴ tensor ⇔ invariance of its 21 canonical components -/
theorem invariant_iff_comp (R : Mat3 ℝ) (c : Fin 21 → ℝ) :
    rotate R (tensorOf c) = tensorOf c ↔ ∀ a : Fin 21, comp (rotate R (tensorOf c)) a = c a := by
  constructor
  · intro h a; rw [h, comp_tensorOf]
  · intro h
    funext i j k l
    rw [app_eq_comp (symm_rotate R (symm_tensorOf c)) i j k l, h]
    rfl

/-- the row `v` (over ℤ[√3]) annihilates the component vector `c` -/
def ann (v : Nat → ZS) (c : Fin 21 → ℝ) : Prop := ∑ j : Fin 21, φ (v j.val) * c j = 0

theorem comb_lift {d : Int} {T S : Nat → Nat → ZS} {nT : Nat} {L : List (List (Nat × Int × Int))}
    (h : combCheck d T nT S L = true) (c : Fin 21 → ℝ) (hS : ∀ s, ann (S s) c) :
    ∀ t < nT, ann (T t) c := by
  simp only [combCheck, Bool.and_eq_true, decide_eq_true_eq, List.all_eq_true, List.mem_range] at h
  obtain ⟨hd, h⟩ := h
  intro t ht
  have key : ∀ l : List (Nat × Int × Int),
      ∑ j : Fin 21, φ (l.foldr (fun e acc => zsOf e * S e.1 j.val + acc) 0) * c j = 0 := by
    intro l
    induction l with
    | nil => simp [φ_zero]
    | cons e l ih =>
      simp only [List.foldr, φ_add, φ_mul, add_mul, Finset.sum_add_distrib, ih, add_zero]
      have := hS e.1
      unfold ann at this
      simp only [mul_assoc, ← Finset.mul_sum, this, mul_zero]
  have h2 : ∑ j : Fin 21, φ (ZS.ofInt d * T t j.val) * c j = 0 := by
    rw [← key (L.getD t [])]
    exact sum_congr rfl fun j _ => by rw [h t ht j.val j.isLt]
  simp only [φ_mul, φ_ofInt, mul_assoc, ← Finset.mul_sum] at h2
  have hd' : (d : ℝ) ≠ 0 := by exact_mod_cast hd
  exact (mul_eq_zero.mp h2).resolve_left hd'

/-- all relation rows hold for the component vector `c` -/
def relationsHold (rows : List (List Int × Int)) (c : Fin 21 → ℝ) : Prop :=
  ∀ r ∈ rows, ∑ j : Fin 21, ((r.1.getD j.val 0 : Int) : ℝ) * c j = ((r.2 : Int) : ℝ)

/-- the full tensor is invariant under every generator of the Laue class of `name` -/
def invariant (name : String) (c : Fin 21 → ℝ) : Prop :=
  ∀ g ∈ laueGens name, rotate (rot g) (tensorOf c) = tensorOf c

theorem relationsHold_iff {rows : List (List Int × Int)} (hw : wellFormed rows = true) (c : Fin 21 → ℝ) :
    relationsHold rows c ↔ ∀ i < rows.length, ann (Kmat rows i) c := by
  simp only [wellFormed, List.all_eq_true, Bool.and_eq_true, decide_eq_true_eq] at hw
  simp only [relationsHold, ann, Kmat, φ_ofInt]
  constructor
  · intro h i hi
    have hm : rows[i] ∈ rows := List.getElem_mem hi
    have := h _ hm
    rw [(hw _ hm).2] at this
    simpa [List.getElem?_eq_getElem hi] using this
  · intro h r hr
    obtain ⟨i, hi, rfl⟩ := List.getElem_of_mem hr
    have := h i hi
    rw [(hw _ hr).2]
    simpa [List.getElem?_eq_getElem hi] using this

/-- for integer components the relations are a finite check -/
theorem relationsHold_intCast (rows : List (List Int × Int)) (v : Fin 21 → Int) :
    relationsHold rows (fun j => ((v j : Int) : ℝ)) ↔ ∀ r ∈ rows, ∑ j : Fin 21, r.1.getD j.val 0 * v j = r.2 := by
  refine forall₂_congr fun r _ => ?_
  rw [← Int.cast_inj (α := ℝ)]
  push_cast
  rfl

theorem invariant_gen_iff (g : Gen) (c : Fin 21 → ℝ) :
    rotate (rot g) (tensorOf c) = tensorOf c ↔ ∀ a : Fin 21, ann (fun j => look (Certs.defectLit g) a.val j) c := by
  rw [invariant_iff_comp]
  refine forall_congr' fun a => ?_
  have h := comp_rotate_rot g c a
  unfold ann
  simp only [← defect_table g a]
  constructor
  · intro h1
    rw [h1, sub_self] at h
    have := h.symm
    rwa [div_eq_zero_iff, or_iff_left (by norm_num)] at this
  · intro h1
    rw [h1, zero_div] at h
    linarith

theorem Nstack_row {gens : List Gen} {gi : Nat} (h : gi < gens.length) (a : Fin 21) :
    Nstack gens (21 * gi + a.val) = fun j => look (Certs.defectLit gens[gi]) a.val j := by
  have e1 : (21 * gi + a.val) / 21 = gi := by omega
  have e2 : (21 * gi + a.val) % 21 = a.val := by omega
  funext j
  simp [Nstack, e1, e2, List.getElem?_eq_getElem h]

theorem invariant_iff (gens : List Gen) (c : Fin 21 → ℝ) :
    (∀ g ∈ gens, rotate (rot g) (tensorOf c) = tensorOf c) ↔ ∀ k < 21 * gens.length, ann (Nstack gens k) c := by
  simp only [invariant_gen_iff]
  constructor
  · intro h k hk
    have hq : k / 21 < gens.length := by omega
    have := h _ (List.getElem_mem hq) ⟨k % 21, Nat.mod_lt _ (by norm_num)⟩
    rwa [← Nstack_row hq, Nat.div_add_mod] at this
  · intro h g hg a
    obtain ⟨gi, hgi, rfl⟩ := List.getElem_of_mem hg
    rw [← Nstack_row hgi]
    exact h _ (by omega)

/-- a kernel-checked certificate gives: relations ⇔ invariance -/
theorem iff_of_cert {name : String} {rows : List (List Int × Int)} (h : certOK name rows = true) (c : Fin 21 → ℝ) :
    relationsHold rows c ↔ invariant name c := by
  simp only [certOK, Bool.and_eq_true] at h
  obtain ⟨⟨hw, h1⟩, h2⟩ := h
  rw [relationsHold_iff hw, invariant, invariant_iff]
  constructor
  · intro hK
    refine comb_lift h2 c fun s => ?_
    by_cases hs : s < rows.length
    · exact hK s hs
    · simp [ann, Kmat, List.getElem?_eq_none (Nat.le_of_not_lt hs), φ_ofInt]
  · intro hN
    refine comb_lift h1 c fun s => ?_
    by_cases hs : s < 21 * (laueGens name).length
    · exact hN s hs
    · have hq : (laueGens name).length ≤ s / 21 := by omega
      simp [ann, Nstack, List.getElem?_eq_none hq, φ_zero]

def mul3 (A B : Mat3 ℝ) : Mat3 ℝ := fun i k => sum3 fun j => A i j * B j k
def one3 : Mat3 ℝ := fun i j => if i = j then 1 else 0
def transpose3 (A : Mat3 ℝ) : Mat3 ℝ := fun i j => A j i
def det3 (A : Mat3 ℝ) : ℝ :=
  A 0 0 * (A 1 1 * A 2 2 - A 1 2 * A 2 1) - A 0 1 * (A 1 0 * A 2 2 - A 1 2 * A 2 0) + A 0 2 * (A 1 0 * A 2 1 - A 1 1 * A 2 0)
def pow3 : Nat → Mat3 ℝ → Mat3 ℝ
  | 0, _ => one3
  | n + 1, A => mul3 A (pow3 n A)
def mulVec3 (A : Mat3 ℝ) (v : Fin 3 → ℝ) : Fin 3 → ℝ := fun i => sum3 fun j => A i j * v j

/-- order of the rotation -/
def order : Gen → Nat
  | .twoX | .twoY | .twoZ => 2 | .fourZ => 4 | .threeZ => 3 | .sixZ => 6 | .three111 => 3
/-- a vector along the rotation axis -/
def axis : Gen → Fin 3 → ℝ
  | .twoX => ![1, 0, 0] | .twoY => ![0, 1, 0] | .three111 => ![1, 1, 1]
  | .twoZ | .fourZ | .threeZ | .sixZ => ![0, 0, 1]

/-- a matrix over ℤ[√3], halved and read in ℝ; identities among such matrices are checked over ℤ[√3] -/
noncomputable def realHalf (M : Mat3 ZS) : Mat3 ℝ := fun i j => φ (M i j) / 2

theorem rot_eq_realHalf (g : Gen) : rot g = realHalf (gen2 ZS.sqrt3 g) := by
  funext i j; rw [realHalf, φ_gen2]; rfl

theorem one3_eq_realHalf : one3 = realHalf fun i j => if i = j then 2 else 0 := by
  funext i j; simp only [one3, realHalf, apply_ite φ, φ_two, φ_zero]; split_ifs <;> norm_num

theorem transpose3_realHalf (M : Mat3 ZS) : transpose3 (realHalf M) = realHalf fun i j => M j i := rfl

theorem mul3_realHalf {A B C : Mat3 ZS} (h : ∀ i k, (sum3 fun j => A i j * B j k) = 2 * C i k) :
    mul3 (realHalf A) (realHalf B) = realHalf C := by
  funext i k
  have := congrArg φ (h i k)
  simp only [sum3, φ_add, φ_mul, φ_two] at this
  simp only [mul3, sum3, realHalf]
  linear_combination this / 4

theorem det3_realHalf (M : Mat3 ZS) {d : ZS}
    (h : M 0 0 * (M 1 1 * M 2 2 - M 1 2 * M 2 1) - M 0 1 * (M 1 0 * M 2 2 - M 1 2 * M 2 0)
      + M 0 2 * (M 1 0 * M 2 1 - M 1 1 * M 2 0) = d) : det3 (realHalf M) = φ d / 8 := by
  simp only [← h, det3, realHalf, φ_add, φ_sub, φ_mul]; ring

theorem rotate_one (T : Tensor4 ℝ) : rotate one3 T = T := by
  funext i j k l
  simp [rotate, sum4, sum3_eq, one3, Finset.sum_ite_eq, ite_mul, mul_ite]

theorem rotate_neg (A : Mat3 ℝ) (T : Tensor4 ℝ) : rotate (fun i j => -A i j) T = rotate A T := by
  funext i j k l
  simp only [neg_eq_neg_one_mul (A _ _), rotate_smul]; norm_num

theorem four_sums (f g h k : Fin 3 → ℝ) :
    (∑ a, f a) * (∑ b, g b) * (∑ c, h c) * (∑ d, k d) = ∑ a, ∑ b, ∑ c, ∑ d, f a * g b * h c * k d := by
  simp only [← Finset.mul_sum, ← Finset.sum_mul]

theorem coef_mul (A B : Mat3 ℝ) (t x : Idx4) : coef (mul3 A B) t x = ∑ y : Idx4, coef A t y * coef B y x := by
  simp only [coef, mul3, sum3_eq, Fintype.sum_prod_type]
  rw [four_sums]
  refine sum_congr rfl fun a _ => sum_congr rfl fun b _ => sum_congr rfl fun c _ => sum_congr rfl fun d _ => ?_
  ring

theorem rotate_mul (A B : Mat3 ℝ) (T : Tensor4 ℝ) : rotate (mul3 A B) T = rotate A (rotate B T) := by
  funext i j k l
  rw [rotate_as_sum, rotate_as_sum]
  have : ∀ y : Idx4, app (rotate B T) y = ∑ x : Idx4, coef B y x * app T x := by
    intro y; exact rotate_as_sum B T y.1 y.2.1 y.2.2.1 y.2.2.2
  simp only [this, coef_mul, Finset.sum_mul, Finset.mul_sum]
  rw [Finset.sum_comm]
  refine sum_congr rfl fun y _ => sum_congr rfl fun x _ => ?_
  ring

end Cij.Laue
